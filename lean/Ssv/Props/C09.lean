/-
C09 — Message validation never accepts a message that breaks a gossip rule.

`accept` ⇒ every listed rule, clause by clause, for ALL decoded messages, signer states, receive times; the
per-signer limits as an invariant over ALL histories of validation calls (induction over the history); commutation
of calls for different (validator, role) ids (the per-message-id mutex makes read-check-update atomic per id, so
every interleaving equals a sequential order).

The slot and round windows are proved for 12-second-slot networks and a local clock between genesis and the year 2242.
The slot window of PARTIAL-SIGNATURE messages is enforced by the code on the future side only
(C09_partial_future_slot_refused, C09_partial_accept_cannot_pin_future); on the late side C09_partial_slot_window_full is
refuted (witness: a duty 1000 slots old accepted; known finding `C09/partial-sig-late-slot-unchecked`), which is harmless
to the signer (C09_partial_late_slot_is_harmless_to_the_signer); what is enforced: C09_partial_accept_sound_partial.
The topic rule itself is C18.
Cryptography (RSA operator signature, BLS inside justifications) and SSZ decoding are abstract Booleans computed by
the harness from the real functions.  Helper lemmas: Ssv/Proofs/Validation*.lean.
-/
import Ssv.Proofs.ValidationClauses

namespace Ssv.Validation
open Ssv

/-! ## ties to the regenerated facts -/

/-- the order of the rule checks (a removed or reordered check changes these lists) -/
theorem C09_tie_guard_order :
    Gen.calls_val_validateSSVMessage =
      ["Equal", "validRole", "DeserializeBLSPublicKey", "Get", "IsAttesting", "DecodeSSVMessage", "Lock", "Lock",
       "validateConsensusMessage", "validatePartialSignatureMessage"] ∧
    Gen.calls_val_validateConsensusMessage =
      ["validateSignatureFormat", "validQBFTMsgType", "maxRound", "validateSlotTime", "validConsensusSigners",
       "GetSlotStartTime", "After", "currentEstimatedRound", "HashDataRoot", "validateBeaconDuty", "consensusState",
       "validateSignerBehaviorConsensus", "signatureVerifier", "GetSignerState", "CreateSignerState", "ResetSlot",
       "ResetRound", "hasFullData", "RecordConsensusMessage"] ∧
    Gen.calls_val_validConsensusSigners = ["RoundRobinProposer", "HasQuorum", "IsSorted", "commonSignerValidation"] ∧
    Gen.calls_val_commonSignerValidation = ["ContainsFunc", "containsSignerFunc"] ∧
    Gen.calls_val_validateSignerBehaviorConsensus =
      ["GetSignerState", "validateJustifications", "EstimatedEpochAtSlot", "EstimatedEpochAtSlot", "validateDutyCount",
       "hasFullData", "Equal", "maxMessageCounts", "ValidateConsensusMessage", "validateJustifications"] ∧
    Gen.calls_val_validateJustifications = ["GetPrepareJustifications", "GetRoundChangeJustifications", "IsProposalJustification"] ∧
    Gen.calls_val_validateBeaconDuty = ["EstimatedEpochAtSlot", "ValidatorDuty", "EstimatedSyncCommitteePeriodAtEpoch", "EstimatedEpochAtSlot", "Duty"] :=
  ⟨rfl, rfl, rfl, rfl, rfl, rfl, rfl⟩

theorem C09_tie_guard_order_partial_and_p2p :
    Gen.calls_val_validatePartialSignatureMessage =
      ["validPartialSigMsgType", "partialSignatureTypeMatchesRole", "earlyMessage", "validatePartialMessages", "consensusState",
       "GetSignerState", "validateSignerBehaviorPartial", "validateSignatureFormat", "signatureVerifier",
       "CreateSignerState", "ResetSlot", "RecordPartialSignatureMessage"] ∧
    Gen.calls_val_validateP2PMessage =
      ["EstimatedEpochAtSlot", "DecodeSignedSSVMessage", "verifySignature", "DecodeNetworkMsg", "GetTopicBaseName",
       "ValidatorTopicID", "validateSSVMessage"] ∧
    Gen.calls_val_verifySignature = ["GetOperatorData", "PublicKeyFromString", "Verify"] ∧
    Gen.calls_val_ValidatePubsubMessage = ["validateP2PMessage", "Reject"] :=
  ⟨rfl, rfl, rfl, rfl⟩

/-- the limits and comparison operators of the per-signer counters: limits are all 1 (`maxMessageCounts`), the consensus
    check uses `>=`, the decided limit is the translated kernel N·(f+1) -/
theorem C09_tie_limits :
    Gen.lits_val_maxMessageCounts = ["1", "1", "1", "1", "1", "1"] ∧
    Gen.lits_val_ValidateConsensusMessage[0]? = some ">=" ∧ Gen.lits_val_ValidateConsensusMessage[2]? = some ">=" ∧
    Gen.lits_val_ValidateConsensusMessage[4]? = some "==" ∧ Gen.lits_val_ValidateConsensusMessage[6]? = some ">=" ∧
    Gen.lits_val_ValidateConsensusMessage[8]? = some ">" ∧ Gen.lits_val_ValidateConsensusMessage[10]? = some ">=" ∧
    Gen.lits_val_ValidateConsensusMessage[12]? = some ">=" ∧
    Gen.lits_val_validateDutyCount.take 3 = ["u!", "++", ">="] ∧
    Gen.lits_val_maxRound = ["12", "6", "0", "\"unknown role\""] ∧
    Gen.lits_val_lateMessage = ["+", "1", "+", "32", "0", "+"] ∧
    Gen.lits_val_earlyMessage = [">", "+", "1", "u-"] ∧
    Gen.val_maxDutiesPerEpoch = 2 ∧ Gen.val_allowedRoundsInFuture = 1 ∧ Gen.val_lateSlotAllowance = 2 ∧
    Gen.val_lateMessageMargin = 3000000000 ∧ Gen.val_clockErrorTolerance = 50000000 ∧
    Gen.val_QuickTimeoutThreshold = 8 ∧ Gen.val_QuickTimeout = 2000000000 ∧ Gen.val_SlowTimeout = 120000000000 :=
  ⟨rfl, rfl, rfl, rfl, rfl, rfl, rfl, rfl, rfl, rfl, rfl, rfl, rfl, rfl, rfl, rfl, rfl, rfl, rfl, rfl⟩

/-! ## accept ⇒ rules -/

/-- every accepted message is for a known, non-liquidated validator with beacon metadata that is attesting (or pending
    with a reached activation epoch), on the right network domain, with a valid role and key; it is a consensus or a
    partial-signature message (never an event / DKG / unknown / undecodable one) of admissible size -/
theorem C09_accept_known_active_validator (x : Ctx) (st : State) (i : Input) (h : (validate x st i).2 = .accept) :
    (∃ sh, i.share = some sh ∧ sh.liquidated = false ∧ sh.hasMeta = true ∧ isAttesting sh i.wallEpoch = true) ∧
    i.domainOk = true ∧ validRole i.role = true ∧ i.pkOk = true ∧ i.dataLen ≠ 0 ∧ i.dataLen ≤ Gen.val_maxMessageSize ∧
    ((∃ m, i.body = .consensus m) ∨ (∃ m, i.body = .partialSig m ∧ i.dataLen ≤ Gen.val_maxPartialSignatureMsgSize)) := by
  obtain ⟨hpre, sh, hsh, hb⟩ := accept_cases x st i h
  have hp := preChecks_ok_spec i hpre
  refine ⟨hp.shareOk, hp.domainOk, hp.roleOk, hp.pkOk, hp.nonEmpty, hp.sizeOk, ?_⟩
  rcases hb with ⟨m, hm, _, _⟩ | ⟨m, hm, hl, _⟩
  · exact Or.inl ⟨m, hm⟩
  · exact Or.inr ⟨m, hm, hl⟩

/-- the operator envelope signature: an accepted message was either validated before the fork (no verifier) or its RSA
    signature by a registered operator over exactly the payload verified -/
theorem C09_accept_operator_signature (x : Ctx) (st : State) (i : Input) (h : (validate x st i).2 = .accept) :
    i.envSig = .none ∨ i.envSig = .valid := by
  obtain ⟨_, sh, _, hb⟩ := accept_cases x st i h
  rcases hb with ⟨m, _, _, hok⟩ | ⟨m, _, _, hok⟩ <;> exact (envSigCheck_ok_iff _).mp hok.envOk

/-- pubsub entry point: accepted ⇒ published on the validator's topic, non-empty, within the size limit, decodable,
    and — once signed envelopes are active — carrying a decodable envelope whose signature verified -/
theorem C09_p2p_accept_topic_and_signature (x : Ctx) (st : State) (p : P2PInput) (h : (validateP2P x st p).2 = .accept) :
    p.topicOk = true ∧ p.netDecodeOk = true ∧ p.payloadLen ≠ 0 ∧ p.payloadLen ≤ maxEncodedMsgSize ∧
    (forkActive x.cfg p.inner.now = true → p.signedDecodeOk = true ∧ p.sig = .valid) := by
  unfold validateP2P at h
  simp only at h
  split at h
  · cases (ofChk_accept _).mp h
  · rename_i hok
    rw [firstFail_cons_ok_iff, firstFail_cons_ok_iff, firstFail_cons_ok_iff, firstFail_cons_ok_iff, firstFail_cons_ok_iff] at hok
    obtain ⟨h1, h2, h3, h4, h5, _⟩ := hok
    refine ⟨rejectIf_not_ok.mp h5, rejectIf_not_ok.mp h4, rejectIf_decide_ok.mp h2, Nat.le_of_not_gt (rejectIf_decide_ok.mp h3),
      fun hf => ?_⟩
    have hs := C09_accept_operator_signature x st _ h
    rw [hf] at h1
    simp only [hf, if_true] at hs
    refine ⟨rejectIf_not_ok.mp h1, ?_⟩
    -- of the three results of `verifySignature` only `.valid` becomes an envelope result that `envSigCheck` lets pass
    revert hs
    cases p.sig <;> decide

/-- an accepted consensus message passed every guard of `validateConsensusMessage` -/
theorem C09_accept_consensus_guards (x : Ctx) (st : State) (i : Input) (m : QMsg) (hb : i.body = .consensus m)
    (h : (validate x st i).2 = .accept) : ∃ sh, i.share = some sh ∧ ConsensusOk x st i sh m :=
  accept_consensus_guards h hb

/-- signers: non-empty, STRICTLY increasing (sorted and pairwise distinct), every one a non-zero committee member -/
theorem C09_accept_signers_wellformed (x : Ctx) (st : State) (i : Input) (m : QMsg) (hb : i.body = .consensus m)
    (h : (validate x st i).2 = .accept) :
    ∃ sh, i.share = some sh ∧ m.signers ≠ [] ∧ m.signers.Pairwise (· < ·) ∧ ∀ s ∈ m.signers, s ≠ 0 ∧ s ∈ sh.committee := by
  obtain ⟨sh, hsh, hok⟩ := C09_accept_consensus_guards x st i m hb h
  exact ⟨sh, hsh, validConsensusSigners_spec sh m hok.signersOk⟩

/-- exactly one signer, unless it is a commit signed by at least a quorum and at most the whole committee -/
theorem C09_accept_signer_count (x : Ctx) (st : State) (i : Input) (m : QMsg) (hb : i.body = .consensus m)
    (h : (validate x st i).2 = .accept) :
    ∃ sh, i.share = some sh ∧ (m.signers.length = 1 ∨
      (m.mtype = Gen.val_CommitMsgType ∧ sh.quorum ≤ m.signers.length ∧ m.signers.length ≤ sh.committee.length)) := by
  obtain ⟨sh, hsh, hok⟩ := C09_accept_consensus_guards x st i m hb h
  exact ⟨sh, hsh, (signersShape_spec sh m (validConsensusSigners_shape sh m hok.signersOk)).1⟩

/-- a proposal is signed by the round-robin leader of its (height, round), and by nobody else -/
theorem C09_accept_proposal_from_leader (x : Ctx) (st : State) (i : Input) (m : QMsg) (hb : i.body = .consensus m)
    (hp : m.mtype = Gen.val_ProposalMsgType) (h : (validate x st i).2 = .accept) :
    ∃ sh leader, i.share = some sh ∧ m.signers = [leader] ∧ roundRobinProposer sh.committee m.height m.round = .ok leader := by
  obtain ⟨sh, hsh, hok⟩ := C09_accept_consensus_guards x st i m hb h
  obtain ⟨hcnt, hlead⟩ := signersShape_spec sh m (validConsensusSigners_shape sh m hok.signersOk)
  have hone : m.signers.length = 1 := by
    rcases hcnt with h1 | ⟨h2, _, _⟩
    · exact h1
    · rw [hp] at h2; cases h2
  match hs : m.signers, hone with
  | [s], _ => exact ⟨sh, s, hsh, rfl, hlead hp s hs⟩

/-- any attached full data hashes to the root — for EVERY message type (prepare and commit included since af0324594) -/
theorem C09_accept_full_data_matches_root (x : Ctx) (st : State) (i : Input) (m : QMsg) (hb : i.body = .consensus m)
    (h : (validate x st i).2 = .accept) : ∀ d, m.fullData = some d → d = m.root := by
  obtain ⟨sh, _, hok⟩ := C09_accept_consensus_guards x st i m hb h
  exact hok.hashOk

/-- a well-formed prepare of operator 2 for slot 32000, round 1 -/
def prepare1 : QMsg :=
  { mtype := 1, height := 32000, round := 1, root := 1, fullData := none, signers := [2], sigLen := 96, sigZero := false,
    pjMalformed := false, pjLen := 0, rcjMalformed := false, rcjLen := 0, justOk := false }
def t0 : Int := 1616508000 + 12 * 32000 + 5

/-- the regression witness of af0324594 inside the model: a prepare whose full data does not hash to its root is rejected -/
theorem C09_prepare_with_wrong_full_data_rejected :
    (validate ctx0 State.empty (inputAt { prepare1 with fullData := some 2 } t0)).2 = .reject .InvalidHash := by decide +kernel

example : (validate ctx0 State.empty (inputAt prepare1 t0)).2 = .accept := by decide +kernel

/-- non-vacuity of the clause theorems' hypotheses: an accepted proposal of the leader (slot 32000, round 1, committee of
    four: operator 1) and an accepted decided message signed by a quorum -/
example : (validate ctx0 State.empty (inputAt { prepare1 with mtype := 0, signers := [1], root := 5, fullData := some 5, justOk := true } t0)).2 = .accept := by decide +kernel
example : (validate ctx0 State.empty (inputAt { prepare1 with mtype := 2, signers := [1, 2, 4], root := 5, fullData := some 5 } t0)).2 = .accept := by decide +kernel
example : (validate ctx0 State.empty (inputAt { prepare1 with mtype := 0, signers := [2], root := 5, fullData := some 5, justOk := true } t0)).2
    = .reject .SignerNotLeader := by decide +kernel

/-! ## slot and round windows -/

/-- the window theorems' side conditions hold for the test network and a clock five seconds into slot 32000 -/
example : Cfg12 praterCfg := ⟨rfl, by decide, by decide, by decide⟩
example : RealisticClock praterCfg (GoTime.unix t0) := ⟨by decide, by decide, by decide, by decide⟩
example : curSlot praterCfg (GoTime.unix t0) = 32000 := by decide
example : highestRoundSpec praterCfg 32000 (GoTime.unix t0) = 4 := by decide

/-- consensus messages: on a 12-second-slot network and with the node's clock between genesis and the
    year 2242, an accepted consensus message is for a slot that has started (not after the clock's slot) and is at most
    `ttl` slots old — ttl = 34 for attester / aggregator, 3 for proposer / sync committee roles -/
theorem C09_accept_slot_window (x : Ctx) (hc : Cfg12 x.cfg) (st : State) (i : Input) (m : QMsg) (hb : i.body = .consensus m)
    (hclock : RealisticClock x.cfg i.now) (h : (validate x st i).2 = .accept) :
    (m.height : Int) ≤ curSlot x.cfg i.now ∧
    ∃ ttl, lateTtl i.role = some ttl ∧ (ttl = 3 ∨ ttl = 34) ∧ curSlot x.cfg i.now ≤ (m.height : Int) + ttl := by
  obtain ⟨sh, _, hok⟩ := C09_accept_consensus_guards x st i m hb h
  obtain ⟨hne, hnl⟩ := validateSlotTime_ok_spec _ _ _ _ hok.slotTimeOk
  have hslot := not_early_spec hc hclock m.height hne
  obtain ⟨ttl, ht, hcase⟩ := lateTtl_cases i.role (accept_validRole h) hok.roleOk
  rw [lateMessage_eq hc hclock m.height i.role ttl hslot ht (by omega)] at hnl
  exact ⟨hslot, ttl, ht, hcase, by omega⟩

/-- the regression witness of 635251de7 inside the model: a height of current slot + 2^62 (whose start time wraps around
    to the current slot's) is turned down as an early message -/
theorem C09_slot_wraparound_now_refused :
    (validate ctx0 State.empty (inputAt { prepare1 with height := 32000 + 4611686018427387904 } t0)).2 = .ignore .EarlyMessage := by decide +kernel

/-- round ≥ 1, at most the role's maximum (12 attester / aggregator, 6 proposer / sync roles), and at most
    one round beyond the round the validator estimates from the time since the slot started (2-second rounds up to
    round 8, then 2-minute rounds) -/
theorem C09_accept_round_window (x : Ctx) (hc : Cfg12 x.cfg) (st : State) (i : Input) (m : QMsg) (hb : i.body = .consensus m)
    (hclock : RealisticClock x.cfg i.now) (h : (validate x st i).2 = .accept) :
    1 ≤ m.round ∧ (∃ mx, maxRound i.role = .ok mx ∧ m.round ≤ mx ∧ mx ≤ 12) ∧
    (m.round : Int) ≤ highestRoundSpec x.cfg m.height i.now := by
  obtain ⟨sh, _, hok⟩ := C09_accept_consensus_guards x st i m hb h
  obtain ⟨hne, _⟩ := validateSlotTime_ok_spec _ _ _ _ hok.slotTimeOk
  have hslot := not_early_spec hc hclock m.height hne
  obtain ⟨r1, r2⟩ := (roundWindow_ok_iff hc m hclock hslot).mp hok.roundWindowOk
  obtain ⟨mx, hmx, hle⟩ := hok.maxRoundOk
  obtain ⟨mx', hmx', hb12⟩ := maxRound_of_validRole i.role (accept_validRole h)
  rw [hmx] at hmx'; cases hmx'
  exact ⟨r1, ⟨mx, hmx, hle, hb12⟩, r2⟩

/-- duties: a proposer-role message needs the validator's proposer duty at that slot in the duty store, a sync-committee
    role message the validator's sync-committee duty of that period -/
theorem C09_accept_duty (x : Ctx) (st : State) (i : Input) (m : QMsg) (hb : i.body = .consensus m)
    (h : (validate x st i).2 = .accept) :
    ∃ sh, i.share = some sh ∧
      (i.role = Gen.val_BNRoleProposer → x.duties.proposer.contains ((epochAtSlot x.cfg m.height).toNat, m.height, sh.index) = true) ∧
      ((i.role = Gen.val_BNRoleSyncCommittee ∨ i.role = Gen.val_BNRoleSyncCommitteeContribution) →
        x.duties.sync.contains ((periodAtEpoch x.cfg (epochAtSlot x.cfg m.height)).toNat, sh.index) = true) := by
  obtain ⟨sh, hsh, hok⟩ := C09_accept_consensus_guards x st i m hb h
  exact ⟨sh, hsh, validateBeaconDuty_spec x i.role m.height sh hok.dutyOk⟩

/-- justifications: decodable; prepare justifications only on proposals, round-change justifications only on proposals and
    round changes; a proposal's justifications satisfy `instance.IsProposalJustification` (abstract) -/
theorem C09_accept_justifications (x : Ctx) (st : State) (i : Input) (m : QMsg) (hb : i.body = .consensus m)
    (h : (validate x st i).2 = .accept) :
    m.pjMalformed = false ∧ m.rcjMalformed = false ∧ (m.mtype ≠ Gen.val_ProposalMsgType → m.pjLen = 0) ∧
    (m.mtype ≠ Gen.val_ProposalMsgType → m.mtype ≠ Gen.val_RoundChangeMsgType → m.rcjLen = 0) ∧
    (m.mtype = Gen.val_ProposalMsgType → m.justOk = true) := by
  obtain ⟨sh, _, hok⟩ := C09_accept_consensus_guards x st i m hb h
  -- the justification rules are part of the behaviour check of every signer, with or without an entry; there is a signer
  obtain ⟨s, hs⟩ := List.exists_mem_of_ne_nil _ (validConsensusSigners_nonempty sh m hok.signersOk)
  have hbeh := hok.behaviorOk s hs
  cases hst : st (i.vid, i.role, s) with
  | none => rw [hst] at hbeh; exact validateJustifications_spec m hbeh
  | some ss =>
    rw [hst] at hbeh
    exact validateJustifications_spec m (behavior_some_spec x.cfg sh i.role m ss hbeh).just

/-! ## per-signer limits -/

/-- no going back: for every signer of an accepted message that already has an entry, (slot, round) of the message is
    not behind the entry's; if it is the same (slot, round) the counter of this message kind was still below its limit
    and a stored proposal data, if the message carries full data, is the same data -/
theorem C09_accept_signer_monotone (x : Ctx) (st : State) (i : Input) (m : QMsg) (hb : i.body = .consensus m)
    (h : (validate x st i).2 = .accept) :
    ∀ s ∈ m.signers, ∀ ss, st (i.vid, i.role, s) = some ss →
      lexLe (ss.slot, ss.round) (m.height, m.round) ∧
      ((m.height = ss.slot ∧ m.round = ss.round) →
        (msgKind m ≠ 4 → kindCount (msgKind m) ss.counts = 0) ∧
        ¬ (hasFullData m = true ∧ ss.proposalData.isSome = true ∧ ss.proposalData ≠ m.fullData)) := by
  obtain ⟨sh, _, hok⟩ := C09_accept_consensus_guards x st i m hb h
  intro s hs ss hss
  have hbeh := hok.behaviorOk s hs
  rw [hss] at hbeh
  have hbo := behavior_some_spec x.cfg sh i.role m ss hbeh
  refine ⟨hbo.notBehind, fun heq => ?_⟩
  obtain ⟨c1, c2⟩ := hbo.sameRound heq
  exact ⟨fun hk => countsValidate_spec ss.counts m _ hok.typeOk (validConsensusSigners_nonempty sh m hok.signersOk) c1 hk, c2⟩

/-- along ANY history of validation calls from the empty state — any mix
    of validators, roles, message kinds, honest or not, accepted or not — at most ONE proposal, ONE prepare, ONE
    (single-signer) commit and ONE round change is accepted per (validator, role, signer, slot, round) -/
theorem C09_per_signer_round_limits (x : Ctx) (kind : Nat) (hk : kind ≤ 3) (vid role s slot round : Nat) (hist : List Input) :
    countAcc x (isKindAt kind vid role s slot round) State.empty hist ≤ 1 :=
  (countAcc_le x kind vid role s slot round (by omega) hist State.empty).2

/-- … from any state whatsoever, and zero once the signer's entry has moved past (slot, round) or already counted one -/
theorem C09_per_signer_round_limits_any_state (x : Ctx) (kind : Nat) (hk : kind ≤ 3) (vid role s slot round : Nat)
    (hist : List Input) (st : State) :
    countAcc x (isKindAt kind vid role s slot round) st hist ≤ 1 ∧
    (usedUp kind vid role s slot round st → countAcc x (isKindAt kind vid role s slot round) st hist = 0) :=
  ⟨(countAcc_le x kind vid role s slot round (by omega) hist st).2, (countAcc_le x kind vid role s slot round (by omega) hist st).1⟩

/-- no second proposal — with different data or not — by the same signer in the same (slot, round) -/
theorem C09_no_second_proposal (x : Ctx) (vid role s slot round : Nat) (hist : List Input) :
    countAcc x (isKindAt 0 vid role s slot round) State.empty hist ≤ 1 :=
  C09_per_signer_round_limits x 0 (by omega) vid role s slot round hist

/-- non-vacuity: a history in which the second, identical prepare of the same signer is refused -/
example : countAcc ctx0 (isKindAt 1 1 0 2 32000 1) State.empty [inputAt prepare1 t0, inputAt prepare1 (t0 + 1)] = 1 := by decide +kernel
example : (validate ctx0 (validate ctx0 State.empty (inputAt prepare1 t0)).1 (inputAt prepare1 (t0 + 1))).2
    = .ignore .TooManySameTypeMessagesPerRound := by decide +kernel

/-! ## concurrency: calls for different ids commute -/

/-- validation calls for different (validator, role) ids read and write disjoint parts of the state: both orders give
    the same two verdicts and the same final state. Together with the per-message-id mutex (read-check-update of one
    id is atomic) every concurrent execution equals a sequential one. -/
theorem C09_validate_commutes_across_ids (x : Ctx) (st : State) (a b : Input) (hid : a.vid ≠ b.vid ∨ a.role ≠ b.role) :
    (validate x (validate x st a).1 b).2 = (validate x st b).2 ∧
    (validate x (validate x st b).1 a).2 = (validate x st a).2 ∧
    (validate x (validate x st a).1 b).1 = (validate x (validate x st b).1 a).1 :=
  validate_commutes x st a b hid

/-- the state changes only when the verdict is accept (a refused message leaves no trace) -/
theorem C09_refused_message_leaves_state (x : Ctx) (st : State) (i : Input) (h : (validate x st i).2 ≠ .accept) :
    (validate x st i).1 = st := validate_state_of_not_accept x st i h

/-! ## large committees: every member's entry survives whatever the others send

The state is a total map keyed by (validator, role, signer): nothing bounds the number of signers with an entry. A committee of
13 with every operator active in one slot and round, then the leader's second proposal with different data. -/

def share13 : Share :=
  { share4 with committee := [1, 2, 3, 4, 5, 6, 7, 8, 9, 10, 11, 12, 13], quorum := 9 }
def inputAt13 (m : QMsg) (unixNow : Int) : Input := { inputAt m unixNow with share := some share13 }
/-- slot 32000, round 1, 13 operators: the leader is operator ((32000 mod 13) + 1 − 1) mod 13 + 1 = 8 -/
def proposal13 (data : Nat) : QMsg :=
  { mtype := 0, height := 32000, round := 1, root := data, fullData := some data, signers := [8], sigLen := 96, sigZero := false,
    pjMalformed := false, pjLen := 0, rcjMalformed := false, rcjLen := 0, justOk := true }
def prepare13 (op : Nat) : QMsg := { prepare1 with signers := [op] }
def history13 : List Input :=
  inputAt13 (proposal13 1) t0 :: ((List.range 13).map fun i => inputAt13 (prepare13 (i + 1)) t0) ++
    [inputAt13 (proposal13 2) t0, inputAt13 (prepare13 1) t0, inputAt13 (prepare13 13) t0]

def verdictsOf (x : Ctx) : State → List Input → List Outcome
  | _, [] => []
  | st, i :: rest => (validate x st i).2 :: verdictsOf x (validate x st i).1 rest

/-- after the proposal and the prepares of all 13 operators, the leader's second proposal with different data is rejected
    and the first and the last operator's second prepare are refused (the vector that catches seeded change Y-m04) -/
theorem C09_large_committee_limits_hold :
    verdictsOf ctx0 State.empty history13 =
      List.replicate 14 .accept ++ [.reject .DuplicatedProposalWithDifferentData,
        .ignore .TooManySameTypeMessagesPerRound, .ignore .TooManySameTypeMessagesPerRound] := by decide +kernel

/-! ## partial-signature messages -/

def partial1 : PMsg :=
  { ptype := 0, slot := 18446744073709551615, signer := 2, msgs := [{ signer := 2, root := 7, sigLen := 96, sigZero := false }],
    sigLen := 96, sigZero := false }
def pinput (m : PMsg) : Input :=
  { vid := 1, role := 0, dataLen := 300, domainOk := true, pkOk := true, share := some share4, body := .partialSig m,
    envSig := .none, now := GoTime.unix t0, wallEpoch := 1000 }

/-- future side of the slot window (guard added by 6c728adc1): an accepted partial-signature message is for a slot that is
    not after the slot the receiver's clock is in — the same bound as for consensus messages -/
theorem C09_partial_future_slot_refused (x : Ctx) (st : State) (i : Input) (m : PMsg) (hc : Cfg12 x.cfg)
    (hr : RealisticClock x.cfg i.now) (hb : i.body = .partialSig m) (h : (validate x st i).2 = .accept) :
    (m.slot : Int) ≤ curSlot x.cfg i.now := by
  obtain ⟨sh, _, hok⟩ := accept_partial_guards x st i m hb h
  exact not_early_spec hc hr m.slot hok.notEarly

/-- the post-consensus partial signature message for slot 2^64 − 1, and the one for the slot after the current one, are
    turned down as early; the first leaves no trace: the signer's honest prepare for the current slot is accepted afterwards -/
theorem C09_partial_future_slot_now_early :
    (validate ctx0 State.empty (pinput partial1)).2 = .ignore .EarlyMessage ∧
    (validate ctx0 State.empty (pinput { partial1 with slot := 32001 })).2 = .ignore .EarlyMessage ∧
    (validate ctx0 State.empty (pinput { partial1 with slot := 32000 })).2 = .accept ∧
    (validate ctx0 (validate ctx0 State.empty (pinput partial1)).1 (inputAt prepare1 t0)).2 = .accept := by decide +kernel

/-- guard list of `validatePartialSignatureMessage` BEFORE repair 6c728adc1: no slot guard at all -/
def partialChecksOld (x : Ctx) (st : State) (i : Input) (sh : Share) (m : PMsg) : List Chk :=
  (partialChecks x st i sh m).eraseIdx 2

/-- on the guard list before 6c728adc1 (finding `C09/partial-sig-slot-window-unchecked` of that tree): without the
    early-message guard every guard passes for the slot-2^64−1 message, the state update pins the signer's
    entry to that slot, and the signer's honest prepare for the current slot is then ignored -/
theorem C09_regression_unguarded_future_partial_mutes_signer :
    firstFail (partialChecksOld ctx0 State.empty (pinput partial1) share4 partial1) = .ok () ∧
    (match update ctx0 State.empty (pinput partial1) with
     | .ok st' => (validate ctx0 st' (inputAt prepare1 t0)).2
     | .error _ => .accept) = .ignore .SlotAlreadyAdvanced := by decide +kernel

/-- after an accepted partial-signature message the signer's entry sits exactly at the message's slot (the guard
    `slot ≥ entry slot` passed, the update moves the entry up to the slot) -/
theorem C09_partial_accept_entry_at_slot (x : Ctx) (st : State) (i : Input) (m : PMsg) (hb : i.body = .partialSig m)
    (h : (validate x st i).2 = .accept) :
    ∃ ss', (validate x st i).1 (i.vid, i.role, m.signer) = some ss' ∧ ss'.slot = m.slot := by
  obtain ⟨ss', hu, hst⟩ := validate_partial_state h hb
  obtain ⟨sh, _, hok⟩ := accept_partial_guards x st i m hb h
  refine ⟨ss', by rw [hst]; exact State.set_same _ _ _, ?_⟩
  -- the entry the update starts from (the zero value if there is none) is not ahead of the message
  have hle : (Option.getD (st (i.vid, i.role, m.signer)) {}).slot ≤ m.slot := by
    cases hs : st (i.vid, i.role, m.signer) with
    | none => exact Nat.zero_le _
    | some ss => exact behaviorPartial_some_spec x.cfg i.role m ss (hs ▸ hok.behaviorOk)
  unfold updPartial at hu
  simp only at hu
  split at hu
  · cases hu
    simp only
    split
    · rfl
    · omega
  · cases hu

/-- no muting: an accepted partial-signature message never leaves the signer's entry beyond the slot the
    receiver's clock is in, so a message of that signer for the current (or any later) slot is never turned down as a
    slot regression because of it -/
theorem C09_partial_accept_cannot_pin_future (x : Ctx) (st : State) (i : Input) (m : PMsg) (hc : Cfg12 x.cfg)
    (hr : RealisticClock x.cfg i.now) (hb : i.body = .partialSig m) (h : (validate x st i).2 = .accept) :
    ∃ ss', (validate x st i).1 (i.vid, i.role, m.signer) = some ss' ∧ (ss'.slot : Int) ≤ curSlot x.cfg i.now := by
  obtain ⟨ss', h1, h2⟩ := C09_partial_accept_entry_at_slot x st i m hb h
  exact ⟨ss', h1, by rw [h2]; exact C09_partial_future_slot_refused x st i m hc hr hb h⟩

/-- the clause as the property asks it ("fits the slot window of its role"): an accepted partial-signature message
    of a role with a time-to-live is for a slot inside [current − ttl, current] -/
def C09_partial_slot_window_full : Prop :=
  ∀ (x : Ctx) (st : State) (i : Input) (m : PMsg) (ttl : Nat), Cfg12 x.cfg → RealisticClock x.cfg i.now →
    i.body = .partialSig m → lateTtl i.role = some ttl → (validate x st i).2 = .accept →
    (m.slot : Int) ≤ curSlot x.cfg i.now ∧ curSlot x.cfg i.now ≤ (m.slot : Int) + ttl

/-- a post-consensus partial signature message of an attester duty that ended 1000 slots ago (ttl: 34 slots) -/
def partialLate : PMsg := { partial1 with slot := 31000 }

/-- refuted, on the LATE side only: `validatePartialSignatureMessage` calls `earlyMessage` but
    neither `lateMessage` nor `validateSlotTime` (tie: C09_tie_guard_order_partial_and_p2p). Witness: the message for a
    slot that ended 1000 slots ago is accepted by a peer without a newer entry for the signer (reproduced on the real
    validator: known finding `C09/partial-sig-late-slot-unchecked`) -/
theorem C09_partial_slot_window_full_refuted : ¬ C09_partial_slot_window_full := by
  intro hfull
  have hc : Cfg12 ctx0.cfg := ⟨rfl, by decide, by decide, by decide⟩
  have hclk : RealisticClock ctx0.cfg (pinput partialLate).now := by
    refine ⟨by decide, by decide, by decide, by decide⟩
  have hacc : (validate ctx0 State.empty (pinput partialLate)).2 = .accept := by decide +kernel
  have := (hfull ctx0 State.empty (pinput partialLate) partialLate 34 hc hclk rfl (by decide) hacc).2
  revert this
  decide

/-- what the late message can and cannot do: the signer's honest traffic for the current slot is still accepted after
    it (slots only move forward), and replaying it is refused once the entry has moved on -/
theorem C09_partial_late_slot_is_harmless_to_the_signer :
    (validate ctx0 (validate ctx0 State.empty (pinput partialLate)).1 (inputAt prepare1 t0)).2 = .accept ∧
    (validate ctx0 (validate ctx0 State.empty (inputAt prepare1 t0)).1 (pinput partialLate)).2 = .ignore .SlotAlreadyAdvanced := by
  decide +kernel

/-- what the code does enforce for an accepted partial-signature message: known type matching the role,
    signer a non-zero committee member, at least one message, all inner messages by the same signer with well-formed
    non-zero signatures and pairwise distinct signing roots, well-formed non-zero outer signature, operator signature as
    for consensus messages, the slot has started (C09_partial_future_slot_refused) and is not behind the signer's entry.
    Missing w.r.t. the property: the LATE side of the slot window. -/
theorem C09_partial_accept_sound_partial (x : Ctx) (st : State) (i : Input) (m : PMsg) (hb : i.body = .partialSig m)
    (h : (validate x st i).2 = .accept) :
    ∃ sh, i.share = some sh ∧ validPartialSigMsgType m.ptype = true ∧ partialTypeMatchesRole m.ptype i.role = .ok true ∧
      m.signer ≠ 0 ∧ m.signer ∈ sh.committee ∧ m.msgs ≠ [] ∧
      (∀ it ∈ m.msgs, it.signer = m.signer ∧ it.sigLen = 96 ∧ it.sigZero = false) ∧ (m.msgs.map (·.root)).Nodup ∧
      signatureFormat m.sigLen m.sigZero = .ok () ∧ (i.envSig = .none ∨ i.envSig = .valid) ∧
      (∀ ss, st (i.vid, i.role, m.signer) = some ss → ss.slot ≤ m.slot) := by
  obtain ⟨sh, hsh, hok⟩ := accept_partial_guards x st i m hb h
  obtain ⟨a, b, c, l1, l2⟩ := validatePartialMessages_spec sh m hok.messagesOk
  exact ⟨sh, hsh, hok.typeOk, hok.typeRoleOk, a, b, c, l1, l2, hok.sigOk, (envSigCheck_ok_iff _).mp hok.envOk,
    fun ss hss => behaviorPartial_some_spec x.cfg i.role m ss (hss ▸ hok.behaviorOk)⟩

end Ssv.Validation
