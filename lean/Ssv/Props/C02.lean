/-
C02 — Every reported decision is backed by a verifiable quorum certificate.

Property theorems only (helpers: Ssv/Proofs/QbftCert.lean). Model: Ssv/Model/Qbft (controller + instance of a light node).
"Aggregate signature verifies" is the abstract `sigOk`, computed by the REAL `VerifyByOperators` in the harness;
values/roots are ids with `hash = id`.

All statements hold for EVERY configuration (committee, quorum, value check, proposer function), EVERY controller state
reachable from `newController` by ANY sequence of starts / message deliveries (valid, forged, any type and height) /
timeouts / compactions — no bound on anything.
-/
import Ssv.Proofs.QbftCert
import Ssv.Proofs.Kernels

namespace Ssv.Qbft

/-! ## ties to the regenerated facts -/

/-- the checks the model's `validateDecided` / `isDecidedMsg` / `UponDecided` transcribe, in source order -/
theorem C02_tie_decided_path :
    Gen.calls_qbft_ctrl_ProcessMsg = ["BaseMsgValidation", "IsDecidedMsg", "UponDecided", "isFutureMessage", "UponExistingInstanceMsg"] ∧
    Gen.calls_qbft_IsDecidedMsg = ["HasQuorum", "share.HasQuorum"] ∧
    Gen.calls_qbft_ValidateDecided = ["IsDecidedMsg", "Validate", "BaseCommitValidation", "Validate", "HashDataRoot"] ∧
    Gen.calls_qbft_node_BaseCommitValidation = ["Validate", "VerifyByOperators"] ∧
    Gen.calls_qbft_UponDecided =
      ["ValidateDecided", "InstanceForHeight", "FindInstance", "addNewInstance", "NewInstance", "AddMsg", "addNewInstance", "IsDecided", "AddMsg",
       "LongestUniqueSignersForRoundAndRoot", "AddMsg", "FindInstance", "SaveInstance", "NewDecidedHandler"] ∧
    Gen.calls_qbft_SaveInstance = ["SaveHighestAndHistoricalInstance", "SaveInstance", "SaveHighestInstance"] ∧
    Gen.src_qbft_SignedMessageValidate = "7ce2f626fc6e70d1" ∧ Gen.src_qbft_MessageValidate = "a786761f356b5525" :=
  ⟨rfl, rfl, rfl, rfl, rfl, rfl, rfl, rfl⟩

/-- the local decision path: a commit is validated against the accepted proposal, counted per (round, root) over unique
    signers and aggregated; the proposal it refers to passed the leader, hash and value checks -/
theorem C02_tie_local_path :
    Gen.calls_qbft_node_validateCommit = ["BaseCommitValidation"] ∧
    Gen.calls_qbft_node_UponCommit = ["AddFirstMsgForSignerAndRound", "commitQuorumForRoundRoot", "aggregateCommitMsgs"] ∧
    Gen.calls_qbft_node_commitQuorumForRoundRoot = ["LongestUniqueSignersForRoundAndRoot", "HasQuorum", "Share.HasQuorum"] ∧
    Gen.calls_qbft_node_aggregateCommitMsgs = ["DeepCopy", "Aggregate"] ∧
    Gen.calls_qbft_node_isValidProposal =
      ["GetSigners", "VerifyByOperators", "MatchedSigners", "proposer", "Validate", "HashDataRoot", "isProposalJustification"] ∧
    Gen.calls_qbft_UponExistingInstanceMsg = ["InstanceForHeight", "IsDecided", "ProcessMsg", "broadcastDecided"] ∧
    Gen.src_qbft_LongestUniqueSigners = "f42a37f13008f105" ∧ Gen.src_qbft_AddFirstMsg = "c8cbb4f27824af62" :=
  ⟨rfl, rfl, rfl, rfl, rfl, rfl, rfl, rfl⟩

/-- "2f+1 of 3f+1": for every committee size the node accepts, the quorum the shares are built with
    (`ComputeQuorumAndPartialQuorum`, translated from the Go source on every run) is 2f+1 with n = 3f+1 -/
theorem C02_tie_quorum_is_2f_plus_1 (n : Int) (h : Gen.k_ValidCommitteeSize n = true) :
    ∃ f : Int, 1 ≤ f ∧ n = 3 * f + 1 ∧ (Gen.k_ComputeQuorumAndPartialQuorum n).1 = 2 * f + 1 := by
  obtain ⟨f, h1, _, h3, h4⟩ := Kernels.quorum_values n h
  exact ⟨f, h1, h3, by rw [h4]⟩

/-! ## (i) every reported decision carries a valid certificate -/

/-- Along EVERY run of the controller, whatever it reports as decided — the decided message returned by `ProcessMsg`, a
    decided message it broadcasts, an instance it hands to storage, a decided notification — is a valid certificate:
    a commit, aggregate signature valid, signers pairwise distinct, non-zero, all committee members, at least a quorum of
    them, `H(fullData) = root`, for this controller's identifier. -/
theorem C02_reported_decision_has_valid_certificate (cfg : Cfg) (ops : List COp) :
    ∀ o ∈ (runC cfg newController ops).2,
      (∀ d, o.res = .ok (some d) → ValidCert cfg d) ∧
      (∀ out ∈ o.outs, ∀ d, (out = .bcastDecided d ∨ out = .save d ∨ out = .notify d) → ValidCert cfg d) :=
  fun o ho =>
    have h := (runC_inv cfg ops newController (ctrlInv_newController cfg)).2 o ho
    ⟨h.returned, h.emitted⟩

/-- the same for one step from ANY controller state satisfying the container invariant (`CtrlInv`: every stored commit was
    validated, every accepted proposal passed `isValidProposal`) — in particular from every reachable state -/
theorem C02_step_reports_valid_certificate (cfg : Cfg) (c : Ctrl) (hc : CtrlInv cfg c) (m : Msg) (d : Msg)
    (h : (c.processMsg cfg m).res = .ok (some d)) : ValidCert cfg d :=
  (ctrl_processMsg_inv cfg c m hc).certs.returned d h

/-- the invariant is an invariant: it holds initially and after every op -/
theorem C02_invariant_reachable (cfg : Cfg) (ops : List COp) : CtrlInv cfg (runC cfg newController ops).1 :=
  (runC_inv cfg ops newController (ctrlInv_newController cfg)).1

/-- a decided message accepted from the network is reported as it is (nothing else is ever reported for it) -/
theorem C02_network_decision_is_the_message (cfg : Cfg) (c : Ctrl) (m d : Msg) (hid : m.ident = cfg.ident)
    (hd : isDecidedMsg cfg m = true) (h : (c.processMsg cfg m).res = .ok (some d)) :
    d = m ∧ validateDecided cfg m = .ok () := by
  revert h
  refine ctrl_processMsg_cases cfg c m (P := fun st => st.res = .ok (some d) → _) (fun _ h => nomatch h) (fun _ _ h => ?_)
    (fun _ hnd => nomatch hd.symm.trans hnd)
  by_cases hv : validateDecided cfg m = .ok ()
  · exact ⟨(uponDecided_accepted cfg c m hv).1 d h, hv⟩
  · obtain ⟨_, _, hno⟩ := uponDecided_rejected cfg c m hv
    exact absurd h (hno _)

/-! ## (ii) decisions reached by counting commits -/

/-- When the controller reports a decision it reached itself (first report of an undecided instance), the certificate is for
    the proposal the instance had accepted: same value and root, the value passed the operator's own value check, the
    proposal was signed by exactly the leader of its round (`cfg.proposer`), and its round is the round of the commits. -/
theorem C02_local_decision_for_leaders_proposal (cfg : Cfg) (c : Ctrl) (hc : CtrlInv cfg c) (m d : Msg)
    (hnd : isDecidedMsg cfg m = false) (h : (c.processMsg cfg m).res = .ok (some d)) :
    ValidCert cfg d ∧
    ∃ inst p, findInstance c.insts m.height = some inst ∧ inst.decided = false ∧ inst.accepted = some p ∧
      d.height = inst.height ∧ d.fullData = p.fullData ∧ d.root = p.root ∧ d.round = p.round ∧
      cfg.valOk p.fullData = true ∧ hashData p.fullData = p.root ∧
      ∃ l, cfg.proposer inst.height p.round = some l ∧ p.signers = [l] := by
  have hcert := C02_step_reports_valid_certificate cfg c hc m d h
  revert h
  refine ctrl_processMsg_cases cfg c m (P := fun st => st.res = .ok (some d) → _) (fun _ h => nomatch h)
    (fun _ hd => nomatch hd.symm.trans hnd) (fun hid _ h => ?_)
  obtain ⟨inst, hf, hund, hl⟩ := uponExisting_local cfg c m hc hid d h
  obtain ⟨p, hacc, hfd, hroot, hgp, hround⟩ := hl.proposal
  exact ⟨hcert, inst, p, hf, hund, hacc, hl.height, hfd, hroot, (hround hund).symm, hgp.value, hgp.hash, hgp.leader⟩

/-! ## (iii) no forged certificate makes the operator decide — one lemma per conjunct -/

/-- `Ignored c st`: the controller state (hence every `Decided` flag and container) is unchanged, nothing is broadcast,
    stored or notified, and no decision is returned. -/
theorem C02_forged_wrong_identifier (cfg : Cfg) (c : Ctrl) (m : Msg) (h : m.ident ≠ cfg.ident) :
    Ignored c (c.processMsg cfg m) :=
  ctrl_processMsg_cases cfg c m (P := Ignored c) (ignored_err c) (fun hid _ => absurd hid h) (fun hid _ => absurd hid h)

/-- fewer than a quorum of listed signers (but more than one): never a decided message, and no instance accepts it -/
theorem C02_forged_sub_quorum (cfg : Cfg) (c : Ctrl) (m : Msg) (ht : m.type = tCommit) (h2 : 2 ≤ m.signers.length)
    (hq : m.signers.length < cfg.quorum) : Ignored c (c.processMsg cfg m) :=
  ctrl_processMsg_cases cfg c m (P := Ignored c) (ignored_err c)
    (fun _ hd => absurd ((isDecidedMsg_iff cfg m).1 hd).1 (Nat.not_le.2 hq))
    (fun _ _ => uponExisting_rejected cfg c m fun s => multiSigner_commit_invalid cfg s m ht (by omega))

theorem C02_forged_duplicate_signers (cfg : Cfg) (c : Ctrl) (m : Msg) (hd : isDecidedMsg cfg m = true) (h : ¬ m.signers.Nodup) :
    Ignored c (c.processMsg cfg m) :=
  ctrl_invalid_decided_ignored cfg c m hd fun hc => h hc.nodup

theorem C02_forged_zero_signer (cfg : Cfg) (c : Ctrl) (m : Msg) (hd : isDecidedMsg cfg m = true) (h : 0 ∈ m.signers) :
    Ignored c (c.processMsg cfg m) :=
  ctrl_invalid_decided_ignored cfg c m hd fun hc => hc.nozero h

theorem C02_forged_foreign_signer (cfg : Cfg) (c : Ctrl) (m : Msg) (hd : isDecidedMsg cfg m = true)
    (h : ∃ s ∈ m.signers, s ∉ cfg.committee) : Ignored c (c.processMsg cfg m) :=
  ctrl_invalid_decided_ignored cfg c m hd fun hc =>
    have ⟨s, hs, hn⟩ := h
    hn (hc.committee s hs)

theorem C02_forged_bad_aggregate_signature (cfg : Cfg) (c : Ctrl) (m : Msg) (hd : isDecidedMsg cfg m = true)
    (h : m.sigOk = false) : Ignored c (c.processMsg cfg m) :=
  ctrl_invalid_decided_ignored cfg c m hd fun hc => Bool.false_ne_true (h.symm.trans hc.sigOk)

theorem C02_forged_value_not_matching_root (cfg : Cfg) (c : Ctrl) (m : Msg) (hd : isDecidedMsg cfg m = true)
    (h : hashData m.fullData ≠ m.root) : Ignored c (c.processMsg cfg m) :=
  ctrl_invalid_decided_ignored cfg c m hd fun hc => h hc.hash

/-- a message that is not of commit type never decides through the decided path, whatever its signers -/
theorem C02_forged_not_a_commit (cfg : Cfg) (m : Msg) (h : m.type ≠ tCommit) : isDecidedMsg cfg m = false :=
  Bool.eq_false_iff.2 fun hd => h ((isDecidedMsg_iff cfg m).1 hd).2

/-- wrong height: a (valid) decided message for another height never touches the instances of this height — they are
    either unchanged or evicted, never decided by it -/
theorem C02_other_height_never_decides_this_height (cfg : Cfg) (c : Ctrl) (m : Msg) (h : Nat) (hne : m.height ≠ h)
    (hd : isDecidedMsg cfg m = true) (hid : m.ident = cfg.ident) :
    ∀ i ∈ (c.processMsg cfg m).ct.insts, i.height = h → i ∈ c.insts := by
  refine ctrl_processMsg_cases cfg c m (P := fun st => ∀ i ∈ st.ct.insts, i.height = h → i ∈ c.insts) (fun _ i hi _ => hi)
    (fun _ _ i hi hih => ?_) (fun _ hnd => nomatch hd.symm.trans hnd)
  by_cases hv : validateDecided cfg m = .ok ()
  · rcases decidedUpdate_mem cfg c m (uponDecided_insts cfg c m hv ▸ hi) with hi | ⟨j, _, _, _, _, hj, rfl, _⟩
    · exact hi
    · exact absurd (hj.symm.trans hih) hne
  · exact (uponDecided_rejected cfg c m hv).1 ▸ hi

/-! ## non-vacuity: concrete runs in which a decision IS reported, by both paths -/

def c02Cfg : Cfg :=
  { committee := [1, 2, 3, 4], quorum := 3, partialQuorum := 2, own := 2, ident := 1, cutoff := 15,
    capacity := Gen.qbft_InstanceContainerDefaultCapacity, valCheck := fun _ => true,
    proposer := fun h r => roundRobinProposer [1, 2, 3, 4] h r }

def c02Msg (t r root : Nat) (signers : List Nat) (mid full : Nat) : Msg :=
  { type := t, height := 0, round := r, ident := 1, root := root, dataRound := 0, signers := signers, sigOk := true,
    malformed := false, mid := mid, rcJust := [], prepJust := [], fullData := full }

/-- operator 2 decides value 2 by counting the commits of 1, 3, 4: `ProcessMsg` returns the aggregate signed by [1,3,4] -/
example :
    ((runC c02Cfg newController
      [.start 0 2, .deliver (c02Msg tProposal 1 2 [1] 10 2),
       .deliver (c02Msg tPrepare 1 2 [1] 11 0), .deliver (c02Msg tPrepare 1 2 [3] 12 0), .deliver (c02Msg tPrepare 1 2 [4] 13 0),
       .deliver (c02Msg tCommit 1 2 [4] 14 0), .deliver (c02Msg tCommit 1 2 [1] 15 0), .deliver (c02Msg tCommit 1 2 [3] 16 0)]).2.getLast?.map
        (fun o => match o.res with | .ok (some d) => (d.signers, d.root, d.fullData) | _ => ([], 0, 0))) = some ([1, 3, 4], 2, 2) := by
  decide +kernel

/-- a decided message from the network is reported, stored and notified -/
example :
    ((runC c02Cfg newController [.start 0 2, .deliver (c02Msg tCommit 1 2 [1, 3, 4] 14 2)]).2.getLast?.map (fun o => (o.res, o.outs))) =
      some (.ok (some (c02Msg tCommit 1 2 [1, 3, 4] 14 2)),
            [.save (c02Msg tCommit 1 2 [1, 3, 4] 14 2), .notify (c02Msg tCommit 1 2 [1, 3, 4] 14 2)]) := by
  decide +kernel

/-- the hypotheses of the forged-certificate lemmas are satisfiable by decided-looking messages -/
example : isDecidedMsg c02Cfg (c02Msg tCommit 1 2 [1, 1, 3] 14 2) = true ∧ ¬ (c02Msg tCommit 1 2 [1, 1, 3] 14 2).signers.Nodup ∧
    isDecidedMsg c02Cfg (c02Msg tCommit 1 2 [1, 3, 9] 14 2) = true ∧ (∃ s ∈ (c02Msg tCommit 1 2 [1, 3, 9] 14 2).signers, s ∉ c02Cfg.committee) ∧
    isDecidedMsg c02Cfg (c02Msg tCommit 1 2 [1, 3, 4] 14 7) = true ∧ hashData (c02Msg tCommit 1 2 [1, 3, 4] 14 7).fullData ≠ (c02Msg tCommit 1 2 [1, 3, 4] 14 7).root := by
  decide

/-- PRODUCTION WIRING of the controller (operator/validator/controller.go `SetupRunners`, closure `buildController`): the qbft.Config a
    real node runs with has `SignatureVerification: true` unconditionally, a `ProposerF` that answers
    `specqbft.RoundRobinProposer(state, round)` for the round ASKED about, the role's value check, the default domain and the
    identifier built from it — the configuration the model's `Cfg` assumes (`verifySig` consulted, `proposer h r`). The harness
    exercises exactly these objects in its production-config cases (harness/cmd/qbft/prodcfg.go). -/
theorem C02_tie_production_wiring :
    Gen.has_qbft_SetupRunners = [true, true, true, true, true, true, true] := rfl

end Ssv.Qbft
