/-
C11 — Registry state is a deterministic function of the contract event log.
Property theorems only (model: Ssv/Model/Registry.lean, helper lemmas: Ssv/Proofs/Registry.lean, RegistrySelf.lean,
RegistryRun.lean).

All theorems quantify over ALL event lists (valid and malformed events, arbitrary facts), ALL batchings into blocks
and — where stated — all start states that satisfy the invariants of a state between blocks. Where the code deviates
from the property the full statement is kept as a `def … : Prop`, refuted with a concrete witness (each witness was
replayed on the real handler, corpus/C11), and the true `_partial` theorem says what has to be assumed.
-/
import Ssv.Proofs.RegistryRun

namespace Ssv.Registry

/-! ## ties to the regenerated facts -/

/-- constants of the length / committee checks; `ValidCommitteeSize` (fingerprinted) accepts exactly 4, 7, 10, 13
    within the operator bound -/
theorem C11_tie_constants :
    Gen.eventhandler_maxOperators = 13 ∧ Gen.eventhandler_encryptedKeyLength = 256 ∧
    Gen.src_ValidCommitteeSize = "4833e46ed1722284" ∧ Gen.src_BelongsToOperator = "bfef44e34c0869c7" ∧
    (∀ n, n ≤ Gen.eventhandler_maxOperators → (validCommitteeSize n = true ↔ n = 4 ∨ n = 7 ∨ n = 10 ∨ n = 13)) ∧
    expectedSharesLen 4 = 1312 := by
  refine ⟨rfl, rfl, rfl, rfl, ?_, rfl⟩
  show ∀ n, n ≤ 13 → (validCommitteeSize n = true ↔ n = 4 ∨ n = 7 ∨ n = 10 ∨ n = 13)
  decide

/-- nonce handling of the recipients storage (fingerprinted): GetNextNonce / BumpNonce as modelled -/
theorem C11_tie_nonce_source :
    Gen.src_GetNextNonce = "f591aca71318176e" ∧ Gen.src_BumpNonce = "703d3a1899808621" := ⟨rfl, rfl⟩

/-- order of reads, guards and writes the model relies on:
    * handleValidatorAdded reads the nonce, BUMPS it, and only then validates operators, share length, signature,
      looks the share up (memory map), creates it, and decides whether it is the node's own;
    * validateOperators: size rule before existence;
    * handleShareCreation: key manager (outside the transaction) before Shares().Save;
    * handleValidatorRemoved: lookup, decided-history cleanup, Shares().Delete, key manager;
    * SaveOperatorData looks the operator up with `getOperatorData(nil, …)` (outside the transaction) before the
      transactional Set; Shares().Get never touches the database; Shares().Save writes through `Using(rw)`. -/
theorem C11_tie_callsites :
    Gen.calls_handleValidatorAdded =
      ["GetNextNonce", "BumpNonce", "validateOperators", "verifySignature", "Get", "handleShareCreation", "BelongsToOperator"] ∧
    Gen.calls_validateOperators = ["ValidCommitteeSize", "OperatorsExist"] ∧
    Gen.calls_handleShareCreation = ["validatorAddedEventToShare", "BelongsToOperator", "AddShare", "Save"] ∧
    Gen.calls_validatorAddedEventToShare =
      ["DeserializeBLSPublicKey", "Decrypt", "SetHexString", "GetPublicKey", "ComputeQuorumAndPartialQuorum"] ∧
    Gen.calls_handleValidatorRemoved = ["Get", "CleanAllInstances", "Each", "Delete", "BelongsToOperator", "RemoveShare"] ∧
    Gen.calls_handleValidatorExited = ["Get", "BelongsToOperator"] ∧
    Gen.calls_handleOperatorAdded = ["GetOperatorData", "SaveOperatorData", "SetOperatorData"] ∧
    Gen.calls_processClusterEvent = ["ComputeClusterIDHash", "List", "BelongsToOperator", "Save"] ∧
    Gen.calls_handleFeeRecipientAddressUpdated = ["GetRecipientData", "SaveRecipientData"] ∧
    Gen.calls_SaveOperatorData = ["getOperatorData", "Set", "Using"] ∧
    Gen.calls_sharesGet = [] ∧ Gen.calls_sharesSave = ["SetMany", "Using"] :=
  ⟨rfl, rfl, rfl, rfl, rfl, rfl, rfl, rfl, rfl, rfl, rfl, rfl⟩

/-- storage layer the model takes for granted (also exercised dynamically: the harness runs the real SetMany): a batch
    write stores every item under ITS OWN key (`append(prefix, item.Key...)` per item), through the transaction and
    directly -/
theorem C11_tie_storage_batch : Gen.has_txn_SetMany = [true] ∧ Gen.has_db_SetMany = [true] := ⟨rfl, rfl⟩

/-- quorum fields of a share (not part of the abstract model; compared field by field by the harness): both the share
    built from a ValidatorAdded event and the share decoded from the database take (Quorum, PartialQuorum) in this
    order from `ComputeQuorumAndPartialQuorum` = (2f+1, f+1), f = (n-1)/3 -/
theorem C11_tie_share_quorum :
    Gen.has_Decode_quorum = [true] ∧ Gen.has_quorum_formula = [true, true] ∧ Gen.has_event_quorum = [true] :=
  ⟨rfl, rfl, rfl⟩

/-! ## batching independence -/

/-- the full claim: the final state depends only on the flattened event list and the last block number -/
def C11_batching_independent_full : Prop :=
  ∀ (me : Nat) (n : Node) (bs1 bs2 : List Block), Boundary n → SelfInv me [] n.reg →
    flatten bs1 = flatten bs2 → lastNumber bs1 = lastNumber bs2 →
    (run me n bs1).2 = true → (run me n bs2).2 = true → (run me n bs1).1 = (run me n bs2).1

/-- two OperatorAdded events with the same id: one block or two blocks -/
def dupOpOneBlock : List Block := [⟨2, [.operatorAdded 5 1 2, .operatorAdded 5 1 3]⟩]
def dupOpTwoBlocks : List Block := [⟨1, [.operatorAdded 5 1 2]⟩, ⟨2, [.operatorAdded 5 1 3]⟩]

/-- REFUTED on this tree: `SaveOperatorData` checks for an existing operator OUTSIDE the block transaction, so a
    second OperatorAdded with the same id overwrites the first one inside one block and is ignored across blocks
    (replayed on the real handler: corpus/C11/registry_dup_operator_id.ops). -/
theorem C11_batching_independent_full_refuted : ¬ C11_batching_independent_full := by
  intro h
  have := h 1 init dupOpOneBlock dupOpTwoBlocks init_boundary (init_selfInv 1) (by decide +kernel) (by decide +kernel) (by decide +kernel) (by decide +kernel)
  revert this
  decide +kernel

/-- Batching independence, for every event list whose OperatorAdded ids are pairwise distinct and non-zero (what the
    contract's operator counter guarantees): any two batchings of the same events that end on the same block number
    and are processed completely leave the node in the same state — database, memory, wallet, decided history. -/
theorem C11_batching_independent_partial (me : Nat) (n : Node) (bs1 bs2 : List Block)
    (hb : Boundary n) (hself : SelfInv me [] n.reg)
    (hfl : flatten bs1 = flatten bs2) (hlast : lastNumber bs1 = lastNumber bs2)
    (hwf : OpAddsWF (flatten bs1))
    (h1 : (run me n bs1).2 = true) (h2 : (run me n bs2).2 = true) :
    (run me n bs1).1 = (run me n bs2).1 := by
  obtain ⟨s1, _, t1⟩ := run_sim_ideal me n bs1 hb.reg.txn hself hwf h1
  obtain ⟨s2, _, t2⟩ := run_sim_ideal me n bs2 hb.reg.txn hself (hfl ▸ hwf) h2
  rw [← hfl] at s2
  refine node_eq_of_sim s1 s2 t1 t2 ?_
  rw [run_marker me n bs1 h1, run_marker me n bs2 h2, hlast]

/-- the hypotheses "processed completely" hold for EVERY batching with strictly increasing block numbers above the
    marker of a history without a log that lacks topics (such a log makes `processEvent` panic) -/
theorem C11_run_completes (me : Nat) (n : Node) (bs : List Block) (hinc : Increasing (n.reg.db.marker.getD 0) bs)
    (hnt : Event.noTopics ∉ flatten bs) : (run me n bs).2 = true :=
  run_completes me n bs hinc hnt

/-- batching independence in closed form: same events, same last block number, increasing block numbers, fresh
    non-zero operator ids, no log without topics ⇒ same final node -/
theorem C11_batching_independent (me : Nat) (n : Node) (bs1 bs2 : List Block)
    (hb : Boundary n) (hself : SelfInv me [] n.reg)
    (hfl : flatten bs1 = flatten bs2) (hlast : lastNumber bs1 = lastNumber bs2)
    (hwf : OpAddsWF (flatten bs1)) (hnt : Event.noTopics ∉ flatten bs1)
    (h1 : Increasing (n.reg.db.marker.getD 0) bs1) (h2 : Increasing (n.reg.db.marker.getD 0) bs2) :
    (run me n bs1).1 = (run me n bs2).1 :=
  C11_batching_independent_partial me n bs1 bs2 hb hself hfl hlast hwf
    (C11_run_completes me n bs1 h1 hnt) (C11_run_completes me n bs2 h2 (hfl ▸ hnt))

/-- a history with valid and malformed events -/
def sampleEvents : List Event :=
  [.operatorAdded 1 1 1, .operatorAdded 2 1 2, .operatorAdded 3 1 3, .operatorAdded 4 1 4,
   .validatorAdded 1 7 (some 0) 1312 [⟨1, 11, true, true⟩, ⟨2, 12, false, false⟩, ⟨3, 13, false, false⟩, ⟨4, 14, false, false⟩],
   .validatorAdded 1 8 (some 1) 1312 [⟨1, 11, true, true⟩, ⟨2, 12, false, false⟩, ⟨3, 13, false, false⟩, ⟨4, 14, false, false⟩],
   .validatorAdded 2 9 (some 5) 1312 [⟨1, 11, true, true⟩, ⟨2, 12, false, false⟩, ⟨3, 13, false, false⟩, ⟨4, 14, false, false⟩],
   .clusterLiquidated 1 [4, 3, 2, 1], .feeRecipientUpdated 1 9, .validatorRemoved 2 7 [], .validatorRemoved 1 7 []]

-- non-vacuity: two different batchings of `sampleEvents`, both processed completely
example :
    let bs1 : List Block := [⟨3, sampleEvents.take 4⟩, ⟨5, sampleEvents.drop 4⟩]
    let bs2 : List Block := [⟨1, sampleEvents.take 5⟩, ⟨2, []⟩, ⟨5, sampleEvents.drop 5⟩]
    flatten bs1 = flatten bs2 ∧ lastNumber bs1 = lastNumber bs2 ∧ OpAddsWF (flatten bs1) ∧
    (run 1 init bs1).2 = true ∧ (run 1 init bs2).2 = true ∧
    (run 1 init bs1).1.reg.db.shares ≠ [] ∧ (run 1 init bs1).1 ≠ init := by
  refine ⟨by decide +kernel, by decide +kernel, ⟨by decide +kernel, by decide +kernel⟩, by decide +kernel, by decide +kernel, by decide +kernel, by decide +kernel⟩

/-! ## the nonce counts every add attempt exactly once -/

/-- After any completely processed run, the nonce an owner has to sign next is the start value plus the number of
    that owner's (parsed) ValidatorAdded events — valid or malformed alike — modulo 2^16 (`Nonce` is a uint16). -/
theorem C11_nonce_counts_add_attempts (me : Nat) (n : Node) (bs : List Block) (owner : Nat)
    (hok : (run me n bs).2 = true) :
    nextNonce (run me n bs).1.reg.db.recips owner =
      (nextNonce n.reg.db.recips owner + countAdds owner (flatten bs)) % nonceMod :=
  run_induction me
    (fun evs x => nextNonce x.reg.db.recips owner = (nextNonce n.reg.db.recips owner + countAdds owner evs) % nonceMod)
    (fun evs x => nextNonce x.reg.txn.recips owner = (nextNonce n.reg.db.recips owner + countAdds owner evs) % nonceMod)
    -- `beginTxn` copies the database to the transaction, the commit copies it back
    (fun _ _ h => h)
    (fun _ x blk e h _ => applyEvent_reg me blk x e ▸ (regEvent_effect me blk x.reg e).nonce_after h)
    (fun _ _ _ h => h)
    bs n (Nat.mod_eq_of_lt (nextNonce_lt _ _)).symm hok

/-- one event: the expected nonce moves iff the event is a ValidatorAdded of that owner — before any validation -/
theorem C11_nonce_bumped_before_validation (me blk : Nat) (n : Node) (owner pk : Nat) (sn : Option Nat) (len : Nat)
    (ms : List Member) :
    nextNonce (applyEvent me blk n (.validatorAdded owner pk sn len ms)).1.reg.txn.recips owner =
      (nextNonce n.reg.txn.recips owner + 1) % nonceMod := by
  rw [applyEvent_reg, (regEvent_effect me blk n.reg _).nonce]
  simp [countAdds]

example : nextNonce (run 1 init [⟨1, sampleEvents⟩]).1.reg.db.recips 1 = 2 ∧
    nextNonce (run 1 init [⟨1, sampleEvents⟩]).1.reg.db.recips 2 = 1 ∧ findShare (run 1 init [⟨1, sampleEvents⟩]).1.reg.shares 9 = none := by decide +kernel

/-! ## add-soundness -/

/-- From any state between blocks that holds no shares yet (operators and nonces may exist): every stored share is
    explained by a ValidatorAdded event of its owner and key that passed every listed check against the state THEN —
    signature over the nonce expected at that point (= number of the owner's earlier add attempts), committee of valid
    size made of distinct operators that had been added before, correctly sized share data, and (if the share is the
    node's own) a decryptable share key matching its public key — and that was not followed by a ValidatorRemoved of
    that owner and key. -/
theorem C11_add_sound_general (me : Nat) (n : Node) (bs : List Block) (hb : Boundary n) (hempty : n.reg.db.shares = [])
    (hok : (run me n bs).2 = true) (pk : Nat) (sh : Share)
    (hf : findShare (run me n bs).1.reg.shares pk = some sh) :
    AddWitness (fun o => nextNonce n.reg.db.recips o) n.reg.db.ops (flatten bs)
      sh.pk sh.owner sh.committee sh.operatorId sh.sharePk :=
  run_addSound me n bs hb.reg hempty hok pk sh hf

/-- the same from an empty registry -/
theorem C11_add_sound (me : Nat) (bs : List Block) (hok : (run me init bs).2 = true) (pk : Nat) (sh : Share)
    (hf : findShare (run me init bs).1.reg.shares pk = some sh) :
    AddWitness (fun _ => 0) [] (flatten bs) sh.pk sh.owner sh.committee sh.operatorId sh.sharePk := by
  simpa [init, nextNonce, findRecip] using C11_add_sound_general me init bs init_boundary rfl hok pk sh hf

example : ∃ sh, findShare (run 1 init [⟨1, sampleEvents⟩]).1.reg.shares 8 = some sh ∧ sh.operatorId = 1 := by decide +kernel

/-! ## the node's own share needs a decryptable, matching key -/

/-- a stored share marked as the node's own (`OperatorID ≠ 0`) comes from an add event whose member for that
    operator id had a share key the node could decrypt and that matched the listed public key -/
theorem C11_own_share_only_if_key_ok (me : Nat) (bs : List Block) (hok : (run me init bs).2 = true) (pk : Nat) (sh : Share)
    (hf : findShare (run me init bs).1.reg.shares pk = some sh) (hown : sh.operatorId ≠ 0) :
    ∃ pre post sn len ms, flatten bs = pre ++ Event.validatorAdded sh.owner sh.pk sn len ms :: post ∧
      ∃ m ∈ ms, m.op = sh.operatorId ∧ m.decryptOk = true ∧ m.keyMatches = true ∧ sh.sharePk = some m.key := by
  obtain ⟨pre, post, sn, len, ms, he, _, _, hk, _⟩ := C11_add_sound me bs hok pk sh hf
  exact ⟨pre, post, sn, len, ms, he, hk hown⟩

/-- one step: an undecryptable or mismatching own share key never creates a share; for a validator that is not
    stored yet the event is malformed (skipped) — while the nonce has already been bumped
    (`C11_nonce_bumped_before_validation`) -/
theorem C11_bad_own_key_rejected (me blk : Nat) (n : Node) (owner pk : Nat) (sn : Option Nat) (len : Nat) (ms : List Member)
    (t : Tag) (hbad : scanCommittee n.reg.self ms = .error t) :
    (applyEvent me blk n (.validatorAdded owner pk sn len ms)).1.reg.shares = n.reg.shares ∧
    (findShare n.reg.shares pk = none → ∃ t', (applyEvent me blk n (.validatorAdded owner pk sn len ms)).2 = .malformed t') := by
  constructor
  · rw [applyEvent_reg]
    have he := regEvent_effect me blk n.reg (.validatorAdded owner pk sn len ms)
    generalize regEvent me blk n.reg _ = r' at he ⊢
    cases he with
    | same hadd _ => exact absurd rfl (hadd owner pk sn len ms)
    | addRejected => rfl
    | added _ _ _ _ _ own _ _ _ _ hc => cases hbad.symm.trans hc
  · intro hnone
    simp only [applyEvent, eventOutcome, regSteps, addSteps]
    rw [show findShare (viewOf n.reg).shares pk = none from hnone, show scanCommittee (viewOf n.reg).self ms = .error t from hbad]
    cases validateOperators (viewOf n.reg).ops (ms.map (·.op)) with
    | some t => exact ⟨_, rfl⟩
    | none =>
      dsimp only
      cases len != expectedSharesLen ms.length with
      | true => exact ⟨_, rfl⟩
      | false => cases sn != some (nextNonce (viewOf n.reg).recips owner) <;> exact ⟨_, rfl⟩

/-! ## only the owner can remove or exit a validator -/

/-- a ValidatorRemoved event of anybody but the share's owner changes nothing at all (malformed: wrong owner) -/
theorem C11_owner_only_remove (me blk : Nat) (n : Node) (owner pk : Nat) (ops : List Nat) (sh : Share)
    (hf : findShare n.reg.shares pk = some sh) (hne : owner ≠ sh.owner) :
    applyEvent me blk n (.validatorRemoved owner pk ops) = (n, .malformed .wrongOwner) := by
  have hb : (owner != sh.owner) = true := by simpa using hne
  simp [applyEvent, eventOutcome, regSteps, viewOf, hf, hb, runMacro]

/-- a ValidatorExited event of anybody but the share's owner changes nothing and produces no exit task -/
theorem C11_owner_only_exit (me blk : Nat) (n : Node) (owner pk : Nat) (ops : List Nat) (sh : Share)
    (hf : findShare n.reg.shares pk = some sh) (hne : owner ≠ sh.owner) :
    applyEvent me blk n (.validatorExited owner pk ops) = (n, .malformed .wrongOwner) := by
  have hb : (owner != sh.owner) = true := by simpa using hne
  simp [applyEvent, eventOutcome, regSteps, viewOf, hf, hb, runMacro]

/-- whatever the event: a stored share disappears from the registry only through a ValidatorRemoved event that
    carries the share's own owner (state inside a block, memory map in step with the transaction) -/
theorem C11_share_disappears_only_by_owner_removal (me blk : Nat) (n : Node) (e : Event) (pk : Nat) (sh : Share)
    (h1 : n.reg.shares = n.reg.txn.shares) (h2 : NodupPk n.reg.shares)
    (hf : findShare n.reg.shares pk = some sh)
    (hgone : findShare (applyEvent me blk n e).1.reg.shares pk = none) :
    ∃ ops, e = Event.validatorRemoved sh.owner pk ops := by
  rw [applyEvent_reg] at hgone
  exact (regEvent_effect me blk n.reg e).share_disappears ⟨h1, h2⟩ hf hgone

/-- an exit task is only produced for a stored share of that owner which is the node's own and has beacon metadata -/
theorem C11_exit_task_only_for_owner (me blk : Nat) (n : Node) (owner pk : Nat) (ops : List Nat) (t : Task)
    (h : (applyEvent me blk n (.validatorExited owner pk ops)).2 = .processed (some t)) :
    ∃ sh idx, findShare n.reg.shares pk = some sh ∧ sh.owner = owner ∧ belongs n.reg.self sh = true ∧
      sh.bmeta = some idx ∧ t = .exit sh.pk blk idx := by
  revert h
  simp only [applyEvent, eventOutcome, regSteps]
  cases hf : findShare (viewOf n.reg).shares pk with
  | none => exact nofun
  | some sh =>
    dsimp only
    cases ho : owner != sh.owner with
    | true => exact nofun
    | false =>
      cases hb : belongs (viewOf n.reg).self sh with
      | false => exact nofun
      | true =>
        cases hm : sh.bmeta with
        | none => exact nofun
        | some idx =>
          intro h
          exact ⟨sh, idx, hf, (bne_eq_false_iff_eq.1 ho).symm, hb, hm, (Option.some.inj (Outcome.processed.inj h)).symm⟩

example : (applyEvent 1 9 (run 1 init [⟨1, sampleEvents.take 6⟩]).1 (.validatorRemoved 2 8 [])).2 = .malformed .wrongOwner := by
  decide +kernel
example : (applyEvent 1 9 (run 1 init [⟨1, sampleEvents.take 6⟩]).1 (.validatorRemoved 1 8 [])).2 = .processed (some (.stop 8)) := by
  decide +kernel

/-! ## memory = database, restart reproduces -/

/-- After every completely processed run from a state between blocks: nothing is pending, the in-memory shares map
    equals the shares in the database, the wallet index in memory equals the stored one. -/
theorem C11_mem_eq_db (me : Nat) (n : Node) (bs : List Block) (hb : Boundary n) (hok : (run me n bs).2 = true) :
    (run me n bs).1.reg.shares = (run me n bs).1.reg.db.shares ∧
    (run me n bs).1.reg.txn = (run me n bs).1.reg.db ∧
    (run me n bs).1.wal.midx = (run me n bs).1.wal.pidx := by
  have h := run_boundary me n bs hb hok
  exact ⟨h.reg.shares, h.reg.txn, h.wal⟩

/-- the full claim: a restart after any completely processed run reproduces the state -/
def C11_load_persist_id_full : Prop :=
  ∀ (me : Nat) (bs : List Block), (run me init bs).2 = true → restart me (run me init bs).1 = (run me init bs).1

/-- REFUTED on this tree: operator id 0. The "already registered" guard only works once the own id is non-zero, so
    after `OperatorAdded(0, own key)` a second `OperatorAdded(7, own key)` is accepted and the running node believes
    to be operator 7, while a restarted node looks its key up in key order and finds operator 0
    (replayed on the real handler: corpus/C11/registry_operator_id_zero.ops). -/
theorem C11_load_persist_id_full_refuted : ¬ C11_load_persist_id_full := by
  intro h
  have := h 1 [⟨1, [.operatorAdded 0 1 1]⟩, ⟨2, [.operatorAdded 7 1 1]⟩] (by decide +kernel)
  revert this
  decide +kernel

/-- Restart reproduces the state (load ∘ persist = id on every state reached by a completely processed run), for
    every event list whose OperatorAdded ids are pairwise distinct and non-zero. -/
theorem C11_load_persist_id_partial (me : Nat) (n : Node) (bs : List Block) (hb : Boundary n) (hself : SelfInv me [] n.reg)
    (hwf : OpAddsWF (flatten bs)) (hok : (run me n bs).2 = true) :
    restart me (run me n bs).1 = (run me n bs).1 := by
  have hbd := run_boundary me n bs hb hok
  obtain ⟨_, hinv, htxn⟩ := run_sim_ideal me n bs hb.reg.txn hself hwf hok
  -- between blocks the operators in the database are those of the transaction, of which `SelfInv` speaks
  refine restart_eq me _ hbd ?_ ?_
  · rw [← htxn]; exact hinv.own
  · rw [← htxn]; exact hinv.has

theorem C11_load_persist_id_init (me : Nat) (bs : List Block) (hwf : OpAddsWF (flatten bs)) (hok : (run me init bs).2 = true) :
    restart me (run me init bs).1 = (run me init bs).1 :=
  C11_load_persist_id_partial me init bs init_boundary (init_selfInv me) hwf hok

example : OpAddsWF (flatten [⟨1, sampleEvents⟩]) ∧ (run 1 init [⟨1, sampleEvents⟩]).2 = true ∧
    (run 1 init [⟨1, sampleEvents⟩]).1.reg.self = 1 := by
  refine ⟨⟨by decide +kernel, by decide +kernel⟩, by decide +kernel, by decide +kernel⟩

/-- the same duplicate-operator-id witness also breaks the restart clause (own id kept in memory, operator
    overwritten in the database) -/
theorem C11_load_persist_id_dup_operator_refuted :
    restart 1 (run 1 init [⟨1, [.operatorAdded 5 1 1, .operatorAdded 5 1 2]⟩]).1 ≠
      (run 1 init [⟨1, [.operatorAdded 5 1 1, .operatorAdded 5 1 2]⟩]).1 := by decide +kernel

/-! ## memory vs database after a FAILED block (DESIGN §8-7) -/

/-- the stronger claim one might want: even if a block fails on a write error and the same process is asked again,
    memory equals the database after the next successful block -/
def C11_mem_eq_db_after_retry_full : Prop :=
  ∀ (me : Nat) (n : Node) (b : Block) (k : Nat), Boundary n →
    (applyBlock me (faultBlock me n b .retry k).1 b).2.1 = .ok →
    (applyBlock me (faultBlock me n b .retry k).1 b).1.reg.shares =
      (applyBlock me (faultBlock me n b .retry k).1 b).1.reg.db.shares

def retryStart : Node := (run 1 init [⟨1, sampleEvents.take 4⟩]).1
def retryBlock : Block :=
  ⟨2, [.validatorAdded 1 7 (some 0) 1312 [⟨1, 11, true, true⟩, ⟨2, 12, false, false⟩, ⟨3, 13, false, false⟩, ⟨4, 14, false, false⟩],
       .feeRecipientUpdated 1 9]⟩

/-- REFUTED on this tree (measured on the real handler: corpus/C11/registry_retry_memory.ops): `Shares().Save`
    updates the in-memory map inside the block transaction; when a later write of the block fails the transaction is
    discarded but the map keeps the share, the retried ValidatorAdded finds it in memory and never writes it.
    Not a violation of C11/C12 as stated: cli/operator/node.go ends the process on every error of the event stream
    (`logger.Fatal`), and a restart reloads the map from the database (`C11_load_persist_id_partial`). -/
theorem C11_mem_eq_db_after_retry_full_refuted : ¬ C11_mem_eq_db_after_retry_full := by
  intro h
  have := h 1 retryStart retryBlock 4 (run_boundary 1 init _ init_boundary (by decide +kernel)) (by decide +kernel)
  revert this
  decide +kernel

end Ssv.Registry
