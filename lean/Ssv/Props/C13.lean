/-
C13 — Every finalized-enough block's events are delivered once, in order.
Property theorems only (helper lemmas: Ssv/Proofs/LogStream.lean, model: Ssv/Model/LogStream.lean).

All statements quantify over EVERY chain (`Nat → List RawLog`), every batch size ≥ 1, every follow distance,
every start block and every fault script (`List Op`, no bound on its length).

How empty marker entries are treated: `fetchLogsInBatches` emits `BlockLogs{BlockNumber: toBlock}` (no logs) for a
batch without a non-removed log. The theorems say of EVERY delivered entry `e`, marker or not, that
`e.logs = nonRemoved chain e.block` — for a marker this reads "the block it names has no non-removed log" — and
that all delivered block numbers, markers included, are strictly increasing (the event handler rejects any
non-increasing block number, markers too). "Exactly one entry" is stated for the blocks that have non-removed
logs ("that emitted registry logs"); a block without such logs has no entry or one marker.
-/
import Ssv.Proofs.LogStream

namespace Ssv.LogStream

/-! ## ties to the regenerated facts -/

/-- the defaults the model imports are the ones of eth/executionclient/defaults.go -/
theorem C13_tie_constants :
    Gen.ls_DefaultHistoricalLogsBatchSize = 5000 ∧ 1 ≤ defaultBatch ∧
    Gen.ls_DefaultFollowDistance = 8 ∧ Gen.ls_defaultLogBuf = 8192 := by decide

/-- call structure the model transcribes: StreamLogs calls streamLogsToChan, then (after `tries++`)
    Fatal, then reconnect; streamLogsToChan subscribes once and fetches through fetchLogsInBatches;
    fetchLogsInBatches filters through FilterLogs and packs through PackLogs; FetchHistoricalLogs reads the head
    and fetches through the same loop; the syncer feeds both streams to HandleBlockEventsStream;
    the node runs SyncHistory before SyncOngoing. -/
theorem C13_tie_callsites :
    Gen.calls_ls_StreamLogs = ["streamLogsToChan", "Fatal", "reconnect"] ∧
    Gen.calls_ls_streamLogsToChan = ["SubscribeNewHead", "Unsubscribe", "fetchLogsInBatches"] ∧
    Gen.calls_ls_fetchLogsInBatches = ["FilterLogs", "PackLogs"] ∧
    Gen.calls_ls_FetchHistoricalLogs = ["BlockNumber", "fetchLogsInBatches"] ∧
    Gen.calls_ls_SyncHistory = ["FetchHistoricalLogs", "HandleBlockEventsStream"] ∧
    Gen.calls_ls_SyncOngoing = ["StreamLogs", "HandleBlockEventsStream"] ∧
    Gen.calls_ls_setupEventHandling = ["SyncHistory", "SyncOngoing"] :=
  ⟨rfl, rfl, rfl, rfl, rfl, rfl, rfl⟩

/-- numeric literals and operators (log/error message strings are not among them) -/
def opTokens : List String := ["0", "1", "2", "3", "100", "u<-", "||", "&&", "==", "!=", "++", "--", ">", "<", ">=", "<=",
  "-", "+", "*", "/", "%", "+=", "-=", "*=", "/=", "<<", ">>"]

def allTrue (l : List Bool) : Bool := l.all id

/-- The statements the model of `StreamLogs` relies on occur in its body: the returned cursor is bound to
    `nextBlock`, the retry counter is incremented and compared with the literal 2 BEFORE the progress test
    `nextBlock > fromBlock` resets it, the client reconnects and continues from exactly `nextBlock`. -/
theorem C13_tie_StreamLogs :
    Gen.has_ls_StreamLogs.length = 10 ∧ allTrue Gen.has_ls_StreamLogs = true ∧
    Gen.lits_ls_StreamLogs.filter (fun s => decide (s ∈ opTokens))
      = ["0", "u<-", "u<-", "||", "==", "++", ">", "2", ">", "0"] ∧
    maxTries = 2 := by decide +kernel

/-- `streamLogsToChan`: every `return` statement the model knows yields `fromBlock` (subscribe failure, context
    done, closed, subscription error, fetch error), heads below the follow distance or below the cursor are skipped,
    the cursor advances by `block.BlockNumber + 1` per forwarded entry and to `toBlock + 1` after a complete fetch;
    its operators are exactly these (no further arithmetic on the cursor). -/
theorem C13_tie_streamLogsToChan :
    Gen.has_ls_streamLogsToChan.length = 16 ∧ allTrue Gen.has_ls_streamLogsToChan = true ∧
    Gen.lits_ls_streamLogsToChan.filter (fun s => decide (s ∈ opTokens))
      = ["!=", "u<-", "u<-", "u<-", "==", "u<-", "<", "-", "<", "+", "1", "u<-", "!=", "+", "1"] := by decide +kernel

/-- `fetchLogsInBatches`: loop header `fromBlock := startBlock; …; fromBlock += ec.logBatchSize`, the `toBlock`
    clamp, the FilterLogs range `[fromBlock, toBlock]`, error ⇒ `errors <- err`, removed-log filter, the empty-batch
    marker `BlockLogs{BlockNumber: toBlock}`, `PackLogs` otherwise; and its operator list is exactly the known one
    (a retry/resize of the batch would add operators or change the post statement). -/
theorem C13_tie_fetchLogsInBatches :
    Gen.has_ls_fetchLogsInBatches.length = 22 ∧ allTrue Gen.has_ls_fetchLogsInBatches = true ∧
    Gen.lits_ls_fetchLogsInBatches.filter (fun s => decide (s ∈ opTokens))
      = ["1", ">", "<=", "+=", "-", "+", "1", ">", "!=", "*", "/", "+", "-", "1", "+", "-", "1", "100", "u<-", "u<-", "0", "==", "0"] := by
  decide +kernel

/-- `FetchHistoricalLogs` (head − follow, the two nothing-to-sync tests, same batch loop) and `PackLogs`
    (sort key (BlockNumber, TxIndex), new entry when the block number changes, append otherwise) -/
theorem C13_tie_historical_pack :
    Gen.has_ls_FetchHistoricalLogs.length = 6 ∧ allTrue Gen.has_ls_FetchHistoricalLogs = true ∧
    Gen.lits_ls_FetchHistoricalLogs.filter (fun s => decide (s ∈ opTokens)) = ["!=", "<", "-", "<"] ∧
    Gen.has_ls_PackLogs.length = 7 ∧ allTrue Gen.has_ls_PackLogs = true ∧
    Gen.lits_ls_PackLogs.filter (fun s => decide (s ∈ opTokens))
      = ["==", "<", "<", "||", "==", "0", "!=", "-", "1", "-", "1", "-", "1"] := by decide +kernel

/-- the syncer, the node's hand-over (`SyncOngoing` from `lastProcessedBlock + 1`; unchanged `fromBlock` when there
    was nothing to sync; start at stored block + 1) and the handler's monotonicity check -/
theorem C13_tie_syncer_handover :
    Gen.has_ls_SyncHistory.length = 8 ∧ allTrue Gen.has_ls_SyncHistory = true ∧
    Gen.has_ls_SyncOngoing.length = 3 ∧ allTrue Gen.has_ls_SyncOngoing = true ∧
    Gen.has_ls_setupEventHandling.length = 6 ∧ allTrue Gen.has_ls_setupEventHandling = true ∧
    Gen.has_ls_HandleBlockEventsStream.length = 2 ∧ allTrue Gen.has_ls_HandleBlockEventsStream = true ∧
    Gen.has_ls_processBlockEvents.length = 3 ∧ allTrue Gen.has_ls_processBlockEvents = true := by decide

/-! ## the property, stated once for any stream implementation -/

/-- C13 for a stream implementation `out` (delivered entries after a script) with `quiet` telling whether, after a
    script prefix, the client is alive and no fetch failure is armed:
    (1) delivered block numbers strictly increase;
    (2) every delivered entry lies at or above the requested start and carries exactly its block's non-removed
        logs, in the node's order (markers: the block has none);
    (3) for every head `n` that arrives while the client is alive and unharmed — whatever faults came before and
        whatever comes after — every block of `[start, n − follow]` that has non-removed logs has exactly one
        entry, carrying exactly these logs. -/
def C13_statement (quiet : Cfg → Nat → List Op → Bool) (out : Cfg → Nat → List Op → List BlockLogs) : Prop :=
  ∀ (cfg : Cfg) (start : Nat) (ops : List Op), 1 ≤ cfg.batch → ChainSorted cfg.chain →
    ((out cfg start ops).map (·.block)).Pairwise (· < ·) ∧
    (∀ e ∈ out cfg start ops, start ≤ e.block ∧ e.logs = nonRemoved cfg.chain e.block) ∧
    (∀ pre n post, ops = pre ++ Op.head n :: post → quiet cfg start pre = true → cfg.follow ≤ n →
      ∀ b, start ≤ b → b ≤ n - cfg.follow → nonRemoved cfg.chain b ≠ [] →
        (out cfg start ops).filter (fun e => e.block = b) = [⟨b, nonRemoved cfg.chain b⟩])

/-- the cursor handling after e592c25d6, as /repo has it -/
def newOut (cfg : Cfg) (start : Nat) (ops : List Op) : List BlockLogs := (streamLogs cfg start ops).out
def newQuiet (cfg : Cfg) (start : Nat) (ops : List Op) : Bool :=
  !(streamLogs cfg start ops).aborted && (streamLogs cfg start ops).armFetch.isNone

/-- the cursor handling before e592c25d6 -/
def oldOut (cfg : Cfg) (start : Nat) (ops : List Op) : List BlockLogs := (streamOldLogs cfg start ops).out
def oldQuiet (cfg : Cfg) (start : Nat) (ops : List Op) : Bool :=
  !(streamOldLogs cfg start ops).aborted && (streamOldLogs cfg start ops).armFetch.isNone

/-! ## the cursor invariant (induction over the script) -/

/-- After EVERY script: everything in `[start, cursor)` has been delivered exactly once, nothing at or above the
    cursor, in strictly increasing order; the cursor never moves back. Holds also when the client gave up
    (`aborted`): the delivered sequence is then simply frozen. -/
theorem C13_cursor_invariant (cfg : Cfg) (hb : 1 ≤ cfg.batch) (hc : ChainSorted cfg.chain)
    (start : Nat) (ops : List Op) :
    let s := streamLogs cfg start ops
    (s.out.map (·.block)).Pairwise (· < ·) ∧
    (∀ e ∈ s.out, start ≤ e.block ∧ e.block < s.cursor ∧ e.logs = nonRemoved cfg.chain e.block) ∧
    (∀ b, start ≤ b → b < s.cursor → nonRemoved cfg.chain b ≠ [] →
      s.out.filter (fun e => e.block = b) = [⟨b, nonRemoved cfg.chain b⟩]) ∧
    start ≤ s.cursor := by
  have h := inv_streamLogs hb hc start ops
  exact ⟨h.ok.incr, h.ok.sound, fun b h1 h2 h3 => h.ok.unique h1 h2 h3, h.ge⟩

/-- the cursor is monotone along the script -/
theorem C13_cursor_monotone (cfg : Cfg) (hb : 1 ≤ cfg.batch) (hc : ChainSorted cfg.chain)
    (start : Nat) (pre post : List Op) :
    (streamLogs cfg start pre).cursor ≤ (streamLogs cfg start (pre ++ post)).cursor := by
  unfold streamLogs
  rw [run_append]
  exact (inv_run hb hc post (inv_streamLogs hb hc start pre)).2

/-- a head that arrives while the client is alive with no fetch failure armed moves the cursor past
    `n − followDistance`, for good -/
theorem C13_head_caught_up (cfg : Cfg) (hb : 1 ≤ cfg.batch) (hc : ChainSorted cfg.chain)
    (start : Nat) (pre post : List Op) (n : Nat)
    (hq : newQuiet cfg start pre = true) (hf : cfg.follow ≤ n) :
    n - cfg.follow < (streamLogs cfg start (pre ++ Op.head n :: post)).cursor := by
  simp only [newQuiet, Bool.and_eq_true, Bool.not_eq_true', Option.isNone_iff_eq_none] at hq
  have hpre := inv_streamLogs hb hc start pre
  unfold streamLogs
  rw [run_append, run_cons]
  exact Nat.lt_of_lt_of_le (step_head_reaches hb hq.1 hq.2 hf) (inv_run hb hc post (inv_step hb hc hpre _).1).2

/-! ## C13 for the code as it is -/

/-- **C13** for every chain, batch size ≥ 1, follow distance, start block and every placement of faults. -/
theorem C13_stream_correct : C13_statement newQuiet newOut := by
  intro cfg start ops hb hc
  have h := (inv_streamLogs hb hc start ops).ok
  refine ⟨h.incr, fun e he => ⟨h.ge he, h.logs he⟩, ?_⟩
  intro pre n post hops hq hf b h1 h2 hnr
  -- the head `n` moved the cursor past `n − follow`, so `b` lies below the cursor
  exact h.unique h1 (Nat.lt_of_le_of_lt h2 (hops ▸ C13_head_caught_up cfg hb hc start pre post n hq hf)) hnr

/-- non-vacuity of `C13_stream_correct`: a chain with logs in every third block (two in the same transaction in
    some), start 10, follow 2, batch 5, a fetch failure in the second batch, a dropped connection and a failed
    re-subscribe: hypotheses hold and the delivered sequence is the expected non-trivial one. -/
example :
    let cfg : Cfg := ⟨fun b => if b % 3 = 1 then [⟨b, 0, false⟩, ⟨b + 100, 0, b % 2 = 0⟩] else [], 5, 2⟩
    let ops := [Op.fetchErr 1, .head 25, .subFail, .connDrop, .head 30]
    1 ≤ cfg.batch ∧ newQuiet cfg 10 [Op.fetchErr 1, .head 25, .subFail, .connDrop] = true ∧ cfg.follow ≤ 30 ∧
    (newOut cfg 10 ops).map (fun e => (e.block, e.logs.map (·.id))) =
      [(10, [10]), (13, [13, 113]), (16, [16]), (19, [19, 119]), (22, [22]), (25, [25, 125]), (28, [28])] := by
  decide

/-! ## when the client gives up -/

/-- `StreamLogs` calls `logger.Fatal` on the third failure in a row without progress in between; in particular a
    script with at most two faults never makes it give up, so `newQuiet` then only asks that no fetch failure
    is still armed. (The safety parts (1), (2) and the cursor invariant need no such hypothesis.) -/
theorem C13_no_abort_upto_two_faults (cfg : Cfg) (hb : 1 ≤ cfg.batch) (start : Nat) (ops : List Op)
    (h : faults ops ≤ 2) : (streamLogs cfg start ops).aborted = false :=
  no_abort_of_faults_le_two hb start ops h

/-- … and the bound is sharp: three failures in a row make it give up. The counter is reset only when a
    *failing* call had delivered something and the counter was still ≤ 2 at that moment (`tries > 2` is tested
    before the reset): so a failing call with progress resets it (second line), but after two failures without
    progress the next failure is fatal however much was streamed in between (third line). None of this affects
    what has been delivered (C13_cursor_invariant holds in every case). -/
theorem C13_abort_on_third_failure :
    (streamLogs ⟨fun _ => [], 5, 2⟩ 10 [.subErr, .connDrop, .subErr]).aborted = true ∧
    (streamLogs ⟨fun _ => [], 5, 2⟩ 10 [.subErr, .fetchErr 1, .head 30, .connDrop, .subErr]).aborted = false ∧
    (streamLogs ⟨fun _ => [], 5, 2⟩ 10 [.subErr, .connDrop, .head 30, .head 40, .subErr]).aborted = true := by
  decide

/-! ## the cursor handling before the repair violates C13 -/

def witnessChain : Nat → List RawLog := fun b => if b % 3 = 1 then [⟨b, 0, false⟩] else []

theorem C13_witnessChain_sorted : ChainSorted witnessChain := by
  intro b
  unfold witnessChain
  split
  · exact List.pairwise_singleton _ _
  · exact List.Pairwise.nil

/-- Witness 1 (start 10, follow 2, batch 5, logs every third block): head 20, connection dropped
    between heads, head 30. The old `StreamLogs` continued at `cursor + 1`: block 19 — which has a log — is never
    delivered although head 30 was processed by a live, unharmed client. -/
theorem C13_old_cursor_refuted : ¬ C13_statement oldQuiet oldOut := by
  intro h
  obtain ⟨-, -, hcomplete⟩ :=
    h ⟨witnessChain, 5, 2⟩ 10 [.head 20, .connDrop, .head 30] (by decide) C13_witnessChain_sorted
  have := hcomplete [.head 20, .connDrop] 30 [] rfl (by decide) (by decide) 19 (by decide) (by decide) (by decide)
  revert this
  decide

/-- what the old code delivered on witness 1, and what the repaired code delivers -/
theorem C13_old_cursor_witness_trace :
    (oldOut ⟨witnessChain, 5, 2⟩ 10 [.head 20, .connDrop, .head 30]).map (·.block) = [10, 13, 16, 22, 25, 28] ∧
    (newOut ⟨witnessChain, 5, 2⟩ 10 [.head 20, .connDrop, .head 30]).map (·.block) = [10, 13, 16, 19, 22, 25, 28] := by
  decide

/-- Witness 2: the first `eth_getLogs` of a call fails. The old named result was still 0, so the
    stream restarted at block 1 — below the requested start 10 (clause (2) fails). -/
theorem C13_old_cursor_refuted_restart :
    ¬ (∀ e ∈ oldOut ⟨witnessChain, 5, 2⟩ 10 [.fetchErr 0, .head 20, .head 30], 10 ≤ e.block) ∧
    (oldOut ⟨witnessChain, 5, 2⟩ 10 [.fetchErr 0, .head 20, .head 30]).map (·.block)
      = [1, 4, 7, 10, 13, 16, 19, 22, 25, 28] ∧
    (newOut ⟨witnessChain, 5, 2⟩ 10 [.fetchErr 0, .head 20, .head 30]).map (·.block)
      = [10, 13, 16, 19, 22, 25, 28] := by
  decide

/-! ## historical fetch, the handler's check, and the hand-over to the stream -/

/-- The event handler (`processBlockEvents`: "same or higher block has already been processed") accepts every
    stream the client produces, provided its stored block is below the start. -/
theorem C13_handler_accepts (cfg : Cfg) (hb : 1 ≤ cfg.batch) (hc : ChainSorted cfg.chain)
    (start db : Nat) (hdb : db < start) (ops : List Op) :
    handleStream db 0 (streamLogs cfg start ops).out ≠ none :=
  (inv_streamLogs hb hc start ops).ok.handler_accepts hdb 0

/-- Hand-over as `setupEventHandling` does it: `SyncHistory(from)` succeeded with `lastProcessedBlock = last`
    while the head was `H`, then `SyncOngoing(last + 1)`. For EVERY fault script of the stream, the concatenation
    of both deliveries is strictly increasing, each entry carries exactly its block's non-removed logs, every
    block with non-removed logs in `[from, H − follow]` (covered by the historical part, even if `last` is smaller
    because the tail of the range was empty) or in `[from, cursor)` has exactly one entry, and the handler accepts
    the whole sequence. -/
theorem C13_history_then_stream (cfg : Cfg) (hb : 1 ≤ cfg.batch) (hc : ChainSorted cfg.chain)
    (db fromB : Nat) (hdb : db < fromB) (cur arm : Option Nat) (hist : List BlockLogs) (last : Nat)
    (hs : syncHistory cfg db fromB cur arm = .ok (hist, last)) (ops : List Op) :
    let s := streamLogs cfg (last + 1) ops
    let all := hist ++ s.out
    ∃ H, cur = some H ∧ cfg.follow ≤ H ∧ fromB ≤ H - cfg.follow ∧ fromB ≤ last ∧ last ≤ H - cfg.follow ∧
    (all.map (·.block)).Pairwise (· < ·) ∧
    (∀ e ∈ all, fromB ≤ e.block ∧ e.logs = nonRemoved cfg.chain e.block) ∧
    (∀ b, fromB ≤ b → (b < s.cursor ∨ b ≤ H - cfg.follow) → nonRemoved cfg.chain b ≠ [] →
      all.filter (fun e => e.block = b) = [⟨b, nonRemoved cfg.chain b⟩]) ∧
    handleStream db 0 all ≠ none := by
  obtain ⟨H, hcur, hfol, hfrom, hlast, hH, hL⟩ := syncHistory_ok hb hc hs
  have hinv := inv_streamLogs hb hc (last + 1) ops
  have hall := hL.append hinv.ok (Nat.le_succ_of_le hfrom) hinv.ge
  refine ⟨H, hcur, hfol, Nat.le_trans hfrom hlast, hfrom, hlast, hall.incr,
    fun e he => ⟨hall.ge he, hall.logs he⟩, fun b hb1 hb2 hnr => ?_, hall.handler_accepts hdb 0⟩
  refine hall.unique hb1 (hb2.elim id fun hb2 => ?_) hnr
  -- a block up to `H − follow` that has logs has an entry in `hist`, whose number is at most `last`
  obtain ⟨e, he, rfl⟩ := hH.complete b hb1 (Nat.lt_succ_of_le hb2) hnr
  exact Nat.lt_of_lt_of_le (hL.lt he) hinv.ge

/-- when there is nothing to sync the node streams from the unchanged `fromBlock` (C13_stream_correct applies
    as is); every other historical error is fatal for the node (no hand-over happens) -/
theorem C13_history_nothing_to_sync (cfg : Cfg) (db fromB : Nat) (cur arm : Option Nat) (ops : List Op)
    (hs : syncHistory cfg db fromB cur arm = .error .nothingToSync) :
    nodeSync cfg db fromB cur arm ops = .ok ([], streamLogs cfg fromB ops) := by
  simp [nodeSync, hs]

/-- `nodeSync` is exactly the hand-over `C13_history_then_stream` speaks of -/
theorem C13_history_handover_cursor (cfg : Cfg) (db fromB : Nat) (cur arm : Option Nat) (ops : List Op)
    (hist : List BlockLogs) (last : Nat) (hs : syncHistory cfg db fromB cur arm = .ok (hist, last)) :
    nodeSync cfg db fromB cur arm ops = .ok (hist, streamLogs cfg (last + 1) ops) := by
  simp [nodeSync, hs]

/-- non-vacuity: a historical sync whose last batch ends in empty blocks (`last = 22 < 23 = head − follow`),
    followed by a stream with a dropped connection -/
example :
    (match nodeSync ⟨witnessChain, 5, 2⟩ 0 10 (some 25) none [.head 27, .connDrop, .head 33] with
     | .ok (hist, s) => (hist.map BlockLogs.block, s.out.map BlockLogs.block, s.cursor)
     | .error _ => ([], [], 0)) = ([10, 13, 16, 19, 22], [25, 28, 31], 32) := by
  decide

end Ssv.LogStream
