/-
C01 — Consensus agreement for EVERY height of a multi-height run (lifts the "one height per system" scope of C01LayerB).

System: `Ssv/Model/Qbft/SystemM.lean` — one executable controller per operator running through many heights:
`start i h v` (`StartNewInstance` for ANY height: refused below the controller height or for a stored height, `forceStopOthers`,
the sorted 2-slot container ejects the lowest), `deliver i m` for messages of ANY height (decided messages for past / current /
future heights, future ones create a decided instance and bump `Height`; `UponExistingInstanceMsg` routes by height),
`timeout i h r`; same adversary and unforgeability as C01LayerB (per signed content, including the height).

RESULT: agreement holds per height, unconditionally (`C01_agreement_all_heights`): for every height h the projection of the
ghost trace to h satisfies Layer A's rules H0–H7 (`C01_heights_rules`). No scope restriction.

What had to be checked about instance eviction and RE-CREATION (Ssv/Proofs/QbftMulti*.lean):
* the container is always strictly sorted, holds at most 2 instances, none above the controller height, and — as a set of
  heights — the two highest heights ever added (`CInv`, `ins_of_add`);
* an instance is ejected only when two HIGHER heights are stored (`OStep.evict` carries `Blocked`), and `Blocked h` is permanent
  (`C01_evicted_never_restored`): from then on `UponDecided` for h still validates the certificate, re-creates a decided
  instance, reports the decision AGAIN (`HStep.dropped`: ghost events G, D — the C03/C15 re-report), but `addNewInstance`
  drops the fresh instance at once; every other message for h is `instance not found`; `StartNewInstance(h)` is refused
  (`h < Height`). So a re-created instance never survives, never accepts a second proposal, never prepares or commits:
  H1 cannot break. The re-reported decision is backed by an authentic commit quorum of that height (H7), hence equals every
  other decision of the height.
* `forceStopOthers` only removes behaviour (`NodeInv.upd_forceStop`).
Light node, no runner compaction, as in C01LayerB.
-/
import Ssv.Proofs.QbftMultiExample

namespace Ssv.Qbft.M
open Ssv.Qbft Ssv.Qbft.B

variable {P : Params}

/-- all eight Layer-A rules hold of the height-h projection of the ghost trace, in every reachable state -/
theorem C01_heights_rules (hP : P.Valid) {σ : Sys P} (hr : Reachable σ) (h : Nat) : QAbs.Rules (ctxH hP σ h) :=
  (inv_of_reachable hP hr).rules h

/-- AGREEMENT PER HEIGHT for the executable multi-height system: any two correct operators that reported a decision for
    height h reported the same value — all committee sizes n = 3f+1, all heights, start values, schedules, Byzantine
    behaviours, including decisions re-reported after the instance was ejected from the container. -/
theorem C01_agreement_all_heights (hP : P.Valid) {σ : Sys P} (hr : Reachable σ) {h : Nat} {i j : Op P} {v v' : Nat}
    (hi : P.honest i = true) (hj : P.honest j = true) (hv : reportedAt σ h i v) (hv' : reportedAt σ h j v') : v = v' := by
  obtain ⟨r, hm⟩ := hv
  obtain ⟨r', hm'⟩ := hv'
  exact agreement_of_rules (C01_heights_rules hP hr h) (i := i) (j := j) hi hj (mem_trP.2 hm) (mem_trP.2 hm')

/-- a stored instance that is decided has reported that decision -/
theorem C01_decided_reported_at (hP : P.Valid) {σ : Sys P} (hr : Reachable σ) {h : Nat} {i : Op P} {v : Nat}
    (hi : P.honest i = true) (hd : decidedStateAt σ h i v) : reportedAt σ h i v := by
  obtain ⟨s, hs, hdec, hval⟩ := hd
  have hn := (nodeSt_some hs).1 ((inv_of_reachable hP hr).node i hi h)
  obtain ⟨r, hr'⟩ := hn.dec hdec
  rw [hval] at hr'
  exact ⟨r, mem_trP.1 hr'⟩

/-- agreement on the stored instance states of a height -/
theorem C01_state_agreement_at (hP : P.Valid) {σ : Sys P} (hr : Reachable σ) {h : Nat} {i j : Op P} {v v' : Nat}
    (hi : P.honest i = true) (hj : P.honest j = true) (hv : decidedStateAt σ h i v) (hv' : decidedStateAt σ h j v') :
    v = v' :=
  C01_agreement_all_heights hP hr hi hj (C01_decided_reported_at hP hr hi hv) (C01_decided_reported_at hP hr hj hv')

/-- the container of every operator is strictly sorted, holds at most two instances, none above the controller height -/
theorem C01_container_inv (hP : P.Valid) {σ : Sys P} (hr : Reachable σ) (i : Op P) : CInv (σ.ctrl i) :=
  (inv_of_reachable hP hr).shape i

/-- eviction is final: once two higher heights are stored for operator i, no enabled step ever stores an instance for
    height h again (a re-created decided instance is dropped by `addNewInstance`; `StartNewInstance(h)` is refused) -/
theorem C01_evicted_never_restored (hP : P.Valid) {σ : Sys P} (hr : Reachable σ) (a : Action P)
    (hen : enabled σ a = true) (i : Op P) (h : Nat) (hb : Blocked h (σ.ctrl i)) :
    Blocked h ((step σ a).ctrl i) ∧ instAt h ((step σ a).ctrl i) = none :=
  blocked_step hP (inv_of_reachable hP hr) a hen i h hb

/-- non-vacuity, with eviction and re-creation: operators 2, 3 decided heights 1, 2, 5 (values 5, 7, 8); operator 1 accepted the
    height-1 proposal, its height-1 instance was ejected by the decided messages of heights 2 and 5 (container = [5, 2]), and
    the decided message of height 1 made it report height 1 again — value 5, the same as the others -/
example : exP.Valid ∧ Reachable exSys ∧ exP.honest 0 = true ∧ exP.honest 1 = true ∧
    reportedAt exSys 1 0 5 ∧ reportedAt exSys 1 1 5 ∧ reportedAt exSys 2 0 7 ∧ reportedAt exSys 5 0 8 ∧
    hts (exSys.ctrl 0) = [5, 2] ∧ instAt 1 (exSys.ctrl 0) = none ∧ Blocked 1 (exSys.ctrl 0) ∧
    (1, Ev.P 0 1 5) ∈ exSys.trace := by
  obtain ⟨ht0, ht1⟩ := ex_trace
  obtain ⟨hc1, hc2⟩ := ex_container
  have hmem : ∀ e, e ∈ exSys.trace.filter (fun x => x.2.node == (0 : Op exP)) → e ∈ exSys.trace :=
    fun e he => (List.mem_filter.1 he).1
  have hp1 : ∀ e : Ev (Op exP), e ∈ proj 1 exSys.trace → (1, e) ∈ exSys.trace := fun e he => mem_proj.1 he
  refine ⟨exP_valid, ex_reachable, by decide, by decide,
    ⟨1, hp1 _ (by rw [ht1]; exact List.mem_of_getElem? (i := 8) rfl)⟩,
    ⟨1, hp1 _ (by rw [ht1]; exact List.mem_of_getElem? (i := 4) rfl)⟩,
    ⟨1, hmem _ (by rw [ht0]; exact List.mem_of_getElem? (i := 2) rfl)⟩,
    ⟨1, hmem _ (by rw [ht0]; exact List.mem_of_getElem? (i := 4) rfl)⟩, hc1, hc2, ⟨5, 2, hc1, by decide⟩,
    hp1 _ (by rw [ht1]; exact List.mem_of_getElem? (i := 6) rfl)⟩

/-- the rules hold of every height of that state (instance of `C01_heights_rules`) -/
example (h : Nat) : QAbs.Rules (ctxH exP_valid exSys h) := C01_heights_rules exP_valid ex_reachable h

end Ssv.Qbft.M
