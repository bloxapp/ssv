/-
C16 — Each assigned beacon duty is dispatched exactly once, at its slot.
Property theorems only.  Model: Ssv/Model/Duties.lean (attester / proposer / sync-committee handler and duty store,
the code as it is after fixes 1e0cc1057 and f167f5eb9; the handlers before the fix are kept as `stepOld`/`runOld`); the four clauses as
checks over the output atoms of a run: Ssv/Proofs/DutiesSpec.lean; helper lemmas and the inductive invariants:
Ssv/Proofs/Duties*.lean.

Every theorem quantifies over ALL network parameters, initial clocks, initial fetch outcomes and ALL event lists
(ticks, reorg notices, indices-change notices, each tick paired with arbitrary fetch outcomes `noIdx | fail | ok`),
i.e. over every interleaving of the three event sources with fetch failures and changing assignments, across any
number of epoch and sync-period boundaries.  Nothing is bounded.

LEVEL: partial (DESIGN §7.16).  Outside the model: wall-clock tick timing (the clock is an event argument; the
exactly-once clause only speaks about ticks whose clock equals their slot), the `ExecuteDuties` goroutines and the
one-third-slot wait; slot-ticker uniqueness is the hypothesis `ticksIncreasing`.

Hypothesis of the exactly-once theorem, `envOK`: tick slots strictly increase and NO TICK IS HANDLED AFTER AN EVENT THAT
CARRIES A LATER SLOT.  Notices may be handled arbitrarily late (a reorg / indices-change notice for slot 63 after the
tick of slot 64 or 70).  What it excludes is a tick that the select loop takes after a notice of a later slot; for that
order the statement is still FALSE of the fixed code (`C16_dispatch_exactly_once_if_fetched_anyorder_refuted`:
a reorg(previous) notice of the first half of epoch e+1 handled before the last tick of epoch e).
-/
import Ssv.Proofs.DutiesLiveProp
import Ssv.Proofs.DutiesLiveAtt
import Ssv.Model.DutiesIndices

namespace Ssv.Duties

/-! ## ties to the regenerated facts -/

def isStrLit (s : String) : Bool := s.front == '"'
/-- literals / operators of a function body, string literals (log texts) dropped -/
def noStr (l : List String) : List String := l.filter (fun s => !isStrLit s)

/-- constants and arithmetic the model was written against: `syncCommitteePreparationEpochs`, the slot fractions of
    `shouldFetchNexEpoch` (`%`, `>`, `/2-2`) and `shouldFetchNextPeriod` (`>= /2-1`, `>= epp-prep`), the windows of
    the three `shouldExecute`, `LastSlotOfSyncPeriod` (`… - 2`), 256 epochs per period -/
theorem C16_tie_constants :
    Gen.duties_syncCommitteePreparationEpochs = 2 ∧ syncPrep = Gen.duties_syncCommitteePreparationEpochs ∧
    Gen.lits_att_shouldFetchNexEpoch = [">", "%", "-", "/", "2", "2"] ∧
    Gen.lits_sync_shouldFetchNextPeriod = ["&&", ">=", "%", "-", "/", "2", "1", ">=", "%", "-"] ∧
    Gen.lits_att_shouldExecute = ["&&", ">=", "<=", "-", "==", "+", "1"] ∧
    Gen.lits_prop_shouldExecute = ["==", "==", "+", "1"] ∧
    Gen.lits_sync_shouldExecute = ["==", "==", "+", "1"] ∧
    Gen.lits_net_LastSlotOfSyncPeriod = ["-", "+", "1", "1", "-", "+", "1", "2"] ∧
    Gen.lits_net_EpochsPerSyncCommitteePeriod = ["256"] :=
  ⟨rfl, rfl, rfl, rfl, rfl, rfl, rfl, rfl, rfl⟩

/-- arithmetic inside the three `HandleDuties` bodies (mid-epoch flag `== …/2-2`, last slot `== …-1`, `epoch+1`,
    `epoch-1`, `period±1`); log strings are ignored -/
theorem C16_tie_handler_arithmetic :
    noStr Gen.lits_att_HandleDuties =
      ["u<-", "u<-", "+", "%", "32", "1", "&&", "||", "u!", "!=", "==", "%", "-", "/", "2", "2", "==", "%", "-", "1",
       "u<-", "+", "%", "32", "1", "+", "1", "+", "1", "&&", "==", "+", "1", "u<-", "+", "%", "32", "1", "+", "1", "&&",
       "==", "+", "1"] ∧
    noStr Gen.lits_prop_HandleDuties =
      ["u<-", "u<-", "+", "%", "32", "1", "+", "1", "*", "100", "u!", "==", "%", "-", "1", "-", "1", "u<-", "+", "%",
       "32", "1", "u<-", "+", "%", "32", "1"] ∧
    noStr Gen.lits_sync_HandleDuties =
      ["u<-", "u<-", "+", "%", "32", "1", "&&", "||", "u!", "!=", "+", "1", "*", "100", "&&", "==", "%", "-", "/", "2",
       "2", "==", "%", "-", "==", "-", "1", "u<-", "+", "%", "32", "1", "&&", "+", "1", "&&", "==", "+", "1", "u<-", "+",
       "%", "32", "1"] := by decide +kernel

/-- the blocks added by the fix are present: first tick of a new epoch / period with the next-fetch flag still set ⇒
    fetch the current epoch / period first; late notice (the epoch / period just reset is already being ticked) ⇒ fetch
    first; the epoch / period of the last tick is recorded on every tick -/
theorem C16_tie_fix_blocks :
    Gen.has_att_HandleDuties = [true, true, true, true, true] ∧
    Gen.has_sync_HandleDuties = [true, true, true, true, true] := ⟨rfl, rfl⟩

/-- proposer ticker branch after fix f167f5eb9: `h.fetchFirst = !h.processFetching(ctx, currentEpoch, slot)` is present,
    the unconditional `h.fetchFirst = false` is GONE; `if h.fetchFirst`, `if h.indicesChanged`, `h.indicesChanged = false`,
    `h.fetchFirst = true` are present; `processFetching` returns `false` inside `if err != nil` and `true` otherwise -/
theorem C16_tie_proposer_retry :
    Gen.has_prop_HandleDuties = [true, false, true, true, true, true] ∧
    Gen.has_prop_processFetching = [true, true, true] := ⟨rfl, rfl⟩

/-- call-site facts: in every ticker branch the fetch-first path fetches then executes and the regular path
    executes BEFORE it re-fetches; `ResetEpoch`/`Reset` calls of the ticker / reorg / indices branches;
    all three fetches reset the epoch (period) AFTER the successful beacon call and before adding;
    `processExecution` = store lookup → `shouldExecute` → `executeDuties` -/
theorem C16_tie_callsites :
    Gen.calls_att_HandleDuties =
      ["processFetching", "processExecution", "processExecution", "ResetEpoch", "processFetching", "ResetEpoch",
       "ResetEpoch", "shouldFetchNexEpoch", "ResetEpoch", "shouldFetchNexEpoch", "ResetEpoch",
       "shouldFetchNexEpoch", "ResetEpoch"] ∧
    Gen.calls_prop_HandleDuties =
      ["processFetching", "processExecution", "processExecution", "processFetching", "ResetEpoch", "ResetEpoch"] ∧
    Gen.calls_sync_HandleDuties =
      ["shouldFetchNextPeriod", "processFetching", "processExecution", "processExecution", "processFetching",
       "LastSlotOfSyncPeriod", "Reset", "shouldFetchNextPeriod", "Reset", "shouldFetchNextPeriod"] ∧
    Gen.calls_att_fetch = ["CommitteeActiveIndices", "AttesterDuties", "ResetEpoch", "Add"] ∧
    Gen.calls_prop_fetch = ["AllActiveIndices", "CommitteeActiveIndices", "ProposerDuties", "ResetEpoch", "Add"] ∧
    Gen.calls_sync_fetch =
      ["FirstEpochOfSyncPeriod", "EstimatedCurrentEpoch", "FirstEpochOfSyncPeriod", "AllActiveIndices",
       "CommitteeActiveIndices", "SyncCommitteeDuties", "Reset", "Add"] ∧
    Gen.calls_att_exec = ["CommitteeSlotDuties", "shouldExecute", "executeDuties"] ∧
    Gen.calls_prop_exec = ["CommitteeSlotDuties", "shouldExecute", "executeDuties"] ∧
    Gen.calls_sync_exec = ["CommitteePeriodDuties", "shouldExecute", "executeDuties"] ∧
    Gen.calls_prop_initial = ["processFetching"] ∧ Gen.calls_sync_initial = ["processFetching"] :=
  ⟨rfl, rfl, rfl, rfl, rfl, rfl, rfl, rfl, rfl, rfl, rfl⟩

/-- fingerprints, only where no finer fact exists: the two `processFetching` bodies (early return on a failed
    fetch, flag cleared only on success) and the duty-store map operations -/
theorem C16_tie_fingerprints :
    Gen.src_att_processFetching = "edf920f17ee85f07" ∧ Gen.src_sync_processFetching = "ae78804de626ce2c" ∧
    Gen.src_store_Add = "6c3e4595280aaa0f" ∧ Gen.src_store_CommitteeSlotDuties = "55dc819b79018e9a" :=
  ⟨rfl, rfl, rfl, rfl⟩

/-- the index functions of the validator controller the handlers are driven with: `AllActiveIndices` walks the whole
    shares store (`Range`) and its callback appends the index of every share that `IsAttesting(epoch)` and ALWAYS returns
    true (no `return false`, no test of `share.Liquidated`: the walk is never cut short); `CommitteeActiveIndices` walks the
    validators map with the same test; `IsAttesting` = metadata present ∧ (status attesting ∨ (pending-queued ∧
    activation ≤ epoch)); running validators = non-liquidated shares of this operator (`StartValidators`) -/
theorem C16_tie_index_functions :
    Gen.has_ctrl_AllActiveIndices = [true, true, true, true, false, false] ∧
    Gen.lits_ctrl_AllActiveIndices = ["u<-"] ∧
    Gen.calls_ctrl_AllActiveIndices = ["Range", "IsAttesting"] ∧
    Gen.has_ctrl_CommitteeActiveIndices = [true, true, true, true] ∧
    Gen.lits_share_IsAttesting = ["&&", "||", "&&", "==", "<="] ∧
    Gen.calls_share_IsAttesting = ["HasBeaconMetadata", "IsAttesting"] ∧
    Gen.calls_ctrl_StartValidators = ["ByNotLiquidated", "BelongsToOperator", "setupValidators"] :=
  ⟨rfl, rfl, rfl, rfl, rfl, rfl, rfl⟩

/-- glue the duty handlers depend on, outside the event-level model (exercised in real time by the harness's `glue` mode):
    * `slotTicker.Next()` drains the timer channel when `Stop()` reports that the timer already fired (`if !s.timer.Stop()`
      followed by a receive `u<-`; no bare `s.timer.Stop()` statement), re-arms it and never repeats a slot;
    * `StartValidators` closes `committeeValidatorSetup` only AFTER `setupValidators` on the path that sets validators up
      (the two earlier `close` calls are the no-shares and exporter returns);
    * the metadata loop selects every non-liquidated share that is new or whose metadata is older than the update interval —
      there is no branch that skips shares which are already attesting. -/
theorem C16_tie_glue :
    Gen.has_slotticker_Next = [true, true, true, true, true, false] ∧
    noStr Gen.lits_slotticker_Next = ["<", "0", "u!", "u<-", "+", "/", "1", "<=", "+", "1", "*"] ∧
    Gen.calls_ctrl_StartValidators_order = ["close", "close", "setupValidators", "close", "startValidators"] ∧
    Gen.has_ctrl_MetaDataLoop = [true, true, true, true, true, true, false] :=
  ⟨rfl, by decide +kernel, rfl, rfl⟩

/-! ## at most once -/

/-- No (slot, validator) pair is dispatched twice in a run — every handler, every network, every event list whose
    tick slots strictly increase (the slot ticker; without it the same tick repeated dispatches again). -/
theorem C16_dispatch_at_most_once (k : Kind) (n : Net) (clock0 : Nat) (r0 : FetchRes) (evs : List Event)
    (hticks : ticksIncreasing none evs = true) : AtMostOnce (run k n clock0 r0 evs) :=
  atMostOnce_run k n clock0 r0 evs hticks

/-- non-vacuity: a run with increasing ticks that dispatches two duties -/
example : ticksIncreasing none [.tick 47 47 (.ok [1] [⟨47, 1, 5⟩, ⟨49, 1, 6⟩]) .fail, .tick 48 48 .fail .fail,
      .tick 49 49 .fail .fail] = true ∧
    execPairs (run .att ⟨32, 256⟩ 0 .noIdx [.tick 47 47 (.ok [1] [⟨47, 1, 5⟩, ⟨49, 1, 6⟩]) .fail, .tick 48 48 .fail .fail,
      .tick 49 49 .fail .fail]) = [(47, 1), (49, 1)] := by decide +kernel

/-- the hypothesis is needed: the same slot ticked twice dispatches its duties twice -/
example : ¬ AtMostOnce (run .att ⟨32, 256⟩ 0 .noIdx [.tick 47 47 (.ok [1] [⟨47, 1, 5⟩]) .fail, .tick 47 47 .fail .fail]) := by
  unfold AtMostOnce; decide +kernel

/-! ## only at its own slot, inside the window -/

/-- Every dispatched duty carries the slot of the tick that dispatched it, and that slot is inside the handler's
    `shouldExecute` window of the clock — every handler, network, event list (no hypothesis at all). -/
theorem C16_dispatch_only_at_own_slot_window (k : Kind) (n : Net) (clock0 : Nat) (r0 : FetchRes) (evs : List Event) :
    WindowOK k n (run k n clock0 r0 evs) :=
  window_run k n clock0 r0 evs

/-- the windows, spelled out -/
theorem C16_window_meaning (n : Net) (clock slot : Nat) :
    (inWindow .att n clock slot = true ↔ (slot ≤ clock ∧ clock - slot ≤ n.spe) ∨ clock + 1 = slot) ∧
    (inWindow .prop n clock slot = true ↔ clock = slot ∨ clock + 1 = slot) ∧
    (inWindow .sync n clock slot = true ↔ clock = slot ∨ clock + 1 = slot) := by
  simp [inWindow, attShouldExecute, propShouldExecute]

/-! ## only the most recently fetched assignment -/

/-- A dispatched duty belongs to the assignment returned by the most recent successful fetch for the tick's epoch
    (period) — every handler, network and event list, no hypothesis (every fetch replaces the epoch's / period's
    descriptors). -/
theorem C16_dispatch_only_latest (k : Kind) (n : Net) (clock0 : Nat) (r0 : FetchRes) (evs : List Event) :
    onlyLatestOK k n (run k n clock0 r0 evs) = true :=
  onlyLatest_run k n clock0 r0 evs

/-! ## exactly once if fetched -/

/-- For every handler, network and event list in which no tick is handled after an event of a later slot (`envOK`;
    notices may be arbitrarily late): at every tick whose clock equals its slot, every duty of the most recent
    successful (and since then not voided) fetch for that epoch (period) is dispatched — and nothing is dispatched
    twice. -/
theorem C16_dispatch_exactly_once_if_fetched (k : Kind) (n : Net) (clock0 : Nat) (r0 : FetchRes)
    (evs : List Event) (hn : n.ok = true) (henv : envOK none clock0 evs = true) :
    exactlyOnceOK k n (run k n clock0 r0 evs) = true ∧ AtMostOnce (run k n clock0 r0 evs) := by
  constructor
  · cases k with
    | att =>
      have hspe : 0 < n.spe := by
        simp only [Net.ok, Bool.and_eq_true, decide_eq_true_eq] at hn
        omega
      exact att_exactly_run n hspe clock0 r0 evs henv
    | prop => exact prop_exactly_run n clock0 r0 evs henv
    | sync => exact sync_exactly_run n clock0 r0 evs henv
  · exact atMostOnce_run k n clock0 r0 evs (ticksIncreasing_of_envOK evs none clock0 henv)

/-- witness (DESIGN §8-8): duties of epoch 2 (slots 64, 66) fetched at slot 47; reorg(current) notice for slot 63
    handled after the last tick of epoch 1 -/
def C16_witness_reorg : List Event :=
  [.tick 47 47 (.ok [1] []) (.ok [1, 2] [⟨64, 1, 7⟩, ⟨66, 2, 8⟩]), .reorg 63 false true,
   .tick 64 64 (.ok [1, 2] [⟨64, 1, 7⟩, ⟨66, 2, 8⟩]) .fail, .tick 65 65 .fail .fail, .tick 66 66 .fail .fail]

/-- witness, indices-change variant -/
def C16_witness_indices : List Event :=
  [.tick 47 47 (.ok [1] []) (.ok [1] [⟨64, 1, 7⟩]), .indices 63, .tick 64 64 (.ok [1] [⟨64, 1, 9⟩]) .fail]

/-- witness, sync committee (8 slots per epoch, 4 epochs per period): period 1 fetched at slot 20, reorg(current)
    notice for slot 31 (last slot of period 0) handled after its tick -/
def C16_witness_sync : List Event :=
  [.tick 20 20 (.ok [] []) (.ok [1] [⟨0, 1, 7⟩]), .tick 31 31 .fail .fail, .reorg 31 false true,
   .tick 32 32 (.ok [1] [⟨0, 1, 9⟩]) .fail, .tick 33 33 .fail .fail]

/-- witness, notice handled one tick LATE: the reorg(current) notice for slot 63 is handled after the tick of slot 64 -/
def C16_witness_late : List Event :=
  [.tick 47 47 (.ok [1] []) (.ok [1, 2] [⟨65, 1, 7⟩, ⟨66, 2, 8⟩]), .tick 64 64 .fail .fail, .reorg 63 false true,
   .tick 65 65 (.ok [1, 2] [⟨65, 1, 7⟩, ⟨66, 2, 8⟩]) .fail, .tick 66 66 .fail .fail]

/-- witness, only-latest: reorg(previous) notice for slot 33 handled after the tick of slot 47; epoch 2 is fetched
    again at slot 64 -/
def C16_witness_stale : List Event :=
  [.tick 47 47 (.ok [1] []) (.ok [1] [⟨64, 1, 7⟩]), .reorg 33 true false, .tick 64 64 (.ok [2] [⟨64, 2, 8⟩]) .fail]

/-- REGRESSION (fix 1e0cc1057): on the four refutation witnesses of the handlers before the fix — which violated
    exactly-once (the first four) resp. only-latest (the last) — the fixed handlers satisfy the property and dispatch the
    duties that used to be lost; the witnesses satisfy `envOK`, so the theorems above cover them. -/
theorem C16_regression_witnesses_now_pass :
    exactlyOnceOK .att ⟨32, 256⟩ (run .att ⟨32, 256⟩ 0 .noIdx C16_witness_reorg) = true ∧
    execPairs (run .att ⟨32, 256⟩ 0 .noIdx C16_witness_reorg) = [(64, 1), (66, 2)] ∧
    exactlyOnceOK .att ⟨32, 256⟩ (run .att ⟨32, 256⟩ 0 .noIdx C16_witness_indices) = true ∧
    execPairs (run .att ⟨32, 256⟩ 0 .noIdx C16_witness_indices) = [(64, 1)] ∧
    exactlyOnceOK .sync ⟨8, 4⟩ (run .sync ⟨8, 4⟩ 20 (.ok [] []) C16_witness_sync) = true ∧
    execPairs (run .sync ⟨8, 4⟩ 20 (.ok [] []) C16_witness_sync) = [(32, 1), (33, 1)] ∧
    exactlyOnceOK .att ⟨32, 256⟩ (run .att ⟨32, 256⟩ 0 .noIdx C16_witness_late) = true ∧
    execPairs (run .att ⟨32, 256⟩ 0 .noIdx C16_witness_late) = [(65, 1), (66, 2)] ∧
    onlyLatestOK .att ⟨32, 256⟩ (run .att ⟨32, 256⟩ 0 .noIdx C16_witness_stale) = true ∧
    execPairs (run .att ⟨32, 256⟩ 0 .noIdx C16_witness_stale) = [(64, 2)] ∧
    envOK none 0 C16_witness_reorg = true ∧ envOK none 0 C16_witness_indices = true ∧
    envOK none 20 C16_witness_sync = true ∧ envOK none 0 C16_witness_late = true := by decide +kernel

/-- REGRESSION: the handlers BEFORE the fix (`runOld`) violate the property on the same witnesses. -/
theorem C16_regression_old_handlers_fail :
    exactlyOnceOK .att ⟨32, 256⟩ (runOld .att ⟨32, 256⟩ 0 .noIdx C16_witness_reorg) = false ∧
    execPairs (runOld .att ⟨32, 256⟩ 0 .noIdx C16_witness_reorg) = [] ∧
    exactlyOnceOK .att ⟨32, 256⟩ (runOld .att ⟨32, 256⟩ 0 .noIdx C16_witness_indices) = false ∧
    exactlyOnceOK .sync ⟨8, 4⟩ (runOld .sync ⟨8, 4⟩ 20 (.ok [] []) C16_witness_sync) = false ∧
    execPairs (runOld .sync ⟨8, 4⟩ 20 (.ok [] []) C16_witness_sync) = [] ∧
    exactlyOnceOK .att ⟨32, 256⟩ (runOld .att ⟨32, 256⟩ 0 .noIdx C16_witness_late) = false ∧
    onlyLatestOK .att ⟨32, 256⟩ (runOld .att ⟨32, 256⟩ 0 .noIdx C16_witness_stale) = false := by decide +kernel

/-! ### what `envOK` still excludes -/

/-- the statement without the order condition of `envOK`: only the slot ticker's guarantee -/
def C16_dispatch_exactly_once_if_fetched_anyorder (k : Kind) : Prop :=
  ∀ (n : Net) (clock0 : Nat) (r0 : FetchRes) (evs : List Event), n.ok = true → ticksIncreasing none evs = true →
    exactlyOnceOK k n (run k n clock0 r0 evs) = true

/-- witness: duty of slot 64 (epoch 2) fetched at slot 47; a reorg(previous) notice carrying slot 64 (first half of
    epoch 2: it resets epoch 2 but does not set `fetchNextEpoch`) is handled BEFORE the tick of slot 63; that tick fetches
    epoch 1 first; at the tick of slot 64 nothing announces that epoch 2 has to be fetched again -/
def C16_witness_tick_after_later_notice : List Event :=
  [.tick 47 47 (.ok [1] []) (.ok [1] [⟨64, 1, 7⟩]), .tick 62 62 .fail .fail, .reorg 64 true false,
   .tick 63 63 (.ok [1] []) .fail, .tick 64 64 .fail .fail]

/-- STILL FALSE of the fixed code: a tick handled after a reorg(previous) notice of a later epoch -/
theorem C16_dispatch_exactly_once_if_fetched_anyorder_refuted : ¬ C16_dispatch_exactly_once_if_fetched_anyorder .att := by
  intro h
  have := h ⟨32, 256⟩ 0 .noIdx C16_witness_tick_after_later_notice (by decide +kernel) (by decide +kernel)
  revert this
  decide +kernel

/-- that witness violates exactly the order condition: the tick of slot 63 comes after the notice of slot 64 -/
example : envOK none 0 C16_witness_tick_after_later_notice = false ∧
    ticksIncreasing none C16_witness_tick_after_later_notice = true := by decide +kernel

/-! ### a failed fetch is retried (all three handlers)

`exactlyOnceOK` voids every obligation at a failed fetch, so the theorem above does not speak about what happens AFTER a
failure.  The attester and sync-committee handlers keep `fetchCurrent…`/`fetchNext…` set until a fetch succeeds and ask
again at every tick; since fix f167f5eb9 the proposer handler keeps `fetchFirst` set until its fetch succeeds. -/

/-- Proposer handler: a fetch-first tick whose fetch FAILS leaves `fetchFirst` set, and every tick that starts with
    `fetchFirst` set begins by asking the beacon node for the duties of its epoch — so a failed first fetch is retried at
    the next tick, for every state, slot and clock. -/
theorem C16_proposer_failed_first_fetch_is_retried (n : Net) (st : HState) (slot clock : Nat)
    (hff : st.fetchFirst = true) :
    (propTick n st slot clock .fail).1.fetchFirst = true ∧
    ∀ (r1 : FetchRes), ∃ rest, (propTick n st slot clock r1).2 = .fetch (n.epoch slot) (n.epoch slot) r1 :: rest := by
  simp only [propTick, hff, propFetch_eq, propPost_eq, if_true]
  exact ⟨ite_self _, fun r1 => ⟨_, rfl⟩⟩

/-- witness: proposer duty of slot 45 fetched twice successfully; reorg(current) notice ⇒ `ResetEpoch`, `fetchFirst`; the
    re-fetch at slot 42 fails; the beacon node answers again from slot 43 on -/
def C16_witness_proposer_no_retry : List Event :=
  [.tick 40 40 (.ok [1] [⟨45, 1, 7⟩]) (.ok [1] []), .reorg 41 false true, .tick 42 42 .fail (.ok [1] []),
   .tick 43 43 (.ok [1] [⟨45, 1, 7⟩]) (.ok [1] []), .tick 44 44 (.ok [1] [⟨45, 1, 7⟩]) (.ok [1] []),
   .tick 45 45 (.ok [1] [⟨45, 1, 7⟩]) (.ok [1] [])]

/-- REGRESSION (fix f167f5eb9, finding `C16/proposer-refetch-not-retried-after-failure`): the proposer handler before
    the fix (`runOld`) never asked again after the failed re-fetch and did not dispatch the duty of slot 45; the fixed
    handler re-fetches at slot 43 and dispatches it. -/
theorem C16_regression_proposer_refetch_retried :
    runOld .prop ⟨32, 256⟩ 40 (.ok [1] [⟨45, 1, 7⟩]) C16_witness_proposer_no_retry =
      [.fetch 1 1 (.ok [1] [⟨45, 1, 7⟩]), .fetch 1 1 (.ok [1] [⟨45, 1, 7⟩]), .execs 40 40 [], .fetch 1 1 .fail,
       .execs 42 42 [], .execs 43 43 [], .execs 44 44 [], .execs 45 45 []] ∧
    run .prop ⟨32, 256⟩ 40 (.ok [1] [⟨45, 1, 7⟩]) C16_witness_proposer_no_retry =
      [.fetch 1 1 (.ok [1] [⟨45, 1, 7⟩]), .fetch 1 1 (.ok [1] [⟨45, 1, 7⟩]), .execs 40 40 [], .fetch 1 1 .fail,
       .execs 42 42 [], .fetch 1 1 (.ok [1] [⟨45, 1, 7⟩]), .execs 43 43 [], .execs 44 44 [], .execs 45 45 [⟨45, 1, 7⟩]] ∧
    envOK none 40 C16_witness_proposer_no_retry = true := by decide +kernel

/-- non-vacuity of `C16_dispatch_exactly_once_if_fetched`: runs with reorg and indices-change notices (one of them
    handled late), a fetch failure, an epoch boundary and a sync-period boundary that satisfy every hypothesis and
    dispatch duties -/
example :
    let evs : List Event :=
      [.tick 47 47 (.ok [1] []) (.ok [1, 2] [⟨64, 1, 7⟩, ⟨66, 2, 8⟩]), .reorg 50 false true,
       .tick 51 51 (.ok [1, 2] [⟨64, 1, 9⟩, ⟨66, 2, 10⟩]) .fail, .indices 51, .tick 52 52 .fail .fail,
       .tick 63 63 (.ok [1] []) (.ok [1, 2] [⟨64, 1, 11⟩, ⟨66, 2, 12⟩]), .tick 64 64 .fail .fail, .indices 63,
       .tick 65 65 (.ok [1, 2] [⟨66, 2, 13⟩]) .fail, .tick 66 66 .fail .fail]
    (⟨32, 256⟩ : Net).ok = true ∧ envOK none 0 evs = true ∧
    execPairs (run .att ⟨32, 256⟩ 0 .noIdx evs) = [(64, 1), (66, 2)] := by decide +kernel

example :
    let evs : List Event :=
      [.tick 20 20 (.ok [1] [⟨0, 1, 5⟩]) (.ok [1] [⟨0, 1, 7⟩]), .reorg 29 false true,
       .tick 30 30 (.ok [1] [⟨0, 1, 8⟩]) .fail, .tick 31 31 .fail .fail, .reorg 31 false true,
       .tick 32 32 (.ok [1] [⟨0, 1, 9⟩]) .fail]
    (⟨8, 4⟩ : Net).ok = true ∧ envOK none 20 evs = true ∧
    execPairs (run .sync ⟨8, 4⟩ 20 (.ok [] []) evs) = [(20, 1), (30, 1), (31, 1), (32, 1)] := by decide +kernel

/-! ## the validator controller's index functions in the loop -/

/-- an index is returned iff SOME share of the registry carries it and is attesting — whatever else is stored, in
    whatever order -/
theorem C16_index_membership (shares : List Share) (e x : Nat) :
    (x ∈ allActive shares e ↔ ∃ s ∈ shares, s.vidx = x ∧ s.isAttesting e = true) ∧
    (x ∈ committeeActive shares e ↔
      ∃ s ∈ shares, s.vidx = x ∧ s.own = true ∧ s.liquidated = false ∧ s.isAttesting e = true) := by
  constructor
  · simp only [allActive, List.mem_map, List.mem_filter]
    constructor
    · rintro ⟨s, ⟨h1, h2⟩, rfl⟩; exact ⟨s, h1, rfl, h2⟩
    · rintro ⟨s, h1, rfl, h2⟩; exact ⟨s, ⟨h1, h2⟩, rfl⟩
  · simp only [committeeActive, Share.running, List.mem_map, List.mem_filter, Bool.and_eq_true,
      Bool.not_eq_true']
    constructor
    · rintro ⟨s, ⟨h1, ⟨h2, h3⟩, h4⟩, rfl⟩; exact ⟨s, h1, rfl, h2, h3, h4⟩
    · rintro ⟨s, h1, rfl, h2, h3, h4⟩; exact ⟨s, ⟨h1, ⟨h2, h3⟩, h4⟩, rfl⟩

/-- A liquidated, inactive, foreign or metadata-less share never hides another share's index: inserting ANY share at ANY
    position of the registry keeps every index that was returned before (for both functions, every epoch). -/
theorem C16_share_never_hides_another (l1 l2 : List Share) (s : Share) (e x : Nat) :
    (x ∈ allActive (l1 ++ l2) e → x ∈ allActive (l1 ++ s :: l2) e) ∧
    (x ∈ committeeActive (l1 ++ l2) e → x ∈ committeeActive (l1 ++ s :: l2) e) := by
  have hsub : ∀ t, t ∈ l1 ++ l2 → t ∈ l1 ++ s :: l2 := by
    intro t ht
    rcases List.mem_append.mp ht with h | h
    · exact List.mem_append.mpr (Or.inl h)
    · exact List.mem_append.mpr (Or.inr (List.mem_cons_of_mem _ h))
  constructor
  · intro h
    obtain ⟨t, ht, h1, h2⟩ := (C16_index_membership _ e x).1.mp h
    exact (C16_index_membership _ e x).1.mpr ⟨t, hsub t ht, h1, h2⟩
  · intro h
    obtain ⟨t, ht, h1⟩ := (C16_index_membership _ e x).2.mp h
    exact (C16_index_membership _ e x).2.mpr ⟨t, hsub t ht, h1⟩

/-- the indices the duties are dispatched for are among those they are fetched for -/
theorem C16_committee_indices_subset_all (shares : List Share) (e x : Nat) (h : x ∈ committeeActive shares e) :
    x ∈ allActive shares e := by
  obtain ⟨t, ht, h1, _, _, h4⟩ := (C16_index_membership _ e x).2.mp h
  exact (C16_index_membership _ e x).1.mpr ⟨t, ht, h1, h4⟩

/-- an own, non-liquidated, attesting share gets its duty: the request contains its index and the beacon node's answer
    for it survives `resolve` -/
theorem C16_own_active_duty_is_fetched (k : Kind) (shares : List Share) (arg : Nat) (ds : List Duty) (d : Duty) (s : Share)
    (hs : s ∈ shares) (hv : s.vidx = d.vidx) (ho : s.own = true) (hl : s.liquidated = false)
    (ha : s.isAttesting arg = true) (hd : d ∈ ds) :
    ∃ com ds', resolve k shares arg (.ok ds) = .ok com ds' ∧ d ∈ ds' ∧ d.vidx ∈ com := by
  have hc : d.vidx ∈ committeeActive shares arg :=
    (C16_index_membership _ arg _).2.mpr ⟨s, hs, hv, ho, hl, ha⟩
  have hall : d.vidx ∈ allActive shares arg := C16_committee_indices_subset_all _ _ _ hc
  -- whichever index list is requested, it contains `d.vidx`: the fetch is not skipped and the answer keeps `d`
  have key : ∀ req : List Nat, d.vidx ∈ req → ∃ com ds',
      (if req.isEmpty then FetchRes.noIdx
        else .ok (committeeActive shares arg) (ds.filter fun d => req.contains d.vidx)) = .ok com ds' ∧
      d ∈ ds' ∧ d.vidx ∈ com := by
    intro req hreq
    have hne : req.isEmpty = false := by
      cases req with
      | nil => cases hreq
      | cons a b => rfl
    exact ⟨_, _, by rw [hne]; rfl, List.mem_filter.mpr ⟨hd, by simpa using hreq⟩, hc⟩
  cases k
  · exact key _ hc
  · exact key _ hall
  · exact key _ hall

/-- a run against a registry and a beacon node is a run of the handler model (by definition of `runE`), so every
    theorem above applies to it; in particular exactly-once-if-fetched (the order condition only concerns the slots of
    the events) -/
theorem C16_dispatch_exactly_once_with_real_indices (k : Kind) (n : Net) (shares0 : List Share) (clock0 : Nat) (c0 : Chain)
    (evs : List EnvEvent) (hn : n.ok = true)
    (henv : envOK none clock0
      (resolveEvents k n shares0 (initH k n clock0 (resolveInit k n shares0 clock0 c0)).1 evs) = true) :
    exactlyOnceOK k n (runE k n shares0 clock0 c0 evs) = true ∧ AtMostOnce (runE k n shares0 clock0 c0 evs) ∧
    onlyLatestOK k n (runE k n shares0 clock0 c0 evs) = true :=
  ⟨(C16_dispatch_exactly_once_if_fetched k n clock0 _ _ hn henv).1,
   (C16_dispatch_exactly_once_if_fetched k n clock0 _ _ hn henv).2,
   C16_dispatch_only_latest k n clock0 _ _⟩

/-- example: proposer; registry = own active 1, FOREIGN active 2, own LIQUIDATED 3 stored in between, own pending-queued 4
    (activation epoch 2); all four have a duty at slot 45/46: 1 is dispatched, 2 and 3 are fetched but not dispatched (not
    this operator's running validators), 4 is not yet attesting in epoch 1 -/
example :
    runE .prop ⟨32, 256⟩ [⟨1, true, false, .attesting⟩, ⟨3, true, true, .attesting⟩, ⟨2, false, false, .attesting⟩,
        ⟨4, true, false, .pendingQueued 2⟩] 40 (.ok [⟨45, 1, 7⟩, ⟨45, 2, 8⟩, ⟨46, 3, 9⟩, ⟨46, 4, 10⟩])
      [.tick 45 45 .fail .fail, .tick 46 46 .fail .fail] =
      [.fetch 1 1 (.ok [1] [⟨45, 1, 7⟩, ⟨45, 2, 8⟩, ⟨46, 3, 9⟩]), .fetch 1 1 .fail, .execs 45 45 [⟨45, 1, 7⟩],
       .fetch 1 1 .fail, .execs 46 46 []] := by decide +kernel

end Ssv.Duties
