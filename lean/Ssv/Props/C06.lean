/-
C06 — The node's QBFT instance is observationally equal to the reference spec; state compaction between messages does
not change any later output.

Property theorems only (helpers: Ssv/Proofs/QbftCompact.lean, Ssv/Proofs/QbftProposer.lean).

* Equality clause ("same accept/reject, broadcasts, decision, state as ssv-spec"): no theorem can relate two Go programs.
  It is decided by translation validation: the `C06_tie_port` fact below (every instance function calls the same
  validation / container / creation functions in the same order in the node and in ssv-spec v0.3.7, regenerated from
  both sources on every run) and the three-way differential run node ↔ Lean model ↔ real ssv-spec instance
  (harness `qbft`, oracle `C06/node-differs-from-spec:*`).
* Compaction clause: `C06_compaction_full` is FALSE on this tree (`C06_compaction_full_refuted`, witness replayed on the
  real code: corpus/C06/qbft_second_proposal_after_decided_compaction.ops); what IS true is proved as
  `C06_compaction_sim_partial`: compaction is invisible as long as it is only applied to undecided instances.
-/
import Ssv.Proofs.QbftCompact
import Ssv.Proofs.QbftProposer

namespace Ssv.Qbft

/-! ## ties to the regenerated facts -/

/-- message-type numbering, round/height origins and the controller's instance capacity as the model uses them -/
theorem C06_tie_constants :
    Gen.qbft_ProposalMsgType = 0 ∧ Gen.qbft_PrepareMsgType = 1 ∧ Gen.qbft_CommitMsgType = 2 ∧
    Gen.qbft_RoundChangeMsgType = 3 ∧ Gen.qbft_NoRound = 0 ∧ Gen.qbft_FirstRound = 1 ∧ Gen.qbft_FirstHeight = 0 ∧
    Gen.qbft_InstanceContainerDefaultCapacity = 2 :=
  ⟨rfl, rfl, rfl, rfl, rfl, rfl, rfl, rfl⟩

/-- guard / call order inside the node's validation functions, as modelled in Ssv/Model/Qbft/{Validate,Instance}.lean.
    Quorum sites: a lone `"HasQuorum"` is the package function `specqbft.HasQuorum(share, msgs)` — DISTINCT signers of a message
    list (model: `Cfg.hasQuorum (signersOf …)`); `"HasQuorum", "Share.HasQuorum"` (or `"share.HasQuorum"`) is the method
    `share.HasQuorum(n)` on a COUNT (model: `cfg.quorum ≤ ….length`). The extractor facts list receiver-qualified callee names, so
    replacing one by the other changes the list. -/
theorem C06_tie_guard_order :
    Gen.calls_qbft_node_isValidProposal =
      ["GetSigners", "VerifyByOperators", "MatchedSigners", "proposer", "Validate", "HashDataRoot", "isProposalJustification"] ∧
    Gen.calls_qbft_node_isProposalJustification =
      ["valCheck", "validRoundChangeForData", "HasQuorum", "RoundChangePrepared", "HasQuorum", "highestPrepared", "HashDataRoot",
       "validSignedPrepareForHeightRoundAndRoot"] ∧
    Gen.calls_qbft_node_validRoundChangeForData =
      ["GetSigners", "VerifyByOperators", "Validate", "RoundChangePrepared", "HashDataRoot", "GetRoundChangeJustifications",
       "validSignedPrepareForHeightRoundAndRoot", "HasQuorum"] ∧
    Gen.calls_qbft_node_validSignedPrepareForHeightRoundAndRoot = ["Validate", "GetSigners", "VerifyByOperators"] ∧
    Gen.calls_qbft_node_validateCommit = ["BaseCommitValidation"] ∧
    Gen.calls_qbft_node_BaseCommitValidation = ["Validate", "VerifyByOperators"] ∧
    Gen.calls_qbft_node_BaseMsgValidation =
      ["Validate", "isValidProposal", "validSignedPrepareForHeightRoundAndRoot", "validateCommit", "validRoundChangeForData"] ∧
    Gen.calls_qbft_node_ProcessMsg =
      ["CanProcessMessages", "BaseMsgValidation", "uponProposal", "uponPrepare", "UponCommit", "uponRoundChange"] :=
  ⟨rfl, rfl, rfl, rfl, rfl, rfl, rfl, rfl⟩

/-- call order inside the `upon…` functions, the timeout and the leader's justification search -/
theorem C06_tie_upon_order :
    Gen.calls_qbft_node_uponProposal = ["AddFirstMsgForSignerAndRound", "TimeoutForRound", "HashDataRoot", "CreatePrepare", "Broadcast"] ∧
    Gen.calls_qbft_node_uponPrepare = ["HasQuorum", "AddFirstMsgForSignerAndRound", "HasQuorum", "CreateCommit", "Broadcast"] ∧
    Gen.calls_qbft_node_UponCommit = ["AddFirstMsgForSignerAndRound", "commitQuorumForRoundRoot", "aggregateCommitMsgs"] ∧
    Gen.calls_qbft_node_uponRoundChange =
      ["HasQuorum", "MessagesForRound", "AddFirstMsgForSignerAndRound", "hasReceivedProposalJustificationForLeadingRound",
       "CreateProposal", "MessagesForRound", "MessagesForRound", "Broadcast", "hasReceivedPartialQuorum", "minRound",
       "uponChangeRoundPartialQuorum"] ∧
    Gen.calls_qbft_node_uponChangeRoundPartialQuorum = ["TimeoutForRound", "CreateRoundChange", "Broadcast"] ∧
    Gen.calls_qbft_node_UponRoundTimeout = ["CanProcessMessages", "TimeoutForRound", "CreateRoundChange", "Broadcast"] ∧
    Gen.calls_qbft_node_hasReceivedProposalJustificationForLeadingRound =
      ["MessagesForRound", "HasQuorum", "RoundChangePrepared", "isProposalJustificationForLeadingRound"] ∧
    Gen.calls_qbft_node_isProposalJustificationForLeadingRound = ["isReceivedProposalJustification", "proposer"] ∧
    Gen.calls_qbft_node_getRoundChangeJustification =
      ["HashDataRoot", "MessagesForRound", "validSignedPrepareForHeightRoundAndRoot", "HasQuorum"] ∧
    Gen.calls_qbft_node_commitQuorumForRoundRoot = ["LongestUniqueSignersForRoundAndRoot", "HasQuorum", "Share.HasQuorum"] ∧
    Gen.calls_qbft_node_aggregateCommitMsgs = ["DeepCopy", "Aggregate"] :=
  ⟨rfl, rfl, rfl, rfl, rfl, rfl, rfl, rfl, rfl, rfl, rfl⟩

/-- port check: every instance function of the node makes the same calls in the same order as its ssv-spec v0.3.7
    counterpart (the single difference is one extra `MessagesForRound` in `uponRoundChange`: an argument of a debug log line) -/
theorem C06_tie_port :
    Gen.calls_qbft_node_isValidProposal = Gen.calls_qbft_spec_isValidProposal ∧
    Gen.calls_qbft_node_isProposalJustification = Gen.calls_qbft_spec_isProposalJustification ∧
    Gen.calls_qbft_node_validRoundChangeForData = Gen.calls_qbft_spec_validRoundChangeForData ∧
    Gen.calls_qbft_node_validSignedPrepareForHeightRoundAndRoot = Gen.calls_qbft_spec_validSignedPrepareForHeightRoundAndRoot ∧
    Gen.calls_qbft_node_BaseCommitValidation = Gen.calls_qbft_spec_baseCommitValidation ∧
    Gen.calls_qbft_node_BaseMsgValidation = Gen.calls_qbft_spec_BaseMsgValidation ∧
    Gen.calls_qbft_node_ProcessMsg = Gen.calls_qbft_spec_ProcessMsg ∧
    Gen.calls_qbft_node_uponProposal = Gen.calls_qbft_spec_uponProposal ∧
    Gen.calls_qbft_node_uponPrepare = Gen.calls_qbft_spec_uponPrepare ∧
    Gen.calls_qbft_node_UponCommit = Gen.calls_qbft_spec_UponCommit ∧
    Gen.calls_qbft_node_uponRoundChange.eraseIdx 6 = Gen.calls_qbft_spec_uponRoundChange ∧
    Gen.calls_qbft_node_uponChangeRoundPartialQuorum = Gen.calls_qbft_spec_uponChangeRoundPartialQuorum ∧
    Gen.calls_qbft_node_UponRoundTimeout = Gen.calls_qbft_spec_UponRoundTimeout ∧
    Gen.calls_qbft_node_hasReceivedProposalJustificationForLeadingRound =
      Gen.calls_qbft_spec_hasReceivedProposalJustificationForLeadingRound ∧
    Gen.calls_qbft_node_isProposalJustificationForLeadingRound = Gen.calls_qbft_spec_isProposalJustificationForLeadingRound ∧
    Gen.calls_qbft_node_getRoundChangeJustification = Gen.calls_qbft_spec_getRoundChangeJustification ∧
    Gen.calls_qbft_node_commitQuorumForRoundRoot = Gen.calls_qbft_spec_commitQuorumForRoundRoot ∧
    Gen.calls_qbft_node_aggregateCommitMsgs = Gen.calls_qbft_spec_aggregateCommitMsgs :=
  ⟨rfl, rfl, rfl, rfl, rfl, rfl, rfl, rfl, rfl, rfl, rfl, rfl, rfl, rfl, rfl, rfl, rfl, rfl⟩

/-- the controller slice: dispatch order of `ProcessMsg`, the checks of `ValidateDecided`, the steps of `UponDecided` -/
theorem C06_tie_controller :
    Gen.calls_qbft_ctrl_ProcessMsg = ["BaseMsgValidation", "IsDecidedMsg", "UponDecided", "isFutureMessage", "UponExistingInstanceMsg"] ∧
    Gen.calls_qbft_ValidateDecided = ["IsDecidedMsg", "Validate", "BaseCommitValidation", "Validate", "HashDataRoot"] ∧
    Gen.calls_qbft_UponDecided =
      ["ValidateDecided", "InstanceForHeight", "FindInstance", "addNewInstance", "NewInstance", "AddMsg", "addNewInstance", "IsDecided", "AddMsg",
       "LongestUniqueSignersForRoundAndRoot", "AddMsg", "FindInstance", "SaveInstance", "NewDecidedHandler"] ∧
    Gen.calls_qbft_UponExistingInstanceMsg = ["InstanceForHeight", "IsDecided", "ProcessMsg", "broadcastDecided"] ∧
    Gen.calls_qbft_StartNewInstance =
      ["GetValueCheckF", "FindInstance", "addAndStoreNewInstance", "Start", "forceStopAllInstanceExceptCurrent"] ∧
    Gen.calls_qbft_OnTimeout = ["GetTimeoutData", "FindInstance", "IsDecided", "UponRoundTimeout"] ∧
    Gen.calls_qbft_IsDecidedMsg = ["HasQuorum", "share.HasQuorum"] :=
  ⟨rfl, rfl, rfl, rfl, rfl, rfl, rfl⟩

/-- compaction is what the model says and where the model says: `compact` rewrites the four containers, both public
    entry points go through it, the runner calls `compactInstanceIfNeeded` right after `Controller.ProcessMsg`, and
    loading the highest instance from storage compacts it too -/
theorem C06_tie_compaction_callsites :
    Gen.calls_qbft_compact = ["compactContainer", "compactContainer", "compactContainer", "compactContainer"] ∧
    Gen.calls_qbft_Compact = ["compact"] ∧ Gen.calls_qbft_CompactCopy = ["compact"] ∧
    Gen.calls_qbft_baseConsensusMsgProcessing = ["ProcessMsg", "compactInstanceIfNeeded"] ∧
    Gen.calls_qbft_compactInstanceIfNeeded = ["FindInstance", "IsDecidedMsg", "Compact"] ∧
    Gen.calls_qbft_getHighestInstance = ["GetHighestInstance", "Compact", "NewInstance"] :=
  ⟨rfl, rfl, rfl, rfl, rfl, rfl⟩

/-- fingerprints of the small pinned functions the model transcribes literally (containers, Validate, HasQuorum,
    round-robin leader, the two compaction policies, CanProcessMessages with its cut-off comparison) -/
theorem C06_tie_sources :
    Gen.src_qbft_CanProcessMessages = "7232faa48f591b33" ∧ Gen.src_qbft_RoundRobinProposer = "a01bb36809ae1f4a" ∧
    Gen.src_qbft_compactContainerEdit = "0de56ace8d511aea" ∧ Gen.src_qbft_compactContainerCopy = "dcfc8eafc9ead597" ∧
    Gen.src_qbft_LongestUniqueSigners = "f42a37f13008f105" ∧ Gen.src_qbft_AddFirstMsg = "c8cbb4f27824af62" ∧
    Gen.src_qbft_SignedMessageValidate = "7ce2f626fc6e70d1" ∧ Gen.src_qbft_MessageValidate = "a786761f356b5525" ∧
    Gen.src_qbft_HasQuorum = "0a106974b08d9992" :=
  ⟨rfl, rfl, rfl, rfl, rfl, rfl, rfl, rfl, rfl⟩

/-- the model's leader arithmetic is the kernel translated from ssv-spec `RoundRobinProposer` on every run, for all
    heights and rounds whose signed 64-bit sum does not overflow (the model additionally wraps like Go where it does) -/
theorem C06_tie_proposer_kernel (n height round : Nat) (hn : 0 < n) (hh : height < two64) (hr : round < two64)
    (hlo : -9223372036854775808 + (n : Int) + 1 ≤ toInt64 round) (hhi : toInt64 round + (n : Int) < 9223372036854775808) :
    proposerIndex n height round = Gen.k_RoundRobinProposerIndex (round : Int) (height : Int) (n : Int) :=
  proposerIndex_eq_kernel n height round hn hh hr hlo hhi

example : proposerIndex 4 5 3 = Gen.k_RoundRobinProposerIndex 3 5 4 := by decide

/-! ## both compaction policies compute the same state -/

/-- `Compact` (in place) and `CompactCopy` (copying) produce the same state -/
theorem C06_compact_policies_agree (s : State) : compactCopy s = compact s := by
  have e : compactContainerCopy = compactContainerEdit := by
    funext c k b
    unfold compactContainerCopy compactContainerEdit
    simp only [not_decide_lt, ge_iff_le]
  unfold compactCopy compact
  rw [e]

/-! ## the compaction clause at full strength — refuted -/

/-- full clause: whatever controller ops happen (starts, message deliveries incl. decided messages, timeouts), interleaving
    compaction — even only where the runner really performs it — never changes any observation. -/
def C06_compaction_full : Prop :=
  ∀ (cfg : Cfg) (ops : List COp),
    (runC cfg newController ops).2 = (runC cfg newController (ops.filter (fun op => !op.isCompaction))).2

/-- committee of 4, operator 2 under test, leader of (height 0, round 1) is operator 1 -/
def c06Cfg : Cfg :=
  { committee := [1, 2, 3, 4], quorum := 3, partialQuorum := 2, own := 2, ident := 1, cutoff := 15,
    capacity := Gen.qbft_InstanceContainerDefaultCapacity, valCheck := fun _ => true,
    proposer := fun h r => roundRobinProposer [1, 2, 3, 4] h r }

def c06Msg (t r root : Nat) (signers : List Nat) (mid full : Nat) : Msg :=
  { type := t, height := 0, round := r, ident := 1, root := root, dataRound := 0, signers := signers, sigOk := true,
    malformed := false, mid := mid, rcJust := [], prepJust := [], fullData := full }

/-- §8-3 of the design: operator 2 prepares and commits (1,V=2), times out to round 2, receives the decided certificate
    (1,V) — `UponDecided` sets `State.Round := 1` — the runner compacts (decided ⇒ the propose container is emptied), and
    a SECOND proposal (1,V'=3) of the same leader is accepted; prepares and commits for V' then flip `DecidedValue`. -/
def c06Witness : List COp :=
  [ .start 0 2,
    .deliver (c06Msg tProposal 1 2 [1] 10 2),
    .deliver (c06Msg tPrepare 1 2 [1] 11 0), .deliver (c06Msg tPrepare 1 2 [3] 12 0), .deliver (c06Msg tPrepare 1 2 [4] 13 0),
    .timeout 0 1 ] ++
  runnerDeliver (c06Msg tCommit 1 2 [1, 3, 4] 14 2) ++
  [ .deliver (c06Msg tProposal 1 3 [1] 20 3),
    .deliver (c06Msg tPrepare 1 3 [1] 21 0), .deliver (c06Msg tPrepare 1 3 [3] 22 0), .deliver (c06Msg tPrepare 1 3 [4] 23 0),
    .deliver (c06Msg tCommit 1 3 [1] 24 0), .deliver (c06Msg tCommit 1 3 [3] 25 0), .deliver (c06Msg tCommit 1 3 [4] 26 0) ]

/-- with the runner's compaction the second proposal is answered by a prepare for V' … -/
theorem C06_witness_compacted_accepts_second_proposal :
    ((runC c06Cfg newController (c06Witness.take 9)).2.getLast?.map (·.outs)) =
      some [.bcast (ownMsg c06Cfg tPrepare 0 1 3 0 [] [] 0)] := by decide +kernel

/-- … without compaction the same proposal produces nothing … -/
theorem C06_witness_uncompacted_ignores_second_proposal :
    ((runC c06Cfg newController ((c06Witness.take 9).filter (fun op => !op.isCompaction))).2.getLast?.map (·.outs)) = some [] := by
  decide +kernel

/-- … and at the end the compacted instance has overwritten its decided value V=2 by V'=3, the uncompacted one has not -/
theorem C06_witness_decided_value_flips :
    ((runC c06Cfg newController c06Witness).1.insts.map (fun i => (i.decided, i.decidedValue))) = [(true, 3)] ∧
    ((runC c06Cfg newController (c06Witness.filter (fun op => !op.isCompaction))).1.insts.map
      (fun i => (i.decided, i.decidedValue))) = [(true, 2)] := by decide +kernel

theorem C06_compaction_full_refuted : ¬ C06_compaction_full := by
  intro h
  -- the two runs of the nine-op prefix must end in the same output, and do not
  have e := C06_witness_compacted_accepts_second_proposal
  rw [h c06Cfg (c06Witness.take 9), C06_witness_uncompacted_ignores_second_proposal] at e
  cases e

/-! ### the milder instance of the same clause -/

/-- operator 2 decides V by counting commits itself (no decided message, no round lowering); a late round-change makes the
    runner compact the decided instance (prepare container emptied); re-delivered duplicates of the three prepares then
    re-create the quorum edge and the commit is broadcast a second time — the uncompacted instance stays silent. -/
def c06MildWitness : List COp :=
  [ .start 0 2,
    .deliver (c06Msg tProposal 1 2 [1] 10 2),
    .deliver (c06Msg tPrepare 1 2 [1] 11 0), .deliver (c06Msg tPrepare 1 2 [3] 12 0), .deliver (c06Msg tPrepare 1 2 [4] 13 0),
    .deliver (c06Msg tCommit 1 2 [1] 15 0), .deliver (c06Msg tCommit 1 2 [3] 16 0), .deliver (c06Msg tCommit 1 2 [4] 17 0) ] ++
  runnerDeliver (c06Msg tRoundChange 2 zeroRoot [4] 18 0) ++
  [ .deliver (c06Msg tPrepare 1 2 [1] 11 0), .deliver (c06Msg tPrepare 1 2 [3] 12 0), .deliver (c06Msg tPrepare 1 2 [4] 13 0) ]

theorem C06_mild_witness_commit_rebroadcast :
    ((runC c06Cfg newController c06MildWitness).2.getLast?.map (·.outs)) = some [.bcast (ownMsg c06Cfg tCommit 0 1 2 0 [] [] 0)] ∧
    ((runC c06Cfg newController (c06MildWitness.filter (fun op => !op.isCompaction))).2.getLast?.map (·.outs)) = some [] := by
  decide +kernel

/-! ## what is true: compaction of UNDECIDED instances is invisible -/

/-- For every configuration, every instance state whose lock is not ahead of its round, and every later sequence of
    message deliveries (valid or not, any type), timeouts and force-stops with compaction interleaved ANYWHERE — provided
    compaction is only applied while the instance is undecided (`IOp.compactUndecided`) — all outputs (broadcasts with their
    justifications, timer calls, accept/reject with the guard tag, decided flag/value/aggregate) are the same as without any
    compaction.
    Missing for the full clause (and false on this tree, see above): compaction of decided instances, which the node performs
    after every decided message and every round-change. `Start` is excluded from the op list (it is executed once, before the
    first message; on a started instance it is a no-op). -/
theorem C06_compaction_sim_partial (cfg : Cfg) (s : State) (hwf : s.lastPreparedRound ≤ s.round) (ops : List IOp)
    (hops : ∀ op ∈ ops, op.allowed = true) :
    (runI cfg s ops).2 = (runI cfg s (ops.filter (fun op => !op.isCompaction))).2 :=
  runI_sim hops ⟨Sim.refl s, hwf⟩

/-- the DESIGN's phrasing: running from `compact s` and from `s` yields the same outputs (undecided `s`) -/
theorem C06_compaction_from_compacted_partial (cfg : Cfg) (s : State) (hwf : s.lastPreparedRound ≤ s.round)
    (hd : s.decided = false) (ops : List IOp) (hops : ∀ op ∈ ops, op.allowed = true) :
    (runI cfg (compact s) ops).2 = (runI cfg s (ops.filter (fun op => !op.isCompaction))).2 :=
  runI_sim hops ⟨compact_sim (Sim.refl s) hd, hwf⟩

/-- one step of the same statement: a compacted undecided instance answers any single message exactly like the original -/
theorem C06_compaction_step_partial (cfg : Cfg) (s : State) (hwf : s.lastPreparedRound ≤ s.round) (hd : s.decided = false)
    (m : Msg) :
    (processMsg cfg (compact s) m).outs = (processMsg cfg s m).outs ∧ (processMsg cfg (compact s) m).res = (processMsg cfg s m).res :=
  let h := processMsg_sim ⟨compact_sim (Sim.refl s) hd, hwf⟩
  ⟨h.outs, h.res⟩

def c06ExamplePrepares : List Msg :=
  [c06Msg tPrepare 1 2 [1] 11 0, c06Msg tPrepare 1 2 [3] 12 0, c06Msg tPrepare 1 2 [4] 13 0]

def c06ExampleState : State :=
  { newInstance 0 with
    round := 2
    started := true
    startValue := 2
    lastPreparedRound := 1
    lastPreparedValue := 2
    propose := [c06Msg tProposal 1 2 [1] 10 2]
    prepare := c06ExamplePrepares
    roundChange := [c06Msg tRoundChange 2 zeroRoot [3] 30 0] }

/-- non-vacuity: a concrete undecided state in round 2 holding round-1 and round-2 messages satisfies the hypotheses, its
    compaction really drops messages, and a real op list with interleaved compaction is covered -/
example : c06ExampleState.lastPreparedRound ≤ c06ExampleState.round ∧ c06ExampleState.decided = false ∧
    compact c06ExampleState ≠ c06ExampleState ∧
    (∀ op ∈ [IOp.deliver (c06Msg tRoundChange 2 zeroRoot [4] 31 0), .compactUndecided, .timeout, .compactUndecided,
              .deliver (c06Msg tProposal 3 2 [3] 32 2)], op.allowed = true) := by decide +kernel

example : (runI c06Cfg c06ExampleState [IOp.deliver (c06Msg tRoundChange 2 zeroRoot [4] 31 0), .compactUndecided, .timeout]).2.length = 2 := by
  decide +kernel

/-- PRODUCTION WIRING of the controller (operator/validator/controller.go `SetupRunners`, closure `buildController`): the qbft.Config a
    real node runs with has `SignatureVerification: true` unconditionally, a `ProposerF` that answers
    `specqbft.RoundRobinProposer(state, round)` for the round ASKED about, the role's value check, the default domain and the
    identifier built from it — the configuration the model's `Cfg` assumes (`verifySig` consulted, `proposer h r`). The harness
    exercises exactly these objects in its production-config cases (harness/cmd/qbft/prodcfg.go). -/
theorem C06_tie_production_wiring :
    Gen.has_qbft_SetupRunners = [true, true, true, true, true, true, true] :=
  rfl

end Ssv.Qbft
