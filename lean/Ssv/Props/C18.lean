/-
C18 — Publisher, subscriber and validator agree on topic and envelope for every key.
Property theorems only (helper lemmas live in Ssv/Proofs/Topics.lean).
All statements are over arbitrary byte lists (`List Nat` + `Bytes`), no bound on sizes.
-/
import Ssv.Proofs.Topics

namespace Ssv.Topics

/-! ## ties to the regenerated facts -/

/-- the three call sites obtain their topics through the single mapping `ValidatorTopicID`
    (publish, subscribe) and `GetTopicBaseName`+`ValidatorTopicID` (validation) -/
theorem C18_tie_callsites :
    Gen.calls_p2p_Broadcast = ["ValidatorTopicID"] ∧
    Gen.calls_p2p_subscribe = ["ValidatorTopicID"] ∧
    Gen.calls_validateP2PMessage = ["GetTopicBaseName", "ValidatorTopicID"] ∧
    Gen.calls_topicsCtrl_Subscribe = ["GetTopicFullName"] ∧
    Gen.calls_topicsCtrl_Broadcast = ["GetTopicFullName"] := ⟨rfl, rfl, rfl, rfl, rfl⟩

/-- envelope layout constants are consistent: signature | operator id | message -/
theorem C18_tie_layout :
    Gen.commons_signatureOffset = 0 ∧
    Gen.commons_operatorIDOffset = Gen.commons_signatureOffset + Gen.commons_signatureSize ∧
    Gen.commons_messageOffset = Gen.commons_operatorIDOffset + Gen.commons_operatorIDSize ∧
    Gen.commons_operatorIDSize = 8 ∧ Gen.commons_signatureSize = 256 ∧
    Gen.commons_subnetsCount = 128 := by decide

/-! ## topic mapping -/

/-- for every key of at least 5 bytes the subnet is `pk[4] mod 128` -/
theorem C18_subnet_eq (pk : List Nat) (h : Bytes pk) (h5 : 5 ≤ pk.length) :
    validatorSubnet (hexEncode pk) = ((pk[4] % 128 : Nat) : Int) :=
  validatorSubnet_hexEncode pk h h5

/-- … hence it lies inside the advertised subnet range -/
theorem C18_subnet_range (pk : List Nat) (h : Bytes pk) (h5 : 5 ≤ pk.length) :
    0 ≤ validatorSubnet (hexEncode pk) ∧ validatorSubnet (hexEncode pk) < 128 := by
  rw [C18_subnet_eq pk h h5]
  exact ⟨Int.natCast_nonneg _, Int.ofNat_lt.mpr (Nat.mod_lt _ (by decide))⟩

/-- malformed short keys map to the `unknown` topic id, on every one of the three sides -/
theorem C18_short_key_unknown (pk : List Nat) (h : pk.length < 5) :
    validatorTopicID pk = [Gen.commons_UnknownSubnet] := by
  have : (hexEncode pk).length < 10 := by rw [hexEncode_length]; omega
  rw [validatorTopicID, validatorSubnet, if_pos this]
  rfl

/-- publish topic = subscribe topic, and the receiving side accepts exactly that topic name -/
theorem C18_topics_agree (pk : List Nat) :
    publishTopics pk = subscribeTopics pk ∧
    ∀ t ∈ publishTopics pk, validatorAcceptsTopic pk t = true := by
  refine ⟨rfl, ?_⟩
  intro t ht
  simp only [publishTopics, List.mem_map] at ht
  obtain ⟨b, hb, rfl⟩ := ht
  simp only [validatorAcceptsTopic, baseName_fullName]
  simpa using hb

/-- the topic published for a well-formed key is one of the advertised topics -/
theorem C18_topic_advertised (pk : List Nat) (h : Bytes pk) (h5 : 5 ≤ pk.length) :
    ∀ t ∈ publishTopics pk, t ∈ allTopics := by
  intro t ht
  rw [publishTopics, validatorTopicID_eq pk h h5, List.map_singleton, List.mem_singleton] at ht
  exact ht ▸ List.mem_map.mpr ⟨pk[4] % 128, List.mem_range.mpr (Nat.mod_lt _ (by decide)), rfl⟩

/-- the receiving side rejects every other advertised topic for that key -/
theorem C18_other_topic_rejected (pk : List Nat) (h : Bytes pk) (h5 : 5 ≤ pk.length)
    (j : Nat) (hj : j < 128) (hne : (j : Int) ≠ validatorSubnet (hexEncode pk)) :
    validatorAcceptsTopic pk (getTopicFullName (subnetTopicID (Int.ofNat j))) = false := by
  rw [C18_subnet_eq pk h h5] at hne
  rw [validatorAcceptsTopic, baseName_fullName, validatorTopicID_eq pk h h5]
  -- both ids are decimal renderings, which differ as the numbers do
  rw [subnetTopicID_ofNat, subnetTopicID_ofNat, List.contains_cons, List.contains_nil, Bool.or_false]
  exact beq_eq_false_iff_ne.mpr fun heq => hne (congrArg Nat.cast (natDigits_inj heq))

/-! ## envelope -/

/-- wrapping and unwrapping returns the same three parts, for every payload, every 64-bit
    operator id and every 256-byte signature -/
theorem C18_envelope_roundtrip (msg sig : List Nat) (opId : Nat)
    (hid : opId < 2 ^ 64) (hsig : sig.length = 256) :
    decodeSigned (encodeSigned msg opId sig) = some (msg, opId, sig) := by
  have hpad : padTake 256 sig = sig := by
    rw [padTake, List.take_of_length_le (Nat.le_of_eq hsig), hsig]
    exact List.append_nil _
  rw [encodeSigned, show Gen.commons_signatureSize = 256 from rfl, hpad,
    decodeSigned_append _ _ _ hsig (le64_length _), unLe64_le64, Nat.mod_mod, Nat.mod_eq_of_lt hid]

/-- anything shorter than the fixed header is refused (no out-of-range slicing) -/
theorem C18_decode_rejects_short (enc : List Nat) (h : enc.length < 264) : decodeSigned enc = none := by
  rw [decodeSigned]
  exact if_pos h

/-! ## subnet bitmap -/

/-- every 128-entry 0/1 subnet vector survives its string encoding -/
theorem C18_subnets_roundtrip (s : List Nat) (hlen : s.length = 128) (h01 : ∀ b ∈ s, b = 0 ∨ b = 1) :
    subnetsFromString (subnetsToString s) = some s := by
  rw [fromString_toString]
  congr 1
  apply List.ext_getElem
  · simp [hlen]
  · intro i h1 h2
    simp only [List.getElem_map, List.getElem_range, bitOf]
    have hi : i < s.length := h2
    rw [List.getElem?_eq_getElem hi]
    rcases h01 s[i] (List.getElem_mem hi) with h | h <;> simp [h]

/-- non-vacuity: a concrete non-trivial vector meets the hypotheses and round-trips -/
example : subnetsFromString (subnetsToString ((List.range 128).map (fun i => i % 3 % 2))) =
    some ((List.range 128).map (fun i => i % 3 % 2)) := by
  refine C18_subnets_roundtrip _ (by rw [List.length_map, List.length_range]) fun b hb => ?_
  obtain ⟨i, _, rfl⟩ := List.mem_map.mp hb
  exact Nat.mod_two_eq_zero_or_one _

/-- non-vacuity: a concrete key; subnet is byte 4 mod 128 -/
example : validatorTopicID [0x8c, 0x51, 0x34, 0xfe, 0xd3, 0x99] = [natDigits 83] := by decide +kernel

/-! ## shared / changed subnets (what peer selection, discovery filtering and subscription updates read off two subnet vectors) -/

/-- `SharedSubnets(a, b, maxLen)` lists, for EVERY pair of vectors and EVERY limit, only indices that exist in both
    vectors and are set (non-zero) in both -/
theorem C18_shared_sound (a b : List Nat) (maxLen : Int) :
    ∀ k ∈ sharedSubnets a b maxLen, ∃ av bv, a[k]? = some av ∧ b[k]? = some bv ∧ av ≠ 0 ∧ bv ≠ 0 := by
  intro k hk
  rw [sharedSubnets_eq] at hk
  rw [← mem_bothSet a b 0 k, Nat.zero_add]
  split at hk
  · exact List.mem_of_mem_take hk
  · exact hk

/-- with a 128-entry own vector every shared subnet lies in the advertised range [0,128) -/
theorem C18_shared_in_range (a b : List Nat) (maxLen : Int) (ha : a.length = Gen.commons_subnetsCount) :
    ∀ k ∈ sharedSubnets a b maxLen, k < Gen.commons_subnetsCount := by
  intro k hk
  obtain ⟨av, _, h1, _⟩ := C18_shared_sound a b maxLen k hk
  exact ha ▸ (List.getElem?_eq_some_iff.mp h1).1

/-- the result is strictly increasing (no subnet listed twice) -/
theorem C18_shared_sorted (a b : List Nat) (maxLen : Int) : (sharedSubnets a b maxLen).Pairwise (· < ·) := by
  rw [sharedSubnets_eq]
  split
  · exact (bothSet_sorted a b 0).take
  · exact bothSet_sorted a b 0

/-- completeness: when `maxLen` is 0 (the "no limit" convention), negative, or at least the number of shared
    subnets, EVERY index set on both sides is listed -/
theorem C18_shared_complete (a b : List Nat) (maxLen : Int)
    (hm : maxLen ≤ 0 ∨ (sharedCount a b : Int) ≤ maxLen)
    (k av bv : Nat) (ha : a[k]? = some av) (hb : b[k]? = some bv) (h1 : av ≠ 0) (h2 : bv ≠ 0) :
    k ∈ sharedSubnets a b maxLen := by
  have hk : k ∈ bothSet a b 0 := by
    rw [← Nat.zero_add k, mem_bothSet]; exact ⟨av, bv, ha, hb, h1, h2⟩
  rw [sharedSubnets_eq]
  split
  · next hpos =>
    -- a positive limit is, by `hm`, at least the length of the scan: nothing is cut
    have hle : sharedCount a b ≤ maxLen.toNat :=
      (Int.le_toNat (Int.le_of_lt hpos)).mpr (hm.resolve_left (Int.not_le.mpr hpos))
    rwa [List.take_of_length_le (length_bothSet a b 0 ▸ hle)]
  · exact hk

/-- a positive limit is respected -/
theorem C18_shared_limit (a b : List Nat) (maxLen : Int) (hm : 0 < maxLen) :
    ((sharedSubnets a b maxLen).length : Int) ≤ maxLen := by
  rw [sharedSubnets_eq, if_pos hm, List.length_take]
  exact Int.le_trans (Int.ofNat_le.mpr (Nat.min_le_left _ _)) (Int.le_of_eq (Int.toNat_of_nonneg (Int.le_of_lt hm)))

/-- `DiffSubnets(a, b)` holds EXACTLY the entries of `b` that `a` does not already have at that index
    (changed, or beyond the end of `a`), each with `b`'s value, by increasing index without repetition -/
theorem C18_diff_exact (a b : List Nat) (k v : Nat) :
    (k, v) ∈ diffSubnets a b ↔ b[k]? = some v ∧ a[k]? ≠ some v := by
  rw [diffSubnets, ← Nat.zero_add k, mem_diffGo, Nat.zero_add]

theorem C18_diff_sorted (a b : List Nat) : ((diffSubnets a b).map (·.1)).Pairwise (· < ·) :=
  List.Pairwise.sublist (diffGo_sublist a b 0) List.pairwise_lt_range'

/-- the diff is empty exactly when `b` brings nothing new: every entry of `b` is already in `a` at that index -/
theorem C18_diff_empty_iff (a b : List Nat) :
    diffSubnets a b = [] ↔ ∀ (k v : Nat), b[k]? = some v → a[k]? = some v := by
  -- no pair is a member, and membership is `C18_diff_exact`
  simp only [List.eq_nil_iff_forall_not_mem, Prod.forall, C18_diff_exact, Ne, not_and, Decidable.not_not]

/-- a vector shares with itself exactly its active subnets -/
theorem C18_shared_self_active (a : List Nat) : (sharedSubnets a a 0).length = active a := by
  rw [sharedSubnets_eq, if_neg (by decide), length_bothSet, sharedCount_self]

/-- non-vacuity / concrete evaluation: limit 0 = all, limit 1 = the first one, short peer vector cuts the scan -/
example : sharedSubnets [1,0,1,1,0,7] [1,1,0,1,0,1] 0 = [0,3,5] ∧ sharedSubnets [1,0,1,1,0,7] [1,1,0,1,0,1] 1 = [0] ∧
    sharedSubnets [1,0,1,1,0,7] [1,1,0,1] 0 = [0,3] ∧ sharedSubnets [1,0,1,1,0,7] [1,1,0,1,0,1] (-1) = [0,3,5] ∧
    diffSubnets [1,0,1] [1,1,1,0] = [(1,1),(3,0)] ∧ active [1,0,3,0] = 2 := by decide +kernel

end Ssv.Topics
