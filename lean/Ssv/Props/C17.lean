/-
C17 — Round timeouts fire once per armed round, never early, never for stale rounds.
Property theorems only (helpers: Ssv/Proofs/Timer.lean; model: Ssv/Model/Timer.lean).

Everything is stated for ALL op lists (arbitrary arm spacing, re-arming before expiry, expiries in any
order the clock allows, cancellation, goroutines leaving through ctx.Done) — induction over the list.

PARTIAL (DESIGN §7.17): "never early" rests on the Go runtime: `Op.expire` is enabled only when
`now ≥ deadline` (a `time.Timer` does not fire early). The differential harness measures this on the
real timer; the theorems assume it. Also assumed: the round check and the callback call of
`waitForRound` are one atomic step.
-/
import Ssv.Proofs.Timer

namespace Ssv.Timer

/-! ## ties to the regenerated facts -/

/-- what the model relies on about the production allowances: positive (⇒ strict monotonicity) and small
    enough that the int64 nanosecond arithmetic of `RoundTimeout` cannot overflow for any round an
    instance can reach (`r ≤ 2^24`, slot time ≤ 2^40 ns ≈ 18 min) -/
theorem C17_tie_constants :
    0 < Gen.timer_QuickTimeout ∧ 0 < Gen.timer_SlowTimeout ∧
    ∀ role slotDur g r, r ≤ 2 ^ 24 → slotDur ≤ 2 ^ 40 → roundDuration (prodCfg role slotDur g) r < 2 ^ 63 := by
  refine ⟨by decide, by decide, fun role slotDur g r hr hs => ?_⟩
  have hqs : Gen.timer_QuickTimeout ≤ Gen.timer_SlowTimeout := by decide
  have hfit : 2 ^ 40 + (2 ^ 24 + 1) * Gen.timer_SlowTimeout < 2 ^ 63 := by decide
  refine Nat.lt_of_le_of_lt (roundDuration_le (prodCfg role slotDur g) r hqs) ?_
  exact Nat.lt_of_le_of_lt (Nat.add_le_add hs (Nat.mul_le_mul_right _ (Nat.succ_le_succ hr))) hfit

/-- role switch coverage of `RoundTimeout`: the seven declared beacon roles fall into the modelled branches
    (attester, sync committee: slot/3; aggregator, contribution: slot/3*2; everything else: `default:`),
    and the source of `RoundTimeout` is the one the model was written against -/
theorem C17_tie_role_switch (d thr q s g : Nat) :
    roleBase ⟨Gen.timer_BNRoleAttester, d, thr, q, s, g⟩ = some (d / 3) ∧
    roleBase ⟨Gen.timer_BNRoleSyncCommittee, d, thr, q, s, g⟩ = some (d / 3) ∧
    roleBase ⟨Gen.timer_BNRoleAggregator, d, thr, q, s, g⟩ = some (d / 3 * 2) ∧
    roleBase ⟨Gen.timer_BNRoleSyncCommitteeContribution, d, thr, q, s, g⟩ = some (d / 3 * 2) ∧
    roleBase ⟨Gen.timer_BNRoleProposer, d, thr, q, s, g⟩ = none ∧
    roleBase ⟨Gen.timer_BNRoleValidatorRegistration, d, thr, q, s, g⟩ = none ∧
    roleBase ⟨Gen.timer_BNRoleVoluntaryExit, d, thr, q, s, g⟩ = none ∧
    Gen.src_timer_RoundTimeout = "07caec89cb3fee31" ∧
    Gen.calls_timer_RoundTimeout =
      ["SlotDurationSec", "SlotDurationSec", "Duration", "int", "Duration", "Duration", "int", "GetSlotStartTime", "Until", "Add"] :=
  ⟨rfl, rfl, rfl, rfl, rfl, rfl, rfl, rfl, rfl⟩

/-- `TimeoutForRound` stores the round atomically, computes the timeout, creates/resets a timer and spawns
    `waitForRound`, which selects on the context and the timer and compares `Round()` before calling `done` -/
theorem C17_tie_timer_calls :
    Gen.calls_timer_TimeoutForRound = ["StoreInt64", "RoundTimeout", "NewTimer", "Stop", "Reset", "waitForRound"] ∧
    Gen.calls_timer_waitForRound = ["WithCancel", "Done", "Round", "done"] ∧
    Gen.calls_timer_Round = ["LoadInt64"] := ⟨rfl, rfl, rfl⟩

/-- guard order of `Controller.OnTimeout` (decode, find instance, [lower round], decided, then
    `UponRoundTimeout`, whose first guard is `CanProcessMessages`), reached from `handleEventMessage` -/
theorem C17_tie_onTimeout_guards :
    Gen.calls_timer_OnTimeout = ["GetTimeoutData", "FindInstance", "IsDecided", "UponRoundTimeout"] ∧
    Gen.src_timer_OnTimeout = "a99e33db61d236fa" ∧
    Gen.calls_timer_UponRoundTimeout = ["CanProcessMessages", "bumpToRound", "TimeoutForRound", "CreateRoundChange", "Broadcast"] ∧
    Gen.calls_timer_handleEventMessage = ["OnTimeout", "OnExecuteDuty"] ∧
    Gen.timer_FirstRound = 1 := ⟨rfl, rfl, rfl, rfl, rfl⟩

/-- indirect facts the timer relies on: the beacon network handed to `roundtimer.New` is the configured one
    (`Network.GetNetwork` returns its receiver — incl. the LocalTestNet flag that selects the genesis time —, the operator
    passes `GetNetwork()` on and `SetupRunners` gives it to `roundtimer.New`, which stores it), the slot start is
    genesis + slot * slot duration, `OnTimeout` assigns the handler unconditionally, `waitForRound` reads it at expiry -/
theorem C17_tie_network_and_handler :
    Gen.has_timer_GetNetwork = [true] ∧ Gen.has_timer_MinGenesisTime = [true, true] ∧
    Gen.has_timer_GetSlotStartTime = [true, true, true] ∧ Gen.src_timer_New = "61d992453552569f" ∧
    Gen.calls_timer_opNewController = ["GetNetwork"] ∧ Gen.calls_timer_SetupRunners = ["roundtimer.New"] ∧
    Gen.has_timer_OnTimeout = [true] ∧ Gen.lits_timer_OnTimeout = [] ∧
    Gen.has_timer_waitForRound = [true, true, true] ∧ Gen.has_timer_RoundTimeout = [true, true, true, true] :=
  ⟨rfl, rfl, rfl, rfl, rfl, rfl, rfl, rfl, rfl, rfl⟩

/-! ## timer half -/

/-- a script with three armings (rounds 1,2,4), the second re-arms before the first expires; used for non-vacuity -/
def exCfg : Cfg := { role := Gen.timer_BNRoleAttester, slotDur := 300, quickThr := 2, quick := 50, slow := 200, genesis := 1000 }
def exOps : List Op :=
  [.register (some 0), .arm 0 1 1000, .arm 0 2 1010, .expire 0 1150, .expire 1 1200, .register (some 7), .arm 0 4 1210,
   .cancel, .expire 2 1700, .reap 2]

/-- at most one callback per arming — for EVERY op list (no hypothesis on the rounds needed) -/
theorem C17_callback_at_most_once_per_arming (c : Cfg) (ops : List Op) :
    ((run c init ops).2.map (·.id)).Nodup :=
  (run_fires_ids c ops Inv.init).1

example : (run exCfg init exOps).2 = [⟨1, 2, 1200, 0⟩, ⟨2, 4, 1700, 7⟩] := by decide

/-- a callback never runs before the deadline of the arming it belongs to: every callback of a run is
    produced by one `expire` step of an arming `p` made earlier in the list, at a time `now ≥ p.deadline`
    (no hypothesis on the rounds needed; `expire` being disabled before the deadline is the Go-runtime assumption) -/
theorem C17_callback_not_before_deadline (c : Cfg) (ops : List Op) (f : Fire)
    (hf : f ∈ (run c init ops).2) :
    ∃ pre post now p, ops = pre ++ Op.expire p.id now :: post ∧ p ∈ armings c pre ∧
      f.id = p.id ∧ f.round = p.round ∧ f.time = now ∧ p.deadline ≤ now := by
  obtain ⟨pre, post, now, p, k, h⟩ := fire_spec hf
  obtain rfl := h.eq
  exact ⟨pre, post, now, p, h.split, h.made, rfl, rfl, rfl, h.due⟩

/-- only the most recently armed round ever fires; re-arming supersedes: when the timer is armed for
    strictly increasing rounds, every callback belongs to the LATEST arming made before it (and runs at or
    after that arming's deadline) -/
theorem C17_callback_only_latest (c : Cfg) (ops : List Op) (hinc : IncreasingArms ops) (f : Fire)
    (hf : f ∈ (run c init ops).2) :
    ∃ pre post now p, ops = pre ++ Op.expire p.id now :: post ∧ (armings c pre).getLast? = some p ∧
      f.id = p.id ∧ f.round = p.round ∧ f.time = now ∧ p.deadline ≤ now := by
  obtain ⟨pre, post, now, p, k, h⟩ := fire_spec hf
  obtain rfl := h.eq
  refine ⟨pre, post, now, p, h.split, ?_, rfl, rfl, rfl, h.due⟩
  -- the last arming before the expiry has the armed round, which is p's; rounds are injective
  cases hq : (armings c pre).getLast? with
  | none => exact absurd h.made (by rw [List.getLast?_eq_none_iff.mp hq]; exact List.not_mem_nil)
  | some q =>
    rw [hinc.round_inj (armings_of_prefix h.split (List.mem_of_getLast? hq)) (armings_of_prefix h.split h.made)
      (h.latest q hq)]

example : IncreasingArms exOps := by decide

/-- under the same hypothesis a round is called back at most once in the whole run -/
theorem C17_callback_at_most_once_per_round (c : Cfg) (ops : List Op) (hinc : IncreasingArms ops) :
    ((run c init ops).2.map (·.round)).Nodup := by
  -- the id of a callback is determined by its round
  have key : ∀ {f g}, f ∈ (run c init ops).2 → g ∈ (run c init ops).2 → f.id ≠ g.id → f.round ≠ g.round := by
    intro f g hf hg hne hr
    obtain ⟨pre, post, _, p, _, h⟩ := fire_spec hf
    obtain ⟨pre', post', _, p', _, h'⟩ := fire_spec hg
    obtain rfl := h.eq
    obtain rfl := h'.eq
    exact hne (congrArg Pend.id
      (hinc.round_inj (armings_of_prefix h.split h.made) (armings_of_prefix h'.split h'.made) hr))
  exact List.pairwise_map.mpr ((List.pairwise_map.mp (C17_callback_at_most_once_per_arming c ops)).imp_of_mem key)

/-- the callback invoked is the one registered: every callback goes to the handler passed to the LAST
    `OnTimeout` call made before the expiry (re-registration replaces the earlier handler — `registerTimeoutHandler`
    does this for every new height); with no handler in force (`nil`) there is no callback -/
theorem C17_callback_to_latest_handler (c : Cfg) (ops : List Op) (f : Fire) (hf : f ∈ (run c init ops).2) :
    ∃ pre post id now, ops = pre ++ Op.expire id now :: post ∧ f.id = id ∧ f.time = now ∧
      handlerAfter none pre = some f.handler := by
  obtain ⟨pre, post, now, p, k, h⟩ := fire_spec hf
  obtain rfl := h.eq
  exact ⟨pre, post, p.id, now, h.split, rfl, rfl, h.handler⟩

example : handlerAfter none [.register (some 0), .arm 0 1 1000, .register (some 7)] = some 7 := by decide

/-- without a registered handler nothing is ever called back -/
theorem C17_no_handler_no_callback (c : Cfg) (ops : List Op) (hno : ∀ k, Op.register (some k) ∉ ops) :
    (run c init ops).2 = [] := by
  cases hfs : (run c init ops).2 with
  | nil => rfl
  | cons f fs =>
    have hf : f ∈ (run c init ops).2 := hfs ▸ List.mem_cons_self
    obtain ⟨pre, post, _, _, k, h⟩ := fire_spec hf
    rcases handlerAfter_some h.handler with hk | hk
    · cases hk
    · exact absurd (h.split ▸ List.mem_append_left _ hk) (hno k)

/-- liveness side of the timer model, under "the runtime eventually delivers the timer" (= the `expire` op
    eventually occurs; that fairness of the Go runtime cannot be a theorem about `step`): an arming that has been
    neither superseded (no later `arm`), nor already expired/left (`expire`/`reap` of that arming), with handler `k`
    in force, IS called back — exactly for its round, to handler `k` — by the first `expire` of it at any
    `now ≥ deadline`; in particular an arming whose deadline has already passed when it is made (`deadline ≤ t`,
    a late duty start) is called back at once (`now := t`). Cancellation of the context in between does not disable
    the expiry (it only additionally enables `reap`). With `C17_callback_at_most_once_per_arming` this gives exactly one callback. -/
theorem C17_every_arming_is_called_back_or_superseded (c : Cfg) (ops rest : List Op) (h r t k now : Nat)
    (hk : handlerAfter none ops = some k)
    (hq : ∀ op ∈ rest, quietFor (armings c ops).length op = true)
    (hnow : deadline c h r t ≤ now) :
    (step c (run c init (ops ++ Op.arm h r t :: rest)).1 (Op.expire (armings c ops).length now)).2
      = some { id := (armings c ops).length, round := r, time := now, handler := k } := by
  let p : Pend := { id := (armings c ops).length, round := r, deadline := deadline c h r t }
  -- right after the arming `p` is waiting; the quiet ops of `rest` keep it so
  have hw0 : Waiting (step c (run c init ops).1 (Op.arm h r t)).1 p k := by
    refine ⟨List.mem_append_right _ (List.mem_singleton.mpr ?_), rfl, (run_handler c init ops).trans hk⟩
    rw [run_init_nextId]
  have hrun : (run c init (ops ++ Op.arm h r t :: rest)).1
      = (run c (step c (run c init ops).1 (Op.arm h r t)).1 rest).1 := by
    rw [run_append]; rfl
  rw [hrun]
  exact step_expire_waiting c (p := p) (((Inv.init.run c ops).step c _).run c rest) (waiting_run c rest hw0 hq) hnow

/-- a late duty start: round 3's deadline (1400) has long passed when it is armed at 2000, another goroutine leaves,
    the context is cancelled — the arming is still called back by its expiry at 2000 -/
example : (step exCfg (run exCfg init ([.register (some 5), .arm 0 1 1000] ++ Op.arm 0 3 2000 :: [.expire 0 2000, .cancel])).1
    (.expire 1 2000)).2 = some ⟨1, 3, 2000, 5⟩ := by decide

/-! ### what the quantifier "armed for strictly increasing rounds" excludes
The real timer never stops an earlier `time.Timer`; it only compares round VALUES at expiry. Outside the
quantifier the statements above are false of the model (and of the code: the harness runs these points on the
real timer and the model predicts what it observes). -/

/-- full form of `C17_callback_only_latest` without the hypothesis on the rounds -/
def C17_callback_only_latest_any_rounds_full : Prop :=
  ∀ (c : Cfg) (ops : List Op) (f : Fire), f ∈ (run c init ops).2 →
    ∃ pre post now p, ops = pre ++ Op.expire p.id now :: post ∧ (armings c pre).getLast? = some p ∧
      f.id = p.id ∧ f.round = p.round ∧ f.time = now ∧ p.deadline ≤ now

/-- witness: round 1 armed, superseded by round 2, then round 1 armed AGAIN (proposer role: deadline = now + quick):
    the first arming's timer expires while the armed round is 1 again, so the callback runs for an arming that is
    not the latest one — 40 time units before the latest arming's deadline -/
def exRearmOps : List Op := [.register (some 0), .arm 0 1 0, .arm 0 2 10, .arm 0 1 40, .expire 0 50]
def exRearmCfg : Cfg := { exCfg with role := Gen.timer_BNRoleProposer }

theorem C17_callback_only_latest_any_rounds_full_refuted : ¬ C17_callback_only_latest_any_rounds_full := by
  intro h
  have hf : (⟨0, 1, 50, 0⟩ : Fire) ∈ (run exRearmCfg init exRearmOps).2 := by decide
  obtain ⟨pre, post, now, ⟨pid, pr, pd⟩, hops, hlast, hfi, _⟩ := h exRearmCfg exRearmOps ⟨0, 1, 50, 0⟩ hf
  -- the only `expire` of the list is its last element, so `pre` is register + the three armings, whose last has id 2
  rcases pre with _ | ⟨_, _ | ⟨_, _ | ⟨_, _ | ⟨_, _ | ⟨_, rest⟩⟩⟩⟩⟩
  · cases hops
  · cases hops
  · cases hops
  · cases hops
  · cases hops
    -- `hlast` now says that the last of the three armings, which has id 2, is the one with id 0
    cases hlast
  · cases rest <;> cases hops

/-- the same round armed twice gives two callbacks for that round (one per arming — `C17_callback_at_most_once_per_arming` still holds) -/
def C17_callback_at_most_once_per_round_any_rounds_full : Prop :=
  ∀ (c : Cfg) (ops : List Op), ((run c init ops).2.map (·.round)).Nodup

theorem C17_callback_at_most_once_per_round_any_rounds_full_refuted :
    ¬ C17_callback_at_most_once_per_round_any_rounds_full := by
  intro h
  have := h exCfg [.register (some 0), .arm 0 1 1000, .arm 0 1 1010, .expire 0 1150, .expire 1 1150]
  revert this
  decide

/-! ## deadline formula -/

/-- the additional timeout is the cumulative per-round allowance: Σ_{i=1..r} perRound i -/
theorem C17_cumulative_is_sum (c : Cfg) (r : Nat) :
    cumulative c 0 = 0 ∧ cumulative c (r + 1) = cumulative c r + perRound c (r + 1) :=
  ⟨cumulative_zero c, cumulative_succ c r⟩

/-- the cumulative allowance is strictly increasing in the round when both allowances are positive -/
theorem C17_cumulative_strictMono (c : Cfg) (hq : 0 < c.quick) (hs : 0 < c.slow) (r r' : Nat) (h : r < r') :
    cumulative c r < cumulative c r' :=
  cumulative_strictMono c hq hs h

/-- for the four slot-timed roles the deadline is
    slot start + role base + cumulative per-round allowance — independent of when the timer is armed —
    the role base is a third resp. two thirds of the slot, and the deadline is strictly monotone in the round -/
theorem C17_deadline_formula (c : Cfg) (h r now : Nat)
    (hrole : c.role = Gen.timer_BNRoleAttester ∨ c.role = Gen.timer_BNRoleSyncCommittee ∨
             c.role = Gen.timer_BNRoleAggregator ∨ c.role = Gen.timer_BNRoleSyncCommitteeContribution) :
    ∃ b, roleBase c = some b ∧
      (b = if c.role = Gen.timer_BNRoleAttester ∨ c.role = Gen.timer_BNRoleSyncCommittee then c.slotDur / 3 else c.slotDur / 3 * 2) ∧
      deadline c h r now = (c.genesis + h * c.slotDur) + b + cumulative c r ∧
      (0 < c.quick → 0 < c.slow → ∀ r', r < r' → deadline c h r now < deadline c h r' now) := by
  have hb := roleBase_slotTimed c hrole
  refine ⟨_, hb, rfl, ?_, fun hq hs r' hr => deadline_strictMono hb hq hs h now hr⟩
  rw [deadline_of_base hb, slotStart]
  exact (Nat.add_assoc _ _ _).symm

example : deadline exCfg 0 1 1000 = 1000 + 100 + 50 ∧ deadline exCfg 0 4 1210 = 1000 + 100 + (2 * 50 + 2 * 200) := by decide

/-- the production allowances are positive, so the monotonicity clause applies to `roundtimer.New` timers -/
theorem C17_deadline_monotone_production (role slotDur g h r r' now : Nat)
    (hrole : role = Gen.timer_BNRoleAttester ∨ role = Gen.timer_BNRoleSyncCommittee ∨
             role = Gen.timer_BNRoleAggregator ∨ role = Gen.timer_BNRoleSyncCommitteeContribution)
    (hr : r < r') :
    deadline (prodCfg role slotDur g) h r now < deadline (prodCfg role slotDur g) h r' now := by
  exact deadline_strictMono (roleBase_slotTimed (prodCfg role slotDur g) hrole)
    (by show 0 < Gen.timer_QuickTimeout; decide) (by show 0 < Gen.timer_SlowTimeout; decide) h now hr

/-- full form: the formula for EVERY role. False of the code: the `default:` branch of `RoundTimeout` (proposer,
    validator registration, voluntary exit) returns the per-round allowance relative to the CURRENT time. -/
def C17_deadline_formula_full : Prop :=
  ∀ (c : Cfg) (h r now : Nat), ∃ b, deadline c h r now = (c.genesis + h * c.slotDur) + b + cumulative c r

theorem C17_deadline_formula_full_refuted : ¬ C17_deadline_formula_full := by
  intro h
  -- proposer, round 2 > threshold 1, armed at time 0: the deadline is 0 + slow = 200, below the genesis time
  -- that the formula's right-hand side starts from
  obtain ⟨b, hb⟩ := h { role := Gen.timer_BNRoleProposer, slotDur := 300, quickThr := 1, quick := 50, slow := 200, genesis := 1000 } 0 2 0
  have hd : deadline { role := Gen.timer_BNRoleProposer, slotDur := 300, quickThr := 1, quick := 50, slow := 200, genesis := 1000 } 0 2 0 = 200 := rfl
  rw [hd] at hb
  change 200 = 1000 + 0 * 300 + b + _ at hb
  omega

/-- what the `default:` branch gives instead: arming time + the allowance of that single round
    (not cumulative, not anchored at the slot start; weakly monotone in the round when quick ≤ slow) -/
theorem C17_deadline_formula_partial (c : Cfg) (h r now : Nat)
    (hrole : ¬ (c.role = Gen.timer_BNRoleAttester ∨ c.role = Gen.timer_BNRoleSyncCommittee ∨
               c.role = Gen.timer_BNRoleAggregator ∨ c.role = Gen.timer_BNRoleSyncCommitteeContribution)) :
    deadline c h r now = now + (if r ≤ c.quickThr then c.quick else c.slow) ∧
    (c.quick ≤ c.slow → ∀ r', r ≤ r' → deadline c h r now ≤ deadline c h r' now) := by
  have hb := roleBase_default c hrole
  refine ⟨deadline_of_default hb h r now, fun hqs r' hr => ?_⟩
  rw [deadline_of_default hb, deadline_of_default hb]
  refine Nat.add_le_add_left ?_ _
  unfold perRound
  split
  · split
    · exact Nat.le_refl _
    · exact hqs
  · rw [if_neg (fun h' => absurd (Nat.le_trans hr h') ‹_›)]
    exact Nat.le_refl _

/-- the value `RoundTimeout` returns is the distance from the current time to that deadline -/
theorem C17_roundTimeout_eq (c : Cfg) (h r now : Nat) :
    (now : Int) + roundTimeout c h r now = deadline c h r now := by
  unfold roundTimeout; omega

/-! ## controller half: stale / duplicate timeout events -/

namespace Ctl

def exState : State :=
  { height := 7, cap := 2, cutoff := 15, running := some 7,
    insts := [⟨7, 3, false, false⟩, ⟨6, 2, true, true⟩] }

/-- a timeout event for an unknown height, for a lower round than the instance's, or for a decided instance
    changes nothing: controller and every instance unchanged, nothing broadcast, timer not re-armed -/
theorem C17_stale_timeout_noop (s : State) (h r : Nat)
    (hstale : find s.insts h = none ∨ ∃ i, find s.insts h = some i ∧ (r < i.round ∨ i.decided = true)) :
    (step s (.timeout h r)).1 = s ∧ (step s (.timeout h r)).2.bcast = 0 ∧ (step s (.timeout h r)).2.arms = [] := by
  refine timeout_noop s h r fun i hi => ?_
  rcases hstale with hn | ⟨j, hj, hr | hd⟩
  · cases hn.symm.trans hi
  · cases hj.symm.trans hi; exact Or.inl hr
  · cases hj.symm.trans hi; exact Or.inr (Or.inl hd)

example : find exState.insts 5 = none ∧ find exState.insts 7 = some ⟨7, 3, false, false⟩ ∧
    find exState.insts 6 = some ⟨6, 2, true, true⟩ := by decide
example : (step exState (.timeout 7 2)).2.tag = .oldRound ∧ (step exState (.timeout 6 2)).2.tag = .decided ∧
    (step exState (.timeout 5 1)).2.tag = .errNilInstance := by decide

/-- … the same for undecodable timeout data and for an instance that stopped processing
    (force-stopped by a newer instance, or at the cutoff round) -/
theorem C17_unprocessable_timeout_noop (s : State) (h r : Nat) :
    (step s .badTimeout).1 = s ∧ (step s .badTimeout).2.bcast = 0 ∧ (step s .badTimeout).2.arms = [] ∧
    (∀ i, find s.insts h = some i → canProcess s i = false →
      (step s (.timeout h r)).1 = s ∧ (step s (.timeout h r)).2.bcast = 0 ∧ (step s (.timeout h r)).2.arms = []) := by
  refine ⟨rfl, rfl, rfl, fun i hi hc => timeout_noop s h r fun j hj => ?_⟩
  cases hi.symm.trans hj
  exact Or.inr (Or.inr hc)

/-- "another height", for whole controller histories: after ANY sequence of StartNewInstance / decided
    messages (past, current, FUTURE heights — several stored instances at once, eviction by capacity) /
    timeout events, a timeout event for any height other than the one most recently started changes nothing —
    whatever its round, whether or not that height is stored. `Controller.OnTimeout` has no height check;
    this rests on the invariant `OthersQuiet` (every other stored instance is force-stopped or decided). -/
theorem C17_other_height_timeout_noop (cap cutoff : Nat) (ops : List Op) (h r : Nat)
    (hother : (run (init cap cutoff) ops).1.running ≠ some h) :
    let s := (run (init cap cutoff) ops).1
    (step s (.timeout h r)).1 = s ∧ (step s (.timeout h r)).2.bcast = 0 ∧ (step s (.timeout h r)).2.arms = [] := by
  intro s
  have hq : OthersQuiet s := OthersQuiet.run _ ops (OthersQuiet.init cap cutoff)
  refine timeout_noop s h r fun i hf => ?_
  obtain ⟨hmem, hh⟩ := find?_key_some Inst.height hf
  rcases hq i hmem (hh ▸ hother) with hs | hd
  · exact Or.inr (Or.inr (by rw [canProcess, hs]; rfl))
  · exact Or.inr (Or.inl hd)

/-- a FUTURE height decided between two starts: 10 started, 12 decided from the network, 13 started — three
    stored instances, 10 is stopped although it is not the direct predecessor of 13 -/
example : (run (init 1024 15) [.start 10, .decide 12 1, .start 13]).1.insts =
    [⟨13, 1, false, false⟩, ⟨12, 1, true, true⟩, ⟨10, 1, false, true⟩] := by decide
example : (run (init 1024 15) [.start 10, .decide 12 1, .start 13]).1.running ≠ some 10 := by decide

/-- a timeout that is NOT stale (round ≥ the instance's round, undecided, still processing) broadcasts one
    round-change, bumps exactly that instance by one round and re-arms the timer for the new round, which is
    strictly higher than the instance's previous round (the arm sequence of an instance is increasing) -/
theorem C17_fresh_timeout_bumps (s : State) (h r : Nat) (i : Inst)
    (hi : find s.insts h = some i) (hr : i.round ≤ r) (hd : i.decided = false) (hc : canProcess s i = true) :
    (step s (.timeout h r)).1 = { s with insts := setInst s.insts h (fun j => { j with round := j.round + 1 }) } ∧
    (step s (.timeout h r)).2 = ⟨.ok, 1, [(h, i.round + 1)]⟩ := by
  simp only [step, hi, if_neg (Nat.not_lt.mpr hr), hd, hc]
  exact ⟨rfl, rfl⟩

example : (step exState (.timeout 7 3)).1.insts = [⟨7, 4, false, false⟩, ⟨6, 2, true, true⟩] := by decide

/-- duplicate delivery: once a timeout event has been processed, the same event again is stale -/
theorem C17_duplicate_timeout_noop (s : State) (h : Nat) (i : Inst)
    (hi : find s.insts h = some i) (hd : i.decided = false) (hc : canProcess s i = true) :
    let s1 := (step s (.timeout h i.round)).1
    (step s1 (.timeout h i.round)).1 = s1 ∧ (step s1 (.timeout h i.round)).2.bcast = 0 ∧
      (step s1 (.timeout h i.round)).2.arms = [] := by
  intro s1
  have h1 := (C17_fresh_timeout_bumps s h i.round i hi (Nat.le_refl _) hd hc).1
  have hfind : find s1.insts h = some { i with round := i.round + 1 } := by
    show find (step s (.timeout h i.round)).1.insts h = _
    rw [h1]
    exact find_setInst s.insts h _ i (fun _ => rfl) hi
  exact C17_stale_timeout_noop s1 h i.round (Or.inr ⟨_, hfind, Or.inl (by simp)⟩)

end Ctl

end Ssv.Timer
