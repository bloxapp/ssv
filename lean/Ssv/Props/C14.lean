/-
C14 — The validator message queue neither loses nor duplicates messages.
Helpers: Ssv/Proofs/Queue.lean; the alphabet `Op` of queue operations, the history `Hist` with its ghost logs
and the proof that every operation keeps `Hist.Inv` are here. Everything is for ALL queue contents, ALL
filters, ALL prioritizer states and ALL sequences of atomic steps (= all interleavings of concurrent
producers with the single consumer, a Go channel operation being one atomic step).
-/
import Ssv.Proofs.Queue

namespace Ssv.Queue

variable {α : Type}

/-! ## the in-memory pop -/

/-- conservation: a pop removes exactly the message it returns and nothing when it returns nothing
    (in particular a pop whose filter rejects everything discards nothing) -/
theorem C14_pop_conserves (prior : α → α → Bool) (adm : α → Bool) (l : List α) :
    match popList prior adm l with
    | (l', none) => l' = l
    | (l', some x) => l.Perm (x :: l') := by
  rcases popList_cases prior adm l with ⟨_, hp⟩ | ⟨j, x, hj, _, _, hp⟩ <;> rw [hp]
  exact perm_eraseIdx l j x hj

/-- a returned message is admitted by the filter of that pop -/
theorem C14_pop_admissible (prior : α → α → Bool) (adm : α → Bool) (l : List α) (x : α)
    (h : (popList prior adm l).2 = some x) : adm x = true := by
  rcases popList_cases prior adm l with ⟨_, hp⟩ | ⟨j, y, _, ha, _, hp⟩ <;> rw [hp] at h
  · cases h
  · cases h
    exact ha

/-- a pop whose filter admits nothing leaves the list untouched -/
theorem C14_pop_rejecting_filter_keeps_all (prior : α → α → Bool) (adm : α → Bool) (l : List α)
    (h : ∀ m ∈ l, adm m = false) : popList prior adm l = (l, none) := by
  rcases popList_cases prior adm l with ⟨_, hp⟩ | ⟨j, x, hj, ha, _, _⟩
  · exact hp
  · cases (h x (List.mem_of_getElem? hj)).symm.trans ha

/-- completeness: a pop returns a message whenever an admissible one is queued -/
theorem C14_pop_complete (prior : α → α → Bool) (adm : α → Bool) (l : List α)
    (h : ∃ m ∈ l, adm m = true) : (popList prior adm l).2.isSome = true := by
  rcases popList_cases prior adm l with ⟨hno, _⟩ | ⟨j, x, _, _, _, hp⟩
  · obtain ⟨m, hm, ha⟩ := h
    cases (hno m hm).symm.trans ha
  · rw [hp]; rfl

/-- maximality: for any total preorder `prior`, the returned message is `Prior` to every admissible queued one -/
theorem C14_pop_maximal (prior : α → α → Bool) (adm : α → Bool)
    (hrefl : ∀ a, prior a a = true)
    (htot : ∀ a b, prior a b = true ∨ prior b a = true)
    (htr : ∀ a b c, prior a b = true → prior b c = true → prior a c = true)
    (l : List α) (x : α) (h : (popList prior adm l).2 = some x) :
    ∀ y ∈ l, adm y = true → prior x y = true := by
  rcases popList_cases prior adm l with ⟨_, hp⟩ | ⟨j, z, _, _, hs, hp⟩ <;> rw [hp] at h
  · cases h
  · cases h
    exact (selectFrom_max l 0 none hrefl htot htr j x hs).1

/-! ## the documented priority order

`prior` compares five scores lexicographically (`prior_eq_lexGe`): message type, height, subtype, round, consensus
type. A clause below goes through `before_of_key`: `lexStep_eq` for every level on which the two keys agree, then
`lexStep_gt` at the level where the first message scores higher. The two clauses about three fixed message shapes
compute the comparison. -/

/-- the standard prioritizer is a total preorder for every prioritizer state, so `C14_pop_maximal` applies to it -/
theorem C14_standard_prior_total_preorder (s : PState) :
    (∀ a, prior s a a = true) ∧ (∀ a b, prior s a b = true ∨ prior s b a = true) ∧
    (∀ a b c, prior s a b = true → prior s b c = true → prior s a c = true) :=
  ⟨prior_refl s, prior_total s, prior_trans s⟩

/-- non-event message -/
def nonEvent (m : Msg) : Prop := ∀ t, m.body ≠ .event t

theorem smt_nonEvent (m : Msg) (h : nonEvent m) : scoreMessageType m = 0 := by
  obtain ⟨i, b⟩ := m
  cases b with
  | event t => exact absurd rfl (h t)
  | consensus => rfl
  | partialSig => rfl

/-- duty start strictly before timeout strictly before every other message -/
theorem C14_order_events_first (s : PState) (i j k : Nat) (b : Body) (hb : ∀ t, b ≠ .event t) :
    prior s ⟨i, .event 1⟩ ⟨j, .event 0⟩ = true ∧ prior s ⟨j, .event 0⟩ ⟨i, .event 1⟩ = false ∧
    prior s ⟨j, .event 0⟩ ⟨k, b⟩ = true ∧ prior s ⟨k, b⟩ ⟨j, .event 0⟩ = false := by
  -- scoreMessageType: duty start 3, timeout 2, everything else 0
  exact and_assoc.mp ⟨before_of_key (lexStep_gt _ (by decide : 2 < 3)),
    before_of_key (lexStep_gt _ (by rw [smt_nonEvent ⟨k, b⟩ hb]; exact (by decide : 0 < 2)))⟩

/-- among non-event messages (consensus AND partial-signature traffic) everything for the current height / slot
    goes strictly before everything for another height / slot, whatever the types, rounds and running state -/
theorem C14_order_current_before_other (s : PState) (a b : Msg) (ha : nonEvent a) (hb : nonEvent b)
    (hca : compareHeightOrSlot s a = 1) (hcb : compareHeightOrSlot s b ≠ 1) :
    prior s a b = true ∧ prior s b a = false :=
  before_of_key (lexStep_eq _ ((smt_nonEvent a ha).trans (smt_nonEvent b hb).symm)
    (lexStep_gt _ (hca ▸ scoreHeight_lt_of_ne_one hcb)))

/-- consensus traffic of the current height strictly before consensus traffic of any other height -/
theorem C14_order_current_height_first (s : PState) (i j r1 r2 t1 t2 n1 n2 h2 : Nat) (hne : h2 ≠ s.height) :
    prior s ⟨i, .consensus s.height r1 t1 n1⟩ ⟨j, .consensus h2 r2 t2 n2⟩ = true ∧
    prior s ⟨j, .consensus h2 r2 t2 n2⟩ ⟨i, .consensus s.height r1 t1 n1⟩ = false := by
  refine C14_order_current_before_other s _ _ (fun _ h => (nomatch h)) (fun _ h => (nomatch h)) (if_pos rfl) ?_
  show (if h2 = s.height then 1 else if h2 > s.height then 2 else 0) ≠ 1
  rw [if_neg hne]
  split <;> decide

/-- … and everything for a later height / slot strictly before everything for an earlier one -/
theorem C14_order_future_before_past (s : PState) (a b : Msg) (ha : nonEvent a) (hb : nonEvent b)
    (hca : compareHeightOrSlot s a = 2) (hcb : compareHeightOrSlot s b = 0) :
    prior s a b = true ∧ prior s b a = false :=
  before_of_key (lexStep_eq _ ((smt_nonEvent a ha).trans (smt_nonEvent b hb).symm)
    (lexStep_gt _ (by rw [hca, hcb]; decide)))

/-- current height, instance running: consensus strictly before pre-consensus strictly before post-consensus
    partial signatures of the current slot -/
theorem C14_order_running_subtypes (s : PState) (hr : s.hasRunningInstance = true) (i j k r t n : Nat) :
    prior s ⟨i, .consensus s.height r t n⟩ ⟨j, .partialSig s.slot false⟩ = true ∧
    prior s ⟨j, .partialSig s.slot false⟩ ⟨i, .consensus s.height r t n⟩ = false ∧
    prior s ⟨j, .partialSig s.slot false⟩ ⟨k, .partialSig s.slot true⟩ = true ∧
    prior s ⟨k, .partialSig s.slot true⟩ ⟨j, .partialSig s.slot false⟩ = false := by
  -- type and height levels agree; scoreMessageSubtype, running: consensus 3, pre-consensus 2, post-consensus 1
  simp [prior, scoreMessageType, compareHeightOrSlot, scoreMessageSubtype, hr, isConsensus, isPre, isPost]

/-- current height, no instance running: pre-consensus before post-consensus before consensus -/
theorem C14_order_idle_subtypes (s : PState) (hr : s.hasRunningInstance = false) (i j k r t n : Nat) :
    prior s ⟨j, .partialSig s.slot false⟩ ⟨k, .partialSig s.slot true⟩ = true ∧
    prior s ⟨k, .partialSig s.slot true⟩ ⟨j, .partialSig s.slot false⟩ = false ∧
    prior s ⟨k, .partialSig s.slot true⟩ ⟨i, .consensus s.height r t n⟩ = true ∧
    prior s ⟨i, .consensus s.height r t n⟩ ⟨k, .partialSig s.slot true⟩ = false := by
  -- type and height levels agree; scoreMessageSubtype, idle: pre-consensus 3, post-consensus 2, consensus 1
  simp [prior, scoreMessageType, compareHeightOrSlot, scoreMessageSubtype, hr, isConsensus, isPre, isPost]

/-- current-height consensus traffic: the current round strictly before later rounds strictly before earlier rounds -/
theorem C14_order_rounds (s : PState) (i j k t1 t2 t3 n1 n2 n3 r2 r3 : Nat) (h2 : r2 > s.round) (h3 : r3 < s.round) :
    prior s ⟨i, .consensus s.height s.round t1 n1⟩ ⟨j, .consensus s.height r2 t2 n2⟩ = true ∧
    prior s ⟨j, .consensus s.height r2 t2 n2⟩ ⟨i, .consensus s.height s.round t1 n1⟩ = false ∧
    prior s ⟨j, .consensus s.height r2 t2 n2⟩ ⟨k, .consensus s.height r3 t3 n3⟩ = true ∧
    prior s ⟨k, .consensus s.height r3 t3 n3⟩ ⟨j, .consensus s.height r2 t2 n2⟩ = false := by
  -- scoreRound: current 3, later 2, earlier 0
  have hr1 : scoreRound s ⟨i, .consensus s.height s.round t1 n1⟩ = 3 := if_pos rfl
  have hr2 : scoreRound s ⟨j, .consensus s.height r2 t2 n2⟩ = 2 := (if_neg (Nat.ne_of_gt h2)).trans (if_pos h2)
  have hr3 : scoreRound s ⟨k, .consensus s.height r3 t3 n3⟩ = 0 :=
    (if_neg (Nat.ne_of_lt h3)).trans (if_neg (Nat.lt_asymm h3))
  have hsub := subtype_consensus_current s
  exact and_assoc.mp
    ⟨before_of_key (lexStep_eq _ rfl (lexStep_eq _ rfl (lexStep_eq _ ((hsub ..).trans (hsub ..).symm)
      (lexStep_gt _ (by rw [hr1, hr2]; decide))))),
     before_of_key (lexStep_eq _ rfl (lexStep_eq _ rfl (lexStep_eq _ ((hsub ..).trans (hsub ..).symm)
      (lexStep_gt _ (by rw [hr2, hr3]; decide)))))⟩

/-- same height and round: proposal before prepare before commit before round-change -/
theorem C14_order_types (s : PState) (i j r n1 n2 t1 t2 : Nat) (ht1 : t1 < t2) (ht2 : t2 ≤ 3) :
    prior s ⟨i, .consensus s.height r t1 n1⟩ ⟨j, .consensus s.height r t2 n2⟩ = true ∧
    prior s ⟨j, .consensus s.height r t2 n2⟩ ⟨i, .consensus s.height r t1 n1⟩ = false := by
  refine before_of_key (lexStep_eq _ rfl (lexStep_eq _ rfl (lexStep_eq _
    ((subtype_consensus_current s ..).trans (subtype_consensus_current s ..).symm) (lexStep_eq _ rfl (lexStep_gt _ ?_)))))
  rw [scoreConsensusType_consensus j _ r n2 ht2,
    scoreConsensusType_consensus i _ r n1 (Nat.le_trans (Nat.le_of_lt ht1) ht2)]
  exact Nat.sub_lt_sub_left (Nat.lt_of_lt_of_le ht1 (Nat.le_succ_of_le ht2)) ht1

/-- other heights: a decided message (commit with more than a quorum… as the code tests it: `len(signers) > quorum`)
    strictly before every non-decided message of the same side -/
theorem C14_order_decided_first (s : PState) (i j h r1 r2 t2 n1 n2 : Nat) (hh : h ≠ s.height)
    (hd : n1 > s.quorum) (hnd : ¬ (t2 = 2 ∧ n2 > s.quorum)) :
    prior s ⟨i, .consensus h r1 2 n1⟩ ⟨j, .consensus h r2 t2 n2⟩ = true ∧
    prior s ⟨j, .consensus h r2 t2 n2⟩ ⟨i, .consensus h r1 2 n1⟩ = false := by
  have hnd' : isDecided s ⟨j, .consensus h r2 t2 n2⟩ = false :=
    Bool.eq_false_iff.mpr fun hdec => by
      obtain ⟨e, hq⟩ := Bool.and_eq_true_iff.mp hdec
      exact hnd ⟨eq_of_beq e, of_decide_eq_true hq⟩
  have hd' : isDecided s ⟨i, .consensus h r1 2 n1⟩ = true :=
    Bool.and_eq_true_iff.mpr ⟨rfl, decide_eq_true hd⟩
  -- on either side of the current height a decided message scores above all others at the subtype level
  refine before_of_key (lexStep_eq _ rfl (lexStep_eq _ rfl (lexStep_gt _ ?_)))
  by_cases hgt : h > s.height
  · have hc : ∀ i r t n, compareHeightOrSlot s ⟨i, .consensus h r t n⟩ = 2 :=
      fun _ _ _ _ => (if_neg hh).trans (if_pos hgt)
    rw [subtype_future _ (hc ..), subtype_future _ (hc ..), hd', hnd']
    exact (by decide : 2 < 4)
  · have hc : ∀ i r t n, compareHeightOrSlot s ⟨i, .consensus h r t n⟩ = 0 :=
      fun _ _ _ _ => (if_neg hh).trans (if_neg hgt)
    rw [subtype_past _ (hc ..), subtype_past _ (hc ..), hd', hnd']
    cases isCommit ⟨j, .consensus h r2 t2 n2⟩
    · exact (by decide : 0 < 2)
    · exact (by decide : 1 < 2)

/-- non-vacuity: concrete messages meet the hypotheses of the order theorems -/
example : nonEvent ⟨1, .consensus 5 1 0 1⟩ ∧ nonEvent ⟨2, .partialSig 4 true⟩ ∧
    compareHeightOrSlot ⟨true, 5, 1, 5, 3⟩ ⟨1, .consensus 5 1 0 1⟩ = 1 ∧
    compareHeightOrSlot ⟨true, 5, 1, 5, 3⟩ ⟨2, .partialSig 4 true⟩ = 0 :=
  ⟨fun _ h => (nomatch h), fun _ h => (nomatch h), rfl, rfl⟩

/-! ## every operation sequence / interleaving -/

/-- the atomic steps of the queue plus the public composite operations; `prior`/`adm` of each pop are arbitrary -/
inductive Op (α : Type)
  | tryPush (m : α)
  | recvOne
  | readInbox
  | popMem (prior : α → α → Bool) (adm : α → Bool)
  | tryPop (prior : α → α → Bool) (adm : α → Bool)
  | popBlocking (readFirst : Bool) (prior : α → α → Bool) (adm : α → Bool)

/-- queue state with two ghost logs: messages pushed successfully, messages returned by pops -/
structure Hist (α : Type) where
  q : Q α
  pushed : List α
  returned : List α

def Hist.step (h : Hist α) : Op α → Hist α
  | .tryPush m => let (q', ok) := h.q.tryPush m; { h with q := q', pushed := if ok then m :: h.pushed else h.pushed }
  | .recvOne => { h with q := h.q.recvOne }
  | .readInbox => { h with q := h.q.readInbox }
  | .popMem p a => let (q', r) := h.q.popMem p a; { h with q := q', returned := r.toList ++ h.returned }
  | .tryPop p a => let (q', r) := h.q.tryPop p a; { h with q := q', returned := r.toList ++ h.returned }
  | .popBlocking rf p a => let (q', r) := h.q.popBlocking rf p a; { h with q := q', returned := r.toList ++ h.returned }

def Hist.Inv (h : Hist α) : Prop := h.pushed.Perm (h.returned ++ h.q.inbox ++ h.q.list)

private theorem Hist.inv_iff (h : Hist α) : h.Inv ↔ h.pushed.Perm (h.returned ++ h.q.all) := by
  rw [Hist.Inv, List.append_assoc]; rfl

/-- an operation that moves `r` out of the stored messages and returns it keeps the books balanced -/
private theorem inv_of_all {h : Hist α} (hinv : h.Inv) {q' : Q α} {r : Option α}
    (hq : h.q.all.Perm (r.toList ++ q'.all)) :
    Hist.Inv { h with q := q', returned := r.toList ++ h.returned } := by
  refine (Hist.inv_iff _).mpr (((Hist.inv_iff h).mp hinv).trans ((hq.append_left _).trans ?_))
  show (h.returned ++ (r.toList ++ q'.all)).Perm (r.toList ++ h.returned ++ q'.all)
  rw [← List.append_assoc]
  exact List.perm_append_comm.append_right _

theorem step_inv (h : Hist α) (op : Op α) (hinv : h.Inv) : (h.step op).Inv := by
  cases op with
  | tryPush m =>
    refine (Hist.inv_iff _).mpr ?_
    have hq := tryPush_all h.q m
    show (if (h.q.tryPush m).2 then m :: h.pushed else h.pushed).Perm (h.returned ++ (h.q.tryPush m).1.all)
    generalize (h.q.tryPush m).2 = ok at hq ⊢
    cases ok
    · exact ((Hist.inv_iff h).mp hinv).trans (hq.symm.append_left _)
    · exact (((Hist.inv_iff h).mp hinv).cons m).trans (List.perm_middle.symm.trans (hq.symm.append_left _))
  | recvOne => exact inv_of_all (r := none) hinv (recvOne_all h.q).symm
  | readInbox => exact inv_of_all (r := none) hinv (readInbox_all h.q).symm
  | popMem p a => exact inv_of_all hinv (popMem_all h.q p a)
  | tryPop p a => exact inv_of_all hinv (tryPop_all h.q p a)
  | popBlocking rf p a => exact inv_of_all hinv (popBlocking_all h.q p a rf)

/-- conservation over every history: after ANY sequence of pushes, channel receives, inbox reads,
    pops, try-pops and blocking pops (arbitrary filters and prioritizers at each pop), the multiset of
    successfully pushed messages equals the multiset of returned messages plus what is still queued:
    nothing is lost, nothing is duplicated, nothing is discarded by a pop that does not return it. -/
theorem C14_history_conservation (cap : Nat) (ops : List (Op α)) :
    (ops.foldl Hist.step ⟨⟨[], cap, []⟩, [], []⟩).Inv := by
  suffices ∀ (h : Hist α), h.Inv → (ops.foldl Hist.step h).Inv from this _ (.refl _)
  induction ops with
  | nil => exact fun h hh => hh
  | cons op ops ih => exact fun h hh => ih _ (step_inv h op hh)

/-- `TryPop` returns a message whenever an admissible one is anywhere in the queue (channel or list) -/
theorem C14_tryPop_complete (q : Q α) (prior : α → α → Bool) (adm : α → Bool)
    (h : ∃ m ∈ q.inbox ++ q.list, adm m = true) : (q.tryPop prior adm).2.isSome = true := by
  obtain ⟨m, hm, ha⟩ := h
  refine C14_pop_complete prior adm q.readInbox.list ⟨m, ?_, ha⟩
  exact List.mem_append.mpr ((List.mem_append.mp hm).imp_left List.mem_reverse.mpr)

/-- the blocking `Pop` (with a context cancelled once nothing more arrives) also returns a message
    whenever an admissible one is queued, whatever the outcome of its read-frequency test -/
theorem C14_popBlocking_complete (q : Q α) (rf : Bool) (prior : α → α → Bool) (adm : α → Bool)
    (h : ∃ m ∈ q.inbox ++ q.list, adm m = true) : (q.popBlocking rf prior adm).2.isSome = true := by
  obtain ⟨m, hm, ha⟩ := h
  obtain ⟨q', hq, ⟨hsome, _⟩ | h⟩ := popBlocking_cases q prior adm rf
  · exact hsome
  · rw [h]
    exact C14_tryPop_complete q' prior adm ⟨m, hq.mem_iff.mpr hm, ha⟩

/-! ## the defect repaired by `fix: queue pop must not drop or skip messages …` (kept as a regression witness) -/

/-- the scan of the ORIGINAL `pop` for lists of at least two items: start from the head even when the
    filter rejects it, replace it only by an item that is both `Prior` to it and admitted -/
def selectOld (prior : α → α → Bool) (adm : α → Bool) : List α → Nat → (Nat × α) → (Nat × α)
  | [], _, best => best
  | x :: xs, i, best => selectOld prior adm xs (i + 1) (if prior x best.2 && adm x then (i, x) else best)

/-- the ORIGINAL `priorityQueue.pop` -/
def popListOld (prior : α → α → Bool) (adm : α → Bool) : List α → List α × Option α
  | [] => ([], none)
  | [x] => if adm x then ([], some x) else ([x], none)
  | x :: y :: rest =>
    let (i, h) := selectOld prior adm (y :: rest) 1 (0, x)
    ((x :: y :: rest).eraseIdx i, if adm h then some h else none)

/-- the original pop lost the head when the filter rejected it: two queued consensus messages, a filter
    admitting nothing — afterwards only one is queued and nothing was returned -/
theorem C14_old_pop_dropped_head :
    popListOld (prior ⟨true, 100, 1, 64, 3⟩) (fun _ => false)
      [⟨2, .consensus 101 1 1 1⟩, ⟨1, .consensus 100 1 1 1⟩] = ([⟨1, .consensus 100 1 1 1⟩], none) := by
  decide

/-- … and it failed to return an admissible message queued behind a rejected, higher-priority head -/
theorem C14_old_pop_incomplete :
    popListOld (prior ⟨true, 100, 1, 64, 3⟩) (fun m => m.id == 2)
      [⟨1, .consensus 100 1 1 1⟩, ⟨2, .consensus 101 1 1 1⟩] = ([⟨2, .consensus 101 1 1 1⟩], none) := by
  decide

/-! ## non-vacuity -/

example : (popList (prior ⟨true, 100, 1, 64, 3⟩) (fun _ => false)
    [(⟨2, .consensus 101 1 1 1⟩ : Msg), ⟨1, .consensus 100 1 1 1⟩]) =
    ([⟨2, .consensus 101 1 1 1⟩, ⟨1, .consensus 100 1 1 1⟩], none) := by decide

example : (popList (prior ⟨true, 100, 1, 64, 3⟩) (fun m => m.id == 2)
    [(⟨1, .consensus 100 1 1 1⟩ : Msg), ⟨2, .consensus 101 1 1 1⟩]).2 = some ⟨2, .consensus 101 1 1 1⟩ := by decide

example : (popList (prior ⟨true, 100, 1, 64, 3⟩) filterAny
    [(⟨1, .consensus 101 1 1 1⟩ : Msg), ⟨2, .event 0⟩, ⟨3, .consensus 100 1 0 1⟩, ⟨4, .event 1⟩]).2 = some ⟨4, .event 1⟩ := by decide

end Ssv.Queue
