/-
C01 — Consensus agreement: honest operators never decide different values.

STATUS (layered, DESIGN §7.1 / Appendix E):
* Layer A (`C01_agreement_of_rules`, proved in Ssv/Proofs/QbftAbstract.lean): agreement follows from eight local trace
  rules H0–H7 about the events of correct operators (prepare-once, commit needs an authentic prepare quorum or a stale accepted proposal after a regress, justified
  proposals re-propose the highest prepared value, round-changes reflect the lock, decided/regress need an authentic commit
  quorum) — for ANY committee of n = 3f+1 with at most f Byzantine members, any trace length, any rounds; the rules
  tolerate the round regression by decided messages (`Controller.UponDecided: State.Round := msg.Round`).
* Layer B (NOT in this file: Ssv/Props/C01LayerB.lean, on Ssv/Model/Qbft): each rule is an invariant of the executable node model
  (controller + instance, WITHOUT the runner's compaction). With compaction H1 fails — the implementation-side search of
  this property reproduces two correct operators reporting different values on the real compacting node (known finding).
* The executable model is tied to the code by engine `qbft` (multi-node simulation of real controllers, every node diffed).
-/
import Ssv.Proofs.QbftAbstract
import Ssv.Proofs.Kernels
import Ssv.Gen.Qbft
import Ssv.Model.Qbft.Instance

namespace Ssv.Qbft

/-- Layer A: in every trace satisfying the rules, any two decisions reported by correct operators carry the same value. -/
theorem C01_agreement_of_rules {N : Type} [Fintype N] [DecidableEq N] (c : QAbs.Ctx N) (R : QAbs.Rules c)
    {i j : N} {r v k r' v' k' : Nat} (hi : i ∉ c.byz) (hj : j ∉ c.byz)
    (hD : QAbs.At c k (.D i r v)) (hD' : QAbs.At c k' (.D j r' v')) : v = v' :=
  QAbs.agreement (c := c) R hi hj hD hD'

/-- non-vacuity: a concrete 4-member trace (member 3 Byzantine; members 0,1,2 prepare, commit and decide value 7 in round 1)
    satisfies all eight rules, and contains two decisions of different correct operators -/
example : QAbs.Rules QAbs.exCtx ∧ QAbs.At QAbs.exCtx 6 (.D 0 1 7) ∧ QAbs.At QAbs.exCtx 8 (.D 2 1 7) ∧
    (0 : Fin 4) ∉ QAbs.exCtx.byz ∧ (2 : Fin 4) ∉ QAbs.exCtx.byz :=
  ⟨QAbs.exRules, rfl, rfl, by decide, by decide⟩

/-- the quorum arithmetic the rules rely on (two quorums intersect in more than f members, a quorum and f+1 members
    intersect), from the kernel translated from `ComputeQuorumAndPartialQuorum` on every run, for every committee size the
    node accepts -/
theorem C01_tie_quorum_intersection (n : Int) (h : Gen.k_ValidCommitteeSize n = true) :
    let q := (Gen.k_ComputeQuorumAndPartialQuorum n).1
    let p := (Gen.k_ComputeQuorumAndPartialQuorum n).2
    let f := (n - 1) / 3
    2 * q - n ≥ f + 1 ∧ q + p > n ∧ q > f ∧ q ≤ n ∧ p = f + 1 := Kernels.quorum_intersection n h

/-- code anchors of the rules: the prepare quorum precedes the commit (H2), the first message per signer and round wins
    (H1), `UponDecided` validates the certificate before it touches the instance (H6), the commit quorum is counted per
    (round, root) over unique signers (H7), `isProposalJustification` calls the round-change check, the quorum tests,
    `highestPrepared` and the prepare check in this order (H3) -/
theorem C01_tie_rule_anchors :
    Gen.calls_qbft_node_uponPrepare = ["HasQuorum", "AddFirstMsgForSignerAndRound", "HasQuorum", "CreateCommit", "Broadcast"] ∧
    Gen.calls_qbft_node_uponProposal = ["AddFirstMsgForSignerAndRound", "TimeoutForRound", "HashDataRoot", "CreatePrepare", "Broadcast"] ∧
    Gen.calls_qbft_UponDecided =
      ["ValidateDecided", "InstanceForHeight", "FindInstance", "addNewInstance", "NewInstance", "AddMsg", "addNewInstance", "IsDecided", "AddMsg",
       "LongestUniqueSignersForRoundAndRoot", "AddMsg", "FindInstance", "SaveInstance", "NewDecidedHandler"] ∧
    Gen.calls_qbft_node_commitQuorumForRoundRoot = ["LongestUniqueSignersForRoundAndRoot", "HasQuorum", "Share.HasQuorum"] ∧
    Gen.calls_qbft_node_isProposalJustification =
      ["valCheck", "validRoundChangeForData", "HasQuorum", "RoundChangePrepared", "HasQuorum", "highestPrepared", "HashDataRoot",
       "validSignedPrepareForHeightRoundAndRoot"] :=
  ⟨rfl, rfl, rfl, rfl, rfl⟩

/-- `getRoundChangeData` (the content of every round-change an operator creates: timeout, partial-quorum pull): ONE condition —
    `LastPreparedRound != NoRound && LastPreparedValue != nil` — separates the prepared answer (prepared round, H(value), value,
    whatever `getRoundChangeJustification` still finds) from the unprepared one; the only other tests are the two error checks. In
    particular nothing looks at the number of justifications: a prepared operator ALWAYS announces its lock (model:
    `createRoundChange`, which reads the prepare container only for the justification list — `createRoundChange_prepared`).
    Same literals / operators / calls as the reference. -/
theorem C01_tie_round_change_data :
    Gen.lits_qbft_node_getRoundChangeData =
      ["&&", "!=", "!=", "!=", "32", "\"could not get round change justification\"", "!=", "32", "\"could not hash input data\"", "32"] ∧
    Gen.lits_qbft_node_getRoundChangeData = Gen.lits_qbft_spec_getRoundChangeData ∧
    Gen.calls_qbft_node_getRoundChangeData = ["getRoundChangeJustification", "HashDataRoot"] ∧
    Gen.calls_qbft_node_getRoundChangeData = Gen.calls_qbft_spec_getRoundChangeData :=
  ⟨rfl, rfl, rfl, rfl⟩

/-- the model's round-change of a prepared operator carries the lock whatever the prepare container holds -/
theorem createRoundChange_prepared (cfg : Cfg) (s : State) (newRound : Nat)
    (h : (s.lastPreparedRound != noRound && s.lastPreparedValue != 0) = true) :
    (createRoundChange cfg s newRound).dataRound = s.lastPreparedRound ∧
    (createRoundChange cfg s newRound).fullData = s.lastPreparedValue ∧
    (createRoundChange cfg s newRound).root = hashData s.lastPreparedValue := by
  simp [createRoundChange, h, ownMsg]

end Ssv.Qbft
