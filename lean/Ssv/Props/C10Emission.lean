/-
C10 — Messages produced by correct operators are never rejected by correct peers: the EMISSION side.

`Props/C10.lean` proves "never rejected" for every message that satisfies the abstract emission predicate
`Validation.HonestConsensus`. This file DISCHARGES that predicate from the executable QBFT node model
(`Ssv/Model/Qbft`: instance + controller; multi-node system `SystemB`) for every consensus message a correct operator
broadcasts — `Instance.Broadcast` outputs (`.bcast`: proposal, prepare, commit, round change) and
`Controller.broadcastDecided` outputs (`.bcastDecided`: the aggregated commit) — and composes the two.

Translation (`toValidationMsg`, Proofs/EmissionBridge.lean): type, height (= slot), round, signers, root, full data
(absent iff empty, else the id of its hash), lengths / decodability of the two justification lists; the validation
model's abstract Boolean `justOk` ("`instance.IsProposalJustification(...) == nil`") is DEFINED, for messages of the node
model, as the node model's own `isProposalJustification` run the way the validator runs it (`C10_justification_bridge`).

HEADLINE  `C10_node_emissions_not_rejected`:
  state reachable in `SystemB` through gated deliveries, enabled (gated) step of a correct operator, timing hypothesis on
  the step, any output `.bcast x` / `.bcastDecided x`, peer with a matching share and a fresh-or-consistent state, ANY
  receive time  ⟹  the verdict on `toValidationMsg x` is not `reject` (and not a panic).
  `C10_node_instance_emissions_not_rejected` is the same for `.bcast` outputs over plain `Reachable` (no gate needed).
  `C10_node_emissions_accepted_fresh_timely`: fresh peer that knows the validator, inside the slot / round window ⟹ accept.

Hypotheses that remain (exact names):
* `TimelyAction σ a` — or, in the plain form, `InRoundAction` along the run (`ReachableC`, f ≥ 1):
  `C10_node_emissions_not_rejected_in_round`, `C10_timing_from_in_round_delivery`.
  `TimelyAction σ a` (= `RcQuorumInRound` on the delivered round-change): "a valid round-change that completes the
  round-change quorum of its round r does so while `State.Round ≥ r` (hence = r: past rounds are dropped)", i.e. a quorum
  for a FUTURE round never completes — the property's timing assumption ("messages arrive within the round") in the only
  place the node's emission code depends on it.
  NECESSARY: `C10_untimed_emissions_not_rejected_full_refuted` (all four operators correct).
* `GatedAction a` / `ReachableG σ` (decided messages only): the operator's own message validation precedes its controller, so
  stored commits carry no justification fields; `aggregateCommitMsgs` copies `msgs[0]` including those fields.
* `EnvelopeOk i w`: encoded size, role, public key, operator-signature envelope, BLS signature bytes — outside both models.
* `ShareMatches cfg sh`, `Validation.PeerConsistent X st i sh m`: the peer's view (committee/quorum; DESIGN §9 duty store; no
  different proposal data stored for this very (slot, round); duty count not exhausted).
The receive time does not enter "not rejected" at all: every time-dependent rule of the validator is ignore-class
(`C10_emitted_not_rejected` holds for every clock); it enters acceptance through `Validation.TimelyKnown`, whose
round-window field follows from the timer deadlines by `C10_timely_message_passes_round_window`.

Structural clauses discharged from the node model (each a theorem below): single signer = own id; proposal only by
`proposer height round` with root = hash(full data) and a justification accepted by `isProposalJustification` (round 1: from
`Start`; later rounds: round-change quorum); prepare / commit root = the accepted proposal's root, no full data, no
justification fields; round ≥ 1 everywhere; round change carries prepared data iff the instance is locked, with a
justification that is empty or a prepare quorum for (LastPreparedRound, LastPreparedValue); decided: commit type, ≥ quorum
distinct non-zero committee signers, SORTED (strictly increasing), root = hash(full data), no justification fields.
Message counts (`C10_message_counts`): ≤ 1 prepare, ≤ 1 commit per round and operator; ≤ 1 round change per round while no
decided message moved the operator's round. (Ignore-class rule; not part of `HonestConsensus`.)
Helper lemmas: Ssv/Proofs/EmissionBridge{,Inst,Sys,Count,Skew,SkewSys,Example}.lean.
-/
import Ssv.Proofs.EmissionBridgeExample
import Ssv.Proofs.EmissionBridgeCount
import Ssv.Props.C10

namespace Ssv.Emission
open Ssv Ssv.Qbft Ssv.Qbft.B

/-- BRIDGE HYPOTHESIS, as a definition: for a message of the node model the validation model's abstract `justOk` IS the
    node model's `isProposalJustification`, called as `validateJustifications` calls `IsProposalJustification`
    (state height := message height; state identifier := message identifier; committee / quorum of the share; value
    check always nil) -/
theorem C10_justification_bridge (cfg : Cfg) (w : Wire) (m : Msg) :
    (toValidationMsg cfg w m).justOk =
      (isProposalJustification (validatorCfg cfg m.ident) m.height m.rcJust m.prepJust m.height m.round m.fullData).isOk := by
  unfold toValidationMsg justBridge
  rfl

/-- what the validator reads of a broadcast -/
theorem C10_translation_fields (cfg : Cfg) (w : Wire) (m : Msg) :
    (toValidationMsg cfg w m).mtype = m.type ∧ (toValidationMsg cfg w m).height = m.height ∧
    (toValidationMsg cfg w m).round = m.round ∧ (toValidationMsg cfg w m).signers = m.signers ∧
    (toValidationMsg cfg w m).root = m.root ∧
    ((toValidationMsg cfg w m).fullData = none ↔ m.fullData = 0) ∧
    (toValidationMsg cfg w m).pjLen = m.prepJust.length ∧ (toValidationMsg cfg w m).rcjLen = m.rcJust.length := by
  unfold toValidationMsg
  refine ⟨rfl, rfl, rfl, rfl, rfl, ?_, rfl, rfl⟩
  show (if m.fullData = 0 then none else some (hashData m.fullData)) = none ↔ _
  by_cases h : m.fullData = 0
  · rw [if_pos h]; exact ⟨fun _ => h, fun _ => rfl⟩
  · rw [if_neg h]; exact ⟨fun e => (nomatch e), fun e => absurd e h⟩

/-- on a non-empty value and the instance's own identifier the validator's call (nil value check, `state.ID` = message
    identifier) and the node's call of the predicate agree -/
theorem C10_validator_call_agrees (cfg : Cfg) (sh : Nat) (rcs : List Lvl1) (ps : List Base) (h r fd : Nat)
    (hv : cfg.valOk fd = true) :
    isProposalJustification (validatorCfg cfg cfg.ident) sh rcs ps h r fd = isProposalJustification cfg sh rcs ps h r fd :=
  isProposalJustification_validator cfg sh rcs ps h r fd hv

/-- the node's `ProposerF` and the validator's leader computation are the same function (all heights, all rounds,
    including the Go `int` wrap-around and both panic sites) -/
theorem C10_proposer_models_agree (c : List Nat) (h r l : Nat) (hq : Qbft.roundRobinProposer c h r = some l) :
    Validation.roundRobinProposer c h r = .ok l := proposer_agree c h r l hq

/-- the exact list of what `Instance.ProcessMsg(m)` may hand to `Broadcast` -/
theorem C10_processMsg_emits (cfg : Cfg) (s : State) (m x : Msg) (hx : Out.bcast x ∈ (processMsg cfg s m).outs) :
    Emit cfg s m x := processMsg_emit cfg s m x ((mem_bcasts _ _).2 hx)

/-- CLAUSE prepare: single own signer; root = root of the proposal accepted in this step (which passed
    `isValidProposal`); its round, the instance's height; no full data, no justification fields -/
theorem C10_prepare_clause (cfg : Cfg) (s : State) (m x : Msg) (hx : Out.bcast x ∈ (processMsg cfg s m).outs)
    (hp : x.type = tPrepare) :
    x.signers = [cfg.own] ∧ isValidProposal cfg s m = .ok () ∧ x.root = m.root ∧ x.round = m.round ∧
    x.height = s.height ∧ x.fullData = 0 ∧ x.rcJust = [] ∧ x.prepJust = [] := by
  have he := C10_processMsg_emits cfg s m x hx
  have hs := emit_signer he
  obtain ⟨hv, rfl⟩ := (emit_byType he).prepare hp
  exact ⟨hs, hv, (isValidProposal_ok cfg s m () hv).hash, rfl, rfl, rfl, rfl, rfl⟩

/-- CLAUSE commit: single own signer; root = the accepted proposal's root; the current round and height; no full data, no
    justification fields -/
theorem C10_commit_clause (cfg : Cfg) (s : State) (m x : Msg) (hx : Out.bcast x ∈ (processMsg cfg s m).outs)
    (hp : x.type = tCommit) :
    x.signers = [cfg.own] ∧ ∃ p, s.accepted = some p ∧ x.root = p.root ∧ x.round = s.round ∧ x.height = s.height ∧
      x.fullData = 0 ∧ x.rcJust = [] ∧ x.prepJust = [] := by
  have he := C10_processMsg_emits cfg s m x hx
  have hs := emit_signer he
  obtain ⟨p, hacc, _, rfl⟩ := (emit_byType he).commit hp
  exact ⟨hs, p, hacc, rfl, rfl, rfl, rfl, rfl, rfl⟩

/-- CLAUSE round change (of `ProcessMsg`: f+1 round changes for higher rounds; of `UponRoundTimeout`: round + 1): a round
    above the current one (≥ 2), and the shape described in `createRoundChange_clause`: prepared data iff the instance is
    locked, with an empty justification or a prepare quorum for (LastPreparedRound, LastPreparedValue) -/
theorem C10_roundChange_clause (cfg : Cfg) (s : State) (x : Msg)
    (hx : (∃ m, Out.bcast x ∈ (processMsg cfg s m).outs ∧ x.type = tRoundChange) ∨
          Out.bcast x ∈ (uponRoundTimeout cfg s).outs) :
    ∃ R, s.round < R ∧ x = createRoundChange cfg s R ∧ x.round = R ∧ x.height = s.height ∧ x.signers = [cfg.own] ∧
      x.prepJust = [] ∧
      (((s.lastPreparedRound ≠ noRound ∧ s.lastPreparedValue ≠ 0) ∧ x.dataRound = s.lastPreparedRound ∧
          x.fullData = s.lastPreparedValue ∧ x.root = hashData s.lastPreparedValue ∧
          (x.rcJust = [] ∨ (cfg.hasQuorum (signersOfL x.rcJust) = true ∧ ∀ pm ∈ x.rcJust,
            validSignedPrepare cfg pm.toBase s.height s.lastPreparedRound (hashData s.lastPreparedValue) = .ok ()))) ∨
       (¬ (s.lastPreparedRound ≠ noRound ∧ s.lastPreparedValue ≠ 0) ∧ x.dataRound = noRound ∧ x.fullData = 0 ∧
          x.root = zeroRoot ∧ x.rcJust = [])) := by
  have key : ∃ R, s.round < R ∧ x = createRoundChange cfg s R := by
    rcases hx with ⟨m, hm, ht⟩ | hx
    · exact (emit_byType (C10_processMsg_emits cfg s m x hm)).roundChange ht
    · exact ⟨s.round + 1, Nat.lt_succ_self _, uponRoundTimeout_bcast cfg s x ((mem_bcasts _ _).2 hx)⟩
  obtain ⟨R, hR, rfl⟩ := key
  obtain ⟨_, b, c, d, e, f⟩ := createRoundChange_clause cfg s R
  exact ⟨R, hR, rfl, b, c, d, e, f⟩

/-- CLAUSE round-1 proposal (`Instance.Start`): only the round-1 leader proposes; single own signer, round 1, root =
    hash(start value), no justification (and none is needed: `isProposalJustification` accepts it) -/
theorem C10_first_round_proposal_clause (cfg : Cfg) (s : State) (v h : Nat) (hv : cfg.valOk v = true) (x : Msg)
    (hx : Out.bcast x ∈ (start cfg s v h).outs) :
    x.type = tProposal ∧ x.signers = [cfg.own] ∧ x.height = h ∧ x.round = firstRound ∧ x.fullData = v ∧
    x.root = hashData v ∧ x.rcJust = [] ∧ x.prepJust = [] ∧ cfg.proposer h firstRound = some cfg.own ∧
    isProposalJustification cfg h x.rcJust x.prepJust h x.round x.fullData = .ok () := by
  have hb := (mem_bcasts _ _).2 hx
  obtain ⟨h1, h2⟩ := start_bcast cfg s v h x hb
  have hh := (honestInst_start cfg s v h hv x hb).justified (by rw [h1]; rfl)
  subst h1
  exact ⟨rfl, rfl, rfl, rfl, rfl, rfl, rfl, rfl, h2, hh⟩

/-- CLAUSE justified proposal (`uponRoundChange`), under the timing hypothesis `RcQuorumInRound`: sent by
    `proposer height round` for the current round, root = hash(full data), and the attached round-changes / prepares
    satisfy the very `isProposalJustification` the validator calls — beyond round 1, a round-change quorum -/
theorem C10_justified_proposal_clause (cfg : Cfg) (s : State) (m x : Msg) (hr : 1 ≤ s.round)
    (ht : RcQuorumInRound cfg s m) (hx : Out.bcast x ∈ (processMsg cfg s m).outs) (hp : x.type = tProposal) :
    x.signers = [cfg.own] ∧ x.height = s.height ∧ x.round = s.round ∧ x.root = hashData x.fullData ∧
    cfg.proposer s.height s.round = some cfg.own ∧
    isProposalJustification cfg s.height x.rcJust x.prepJust s.height s.round x.fullData = .ok () ∧
    (s.round ≠ firstRound → cfg.hasQuorum (signersOfL x.rcJust) = true) := by
  have he := C10_processMsg_emits cfg s m x hx
  have hh := honestInst_of_emit cfg s m x hr ht he
  obtain ⟨j, v, rfl⟩ := (emit_byType he).proposal hp
  have h2 := hh.justified rfl
  exact ⟨rfl, rfl, rfl, rfl, hh.leader rfl, h2, fun hne => (isProposalJustification_quorum _ _ _ _ _ _ _ h2 hne).1⟩

/-- CLAUSE decided aggregate: what `Instance.ProcessMsg` returns on a commit quorum (and `Controller.ProcessMsg` hands to
    `broadcastDecided`), from a pre-state satisfying the instance invariant of C02 with a plain commit container: commit
    type, ≥ quorum distinct non-zero committee signers, SORTED (strictly increasing: `sort.Slice` on distinct ids),
    root = hash(full data), current round ≥ 1, no justification fields -/
theorem C10_decided_clause (cfg : Cfg) (s : State) (m d : Msg) (b : Bool) (v : Nat)
    (hinv : InstInv cfg s) (hid : m.ident = cfg.ident) (hr : 1 ≤ s.round) (hpl : CommitsPlain s) (hg : Gated m)
    (h : (processMsg cfg s m).res = .ok b v (some d)) :
    d.type = tCommit ∧ d.signers.Pairwise (· < ·) ∧ cfg.quorum ≤ d.signers.length ∧
    (∀ g ∈ d.signers, g ∈ cfg.committee ∧ g ≠ 0) ∧ hashData d.fullData = d.root ∧ d.round = s.round ∧
    d.height = s.height ∧ d.rcJust = [] ∧ d.prepJust = [] := by
  obtain ⟨hd, h1, h2⟩ := honestDecided_of_processMsg cfg s m d b v hinv hid hr hpl hg h
  exact ⟨hd.cert.isCommit, hd.sorted, hd.cert.quorum,
    fun g hg' => ⟨hd.cert.committee g hg', fun h0 => hd.cert.nozero (h0 ▸ hg')⟩, hd.cert.hash, h1, h2, hd.noJust.1, hd.noJust.2⟩

/-- the instance functions establish the structural emission predicate for everything they broadcast -/
theorem C10_instance_outputs_honest (cfg : Cfg) (s : State) (hr : 1 ≤ s.round) (x : Msg) :
    (∀ m, RcQuorumInRound cfg s m → Out.bcast x ∈ (processMsg cfg s m).outs → HonestInst cfg x) ∧
    (Out.bcast x ∈ (uponRoundTimeout cfg s).outs → HonestInst cfg x) ∧
    (∀ v h, cfg.valOk v = true → Out.bcast x ∈ (start cfg s v h).outs → HonestInst cfg x) :=
  ⟨fun m ht hx => honestInst_of_emit cfg s m x hr ht (C10_processMsg_emits cfg s m x hx),
   fun hx => uponRoundTimeout_bcast cfg s x ((mem_bcasts _ _).2 hx) ▸ honestInst_createRoundChange cfg s _ (Nat.le_add_left 1 _),
   fun v h hv hx => honestInst_start cfg s v h hv x ((mem_bcasts _ _).2 hx)⟩

/-- structural predicate ⇒ the abstract predicate of `Props/C10.lean` (instance messages / decided messages) -/
theorem C10_honest_messages_satisfy_HonestConsensus (cfg : Cfg) (hc : CfgWF cfg) (x : Msg)
    (hx : HonestInst cfg x ∨ HonestDecided cfg x) (sh : Validation.Share) (hsh : ShareMatches cfg sh)
    (i : Validation.Input) (w : Wire) (he : EnvelopeOk i w) :
    Validation.HonestConsensus i sh (toValidationMsg cfg w x) := by
  rcases hx with hx | hx
  · exact honestConsensus_of_inst cfg hc x hx sh hsh i w he
  · exact honestConsensus_of_decided cfg hc x hx sh hsh i w he

/-- INSTANCE MESSAGES: every message a correct operator hands to `Instance.Broadcast` in an enabled step from a reachable
    state of `SystemB` is an honest instance message, provided the delivered round-change (if any) respects the timing
    assumption -/
theorem C10_node_bcast_honest {P : Params} (hP : P.Valid) {σ : Sys P} (hr : Reachable σ) (a : Action P)
    (hen : enabled σ a = true) (ht : TimelyAction σ a) (x : Msg) (hx : Out.bcast x ∈ stepOuts σ a) :
    HonestInst (P.cfg (actor a)) x := sys_bcast_honest hP hr a hen ht x hx

/-- DECIDED MESSAGES: every message a correct operator hands to `broadcastDecided` in an enabled, gated step from a state
    reachable through gated deliveries is an honest decided message -/
theorem C10_node_decided_honest {P : Params} (hP : P.Valid) {σ : Sys P} (hr : ReachableG σ) (a : Action P)
    (hen : enabled σ a = true) (hg : GatedAction a) (d : Msg) (hd : Out.bcastDecided d ∈ stepOuts σ a) :
    HonestDecided (P.cfg (actor a)) d := sys_decided_honest hP hr a hen hg d hd

/-- what `step` appends to the log of broadcasts is exactly the `.bcast` outputs -/
theorem C10_log_is_bcasts {P : Params} (σ : Sys P) (a : Action P) (x : Msg) :
    x ∈ (step σ a).log ↔ x ∈ σ.log ∨ Out.bcast x ∈ stepOuts σ a := by
  rw [step_log, List.mem_append, mem_bcasts]

/-- instance messages (`Instance.Broadcast`), plain reachability: never rejected, never a panic, at any receive time -/
theorem C10_node_instance_emissions_not_rejected {P : Params} (hP : P.Valid) {σ : Sys P} (hr : Reachable σ)
    (a : Action P) (hen : enabled σ a = true) (ht : TimelyAction σ a) (x : Msg) (hx : Out.bcast x ∈ stepOuts σ a)
    (X : Validation.Ctx) (st : Validation.State) (i : Validation.Input) (w : Wire) (sh : Validation.Share)
    (hb : i.body = .consensus (toValidationMsg (P.cfg (actor a)) w x)) (hs : i.share = some sh ∨ i.share = none)
    (hsh : ShareMatches (P.cfg (actor a)) sh) (he : EnvelopeOk i w)
    (hp : Validation.PeerConsistent X st i sh (toValidationMsg (P.cfg (actor a)) w x)) :
    (∀ t, (Validation.validate X st i).2 ≠ .reject t) ∧ (∀ s, (Validation.validate X st i).2 ≠ .panic s) :=
  Validation.C10_emitted_not_rejected X st i sh _ hb hs
    (honestConsensus_of_inst _ (cfgWF_of_params P hP _) x (C10_node_bcast_honest hP hr a hen ht x hx) sh hsh i w he) hp

/-- HEADLINE: every consensus message a correct operator emits in a step of `SystemB` — `Instance.Broadcast` or
    `broadcastDecided` — validated by a correct peer (matching share, fresh-or-consistent signer state) at ANY receive
    time is not classified as reject and does not crash the peer; hypotheses: gated reachability, the timing assumption
    on the step, the transport envelope -/
theorem C10_node_emissions_not_rejected {P : Params} (hP : P.Valid) {σ : Sys P} (hr : ReachableG σ)
    (a : Action P) (hen : enabled σ a = true) (hg : GatedAction a) (ht : TimelyAction σ a)
    (x : Msg) (hx : Out.bcast x ∈ stepOuts σ a ∨ Out.bcastDecided x ∈ stepOuts σ a)
    (X : Validation.Ctx) (st : Validation.State) (i : Validation.Input) (w : Wire) (sh : Validation.Share)
    (hb : i.body = .consensus (toValidationMsg (P.cfg (actor a)) w x)) (hs : i.share = some sh ∨ i.share = none)
    (hsh : ShareMatches (P.cfg (actor a)) sh) (he : EnvelopeOk i w)
    (hp : Validation.PeerConsistent X st i sh (toValidationMsg (P.cfg (actor a)) w x)) :
    (∀ t, (Validation.validate X st i).2 ≠ .reject t) ∧ (∀ s, (Validation.validate X st i).2 ≠ .panic s) :=
  Validation.C10_emitted_not_rejected X st i sh _ hb hs (sys_emission_honest hP hr a hen hg ht x hx sh hsh i w he) hp

/-- the fault-free clause: a fresh peer that knows the (active) validator and its duties accepts the emission when it
    arrives inside the slot and round windows (`TimelyKnown`; its round-window field follows from the timer deadlines by
    `C10_timely_message_passes_round_window`) -/
theorem C10_node_emissions_accepted_fresh_timely {P : Params} (hP : P.Valid) {σ : Sys P} (hr : ReachableG σ)
    (a : Action P) (hen : enabled σ a = true) (hg : GatedAction a) (ht : TimelyAction σ a)
    (x : Msg) (hx : Out.bcast x ∈ stepOuts σ a ∨ Out.bcastDecided x ∈ stepOuts σ a)
    (X : Validation.Ctx) (st : Validation.State) (i : Validation.Input) (w : Wire) (sh : Validation.Share)
    (hb : i.body = .consensus (toValidationMsg (P.cfg (actor a)) w x))
    (hsh : ShareMatches (P.cfg (actor a)) sh) (he : EnvelopeOk i w)
    (htk : Validation.TimelyKnown X i sh (toValidationMsg (P.cfg (actor a)) w x))
    (hfresh : ∀ s ∈ x.signers, st (i.vid, i.role, s) = none) :
    (Validation.validate X st i).2 = .accept :=
  Validation.C10_emitted_accepted_fresh_timely X st i sh _ hb (sys_emission_honest hP hr a hen hg ht x hx sh hsh i w he)
    htk hfresh

/-! ## the timing hypothesis, derived from in-round delivery

`TimelyAction` is a statement about the receiving instance's round-change container. It FOLLOWS (for f ≥ 1) from the
plain reading of "messages arrive within the round", with one round of skew allowed: along the run every delivered
round-change is for a round ≤ `State.Round + 1`, every delivered decided message is for a round ≥ `State.Round`, and no
correct operator crashes (`InRoundAction`; starts and timeouts, including stale ones, are unconstrained). Reason
(Proofs/EmissionBridgeSkew.lean): the container then never holds f+1 distinct signers for higher rounds without the
instance having jumped (`SkewInv`), and 2f+1 > f+1. -/

/-- the container invariant behind the timing hypothesis, at every correct operator -/
theorem C10_round_change_container_invariant {P : Params} (hP : P.Valid) (hf : 1 ≤ P.f) {σ : Sys P} (hr : ReachableT σ)
    (i : Op P) (s : State) (hs : instAt P.height (σ.ctrl i) = some s) :
    (∀ x ∈ s.roundChange, x.round ≤ s.round + 1) ∧
    (P.cfg i).hasPartialQuorum (signersOf (s.roundChange.filter (fun x => Nat.blt s.round x.round))) = false := by
  have h := skew_of_reachableT hP hf hr i
  rw [hs] at h
  exact ⟨h.near, h.noPQ⟩

/-- TIMING DISCHARGED: in-round deliveries satisfy `TimelyAction` -/
theorem C10_timing_from_in_round_delivery {P : Params} (hP : P.Valid) (hf : 1 ≤ P.f) {σ : Sys P} (hr : ReachableT σ)
    (a : Action P) (hin : InRoundAction σ a) : TimelyAction σ a := by
  cases a with
  | start i v => trivial
  | timeout i r => trivial
  | deliver i m =>
    intro s hs
    have hsk := skew_of_reachableT hP hf hr i
    rw [hs] at hsk
    exact rcQuorumInRound_of_skew _ (quorumWF_of_params P hP hf i) s m hsk

/-- HEADLINE, with the timing assumption in its plain form: in a run of `SystemB` whose deliveries are gated and in-round
    (`ReachableC`), every consensus message a correct operator emits is never rejected by a correct peer -/
theorem C10_node_emissions_not_rejected_in_round {P : Params} (hP : P.Valid) (hf : 1 ≤ P.f) {σ : Sys P}
    (hr : ReachableC σ) (a : Action P) (hen : enabled σ a = true) (hg : GatedAction a) (hin : InRoundAction σ a)
    (x : Msg) (hx : Out.bcast x ∈ stepOuts σ a ∨ Out.bcastDecided x ∈ stepOuts σ a)
    (X : Validation.Ctx) (st : Validation.State) (i : Validation.Input) (w : Wire) (sh : Validation.Share)
    (hb : i.body = .consensus (toValidationMsg (P.cfg (actor a)) w x)) (hs : i.share = some sh ∨ i.share = none)
    (hsh : ShareMatches (P.cfg (actor a)) sh) (he : EnvelopeOk i w)
    (hp : Validation.PeerConsistent X st i sh (toValidationMsg (P.cfg (actor a)) w x)) :
    (∀ t, (Validation.validate X st i).2 ≠ .reject t) ∧ (∀ s, (Validation.validate X st i).2 ≠ .panic s) :=
  C10_node_emissions_not_rejected hP hr.gated a hen hg (C10_timing_from_in_round_delivery hP hf hr.inRound a hin) x hx X st i w sh hb hs
    hsh he hp

/-! ## FINDING: without the timing hypothesis a correct operator's proposal is rejected

`uponRoundChange` checks the justification and its own leadership for the round of the TRIGGERING round-change
(`hasReceivedProposalJustificationForLeadingRound`, which also allows `roundChange.Round > State.Round`), but builds the
proposal with `Round: state.Round` and `MessagesForRound(state.Round)`. When the quorum for a FUTURE round r completes
while the instance is still in a lower round ρ — possible after `uponChangeRoundPartialQuorum` jumped to the MINIMUM
round of the f+1 higher round-changes — the operator broadcasts a round-ρ proposal although it leads round r, justified
by whatever round-ρ round-changes it holds. Peers reject it (`SignerNotLeader`; with n = 4 and r − ρ a multiple of 4:
`InvalidJustifications`), i.e. they penalise a correct operator.

`fSys`: four CORRECT operators, height 3. Operators 1, 3, 4 time out twice; operator 2 (leader of round 3), still in
round 1, receives round-changes (op 1, round 2), (op 1, round 3), (op 3, round 3) → jumps to round 2; then (op 4, round 3)
completes the round-3 quorum → proposal with `Round = 2`. The run needs operator 1 to be two timeouts ahead of operator 2,
which the timing assumption (timers fire at their deadlines, messages arrive within the round) excludes — hence a boundary
of the property, not a violation of it. A second route to the same branch: `UponDecided` lowering `State.Round` below the
round of the round-changes already stored (a decided message arriving more than a round late). -/

/-- the headline statement for `Instance.Broadcast` outputs WITHOUT the timing hypothesis -/
def C10_untimed_emissions_not_rejected_full : Prop :=
  ∀ (P : Params) (_ : P.Valid) (σ : Sys P), ReachableG σ → ∀ (a : Action P), enabled σ a = true → GatedAction a →
    ∀ (x : Msg), Out.bcast x ∈ stepOuts σ a →
    ∀ (X : Validation.Ctx) (st : Validation.State) (i : Validation.Input) (w : Wire) (sh : Validation.Share),
      i.body = .consensus (toValidationMsg (P.cfg (actor a)) w x) → (i.share = some sh ∨ i.share = none) →
      ShareMatches (P.cfg (actor a)) sh → EnvelopeOk i w →
      Validation.PeerConsistent X st i sh (toValidationMsg (P.cfg (actor a)) w x) →
      ∀ t, (Validation.validate X st i).2 ≠ .reject t

/-- the peer's input for operator 2's proposal, received 7 s into slot 3 by a fresh peer -/
def fInput : Validation.Input :=
  Validation.inputAt (toValidationMsg (fP.cfg 1) ⟨96, false⟩ fProposal) (1616508000 + 12 * 3 + 7)

/-- the concrete verdict: reject, "signer is not leader" -/
theorem C10_future_round_proposal_rejected :
    (Validation.validate Validation.ctx0 Validation.State.empty fInput).2 = .reject .SignerNotLeader := by
  decide +kernel

theorem C10_untimed_emissions_not_rejected_full_refuted : ¬ C10_untimed_emissions_not_rejected_full := by
  intro h
  refine h fP fP_valid fSys f_reachableG (.deliver 1 fTrigger) f_facts.deliverable (by decide) fProposal f_facts.outs
    Validation.ctx0 Validation.State.empty fInput ⟨96, false⟩ Validation.share4 rfl (Or.inl rfl)
    ⟨by decide, by decide⟩
    ⟨by decide, by decide, by decide, rfl, ⟨rfl, rfl⟩, Or.inl rfl⟩
    (Validation.C10_fresh_peer_is_consistent _ _ _ _ _ (fun _ _ => rfl) (by intro hrole; exact absurd hrole (by decide)))
    .SignerNotLeader C10_future_round_proposal_rejected

/-- … and the step violates exactly the timing hypothesis: the delivered round-change (round 3) completes its quorum while
    operator 2 is in round 2 -/
theorem C10_future_round_proposal_is_untimely : ¬ TimelyAction fSys (.deliver 1 fTrigger) := f_facts.untimely

/-- a peer input for a message of the run (slot 3 of the test network, `since` seconds into the slot) -/
def exInput (i : Op exP) (x : Msg) (since : Int) : Validation.Input :=
  Validation.inputAt (toValidationMsg (exP.cfg i) ⟨96, false⟩ x) (1616508000 + 12 * 3 + since)

theorem exEnvelope (i : Op exP) (x : Msg) (since : Int) : EnvelopeOk (exInput i x since) ⟨96, false⟩ :=
  ⟨by show (300 : Nat) ≤ Gen.val_maxConsensusMsgSize; decide, by show Validation.validRole 0 = true; decide,
   by show ((0 : Nat) == Gen.val_BNRoleValidatorRegistration || (0 : Nat) == Gen.val_BNRoleVoluntaryExit) = false; decide,
   rfl, ⟨rfl, rfl⟩, Or.inl rfl⟩

theorem exShare (i : Op exP) : ShareMatches (exP.cfg i) Validation.share4 :=
  ⟨by show Validation.share4.committee = exP.committee; decide, by show Validation.share4.quorum = exP.quorum; decide⟩

theorem exFresh (i : Op exP) (x : Msg) (since : Int) :
    Validation.PeerConsistent Validation.ctx0 Validation.State.empty (exInput i x since) Validation.share4
      (toValidationMsg (exP.cfg i) ⟨96, false⟩ x) :=
  Validation.C10_fresh_peer_is_consistent _ _ _ _ _ (fun _ _ => rfl)
    (by intro hrole; exact absurd hrole (by show ¬ (0 : Nat) = Gen.val_BNRoleProposer; decide))

/-- (1) JUSTIFIED PROPOSAL: in `exSysA` the third round-change completes the round-2 quorum at the round-2 leader
    (operator 1), in round 2 (timely); it broadcasts a round-2 proposal carrying the three round-changes -/
theorem exA_facts :
    enabled exSysA (.deliver 0 exRc3) = true ∧ GatedAction (Action.deliver (P := exP) 0 exRc3) ∧
    (instAt exP.height (exSysA.ctrl 0)).map (fun s => s.round) = some 2 ∧
    (stepOuts exSysA (.deliver 0 exRc3)).map (fun o => match o with
      | .bcast x => (x.type, x.round, x.signers, x.rcJust.length, x.fullData) | _ => (9, 0, [], 0, 0)) = [(0, 2, [1], 3, 5)] := by
  exact ⟨exA_step.deliverable, by decide, exA_step.round, by rw [exA_step.outs]; rfl⟩

/-- the delivery is in-round, and `exSysA` was reached through gated in-round deliveries: the in-round headline applies -/
theorem exA_inRound : InRoundAction exSysA (.deliver 0 exRc3) := exA_step.inRound

example : ∀ x, Out.bcast x ∈ stepOuts exSysA (.deliver 0 exRc3) →
    (∀ t, (Validation.validate Validation.ctx0 Validation.State.empty (exInput 0 x 6)).2 ≠ .reject t) :=
  fun x hx => (C10_node_emissions_not_rejected_in_round exP_valid (by decide) exA_reachableC (.deliver 0 exRc3)
    exA_step.deliverable (by decide) exA_inRound x (Or.inl hx) Validation.ctx0 Validation.State.empty (exInput 0 x 6) ⟨96, false⟩
    Validation.share4 rfl (Or.inl rfl) (exShare 0) (exEnvelope 0 x 6) (exFresh 0 x 6)).1

/-- … whereas the run behind the finding state `fSys` is NOT in-round: it delivers a round-3 round-change to an instance that
    is still in round 1 (the in-round checker stops there) -/
example : (runItemsC (Sys.init fP) fSched).isSome = false := by decide +kernel

theorem exA_timely : TimelyAction exSysA (.deliver 0 exRc3) := by
  intro s hs _ _ _
  have hround := exA_step.round
  rw [hs] at hround
  simp only [Option.map_some, Option.some.injEq] at hround
  rw [hround]; exact Nat.le_refl 2

/-- the headline applies to that proposal (hypotheses hold), and the validation model indeed accepts it on a fresh peer
    6.5 s into the slot -/
example : ∀ x, Out.bcast x ∈ stepOuts exSysA (.deliver 0 exRc3) →
    (∀ t, (Validation.validate Validation.ctx0 Validation.State.empty (exInput 0 x 6)).2 ≠ .reject t) :=
  fun x hx => (C10_node_emissions_not_rejected exP_valid exA_reachableG (.deliver 0 exRc3) exA_step.deliverable (by decide)
    exA_timely x (Or.inl hx) Validation.ctx0 Validation.State.empty (exInput 0 x 6) ⟨96, false⟩ Validation.share4 rfl
    (Or.inl rfl) (exShare 0) (exEnvelope 0 x 6) (exFresh 0 x 6)).1

example : (stepOuts exSysA (.deliver 0 exRc3)).map (fun o => match o with
    | .bcast x => (Validation.validate Validation.ctx0 Validation.State.empty (exInput 0 x 6)).2
    | _ => .ignore .EmptyData) = [.accept] := by rw [exA_step.outs]; decide +kernel

/-- (2) DECIDED AGGREGATE: in `exSysB` the third commit makes operator 2 decide; it broadcasts the aggregate with signers
    [1, 2, 3] (sorted), round 2, full data 5 -/
theorem exB_facts :
    enabled exSysB (.deliver 1 exCommit3) = true ∧ GatedAction (Action.deliver (P := exP) 1 exCommit3) ∧
    (stepOuts exSysB (.deliver 1 exCommit3)).map (fun o => match o with
      | .bcastDecided x => (x.type, x.round, x.signers, x.fullData, x.root) | _ => (9, 0, [], 0, 0)) = [(2, 2, [1, 2, 3], 5, 5)] :=
  ⟨exB_step.deliverable, by decide, by rw [exB_step.outs]; rfl⟩

example : ∀ x, Out.bcastDecided x ∈ stepOuts exSysB (.deliver 1 exCommit3) →
    (∀ t, (Validation.validate Validation.ctx0 Validation.State.empty (exInput 1 x 7)).2 ≠ .reject t) :=
  fun x hx => (C10_node_emissions_not_rejected exP_valid exB_reachableG (.deliver 1 exCommit3) exB_step.deliverable (by decide)
    (by intro s _ ht; exact absurd ht (by decide)) x (Or.inr hx) Validation.ctx0 Validation.State.empty (exInput 1 x 7)
    ⟨96, false⟩ Validation.share4 rfl (Or.inl rfl) (exShare 1) (exEnvelope 1 x 7) (exFresh 1 x 7)).1

example : (stepOuts exSysB (.deliver 1 exCommit3)).map (fun o => match o with
    | .bcastDecided x => (Validation.validate Validation.ctx0 Validation.State.empty (exInput 1 x 7)).2
    | _ => .ignore .EmptyData) = [.accept] := by rw [exB_step.outs]; decide +kernel

/-- (3) from `exSys` itself: operator 3 (index 2) — prepared on value 5 in round 2, not decided — times out and broadcasts a
    round-change for round 3 that carries the prepared value and a quorum of prepares -/
theorem ex_timeout_facts :
    enabled exSys (.timeout 2 2) = true ∧
    (stepOuts exSys (.timeout 2 2)).map (fun o => match o with
      | .bcast x => (x.type, x.round, x.signers, x.dataRound, x.fullData, x.rcJust.length) | _ => (9, 0, [], 0, 0, 0)) =
      [(3, 3, [3], 2, 5, 3), (9, 0, [], 0, 0, 0)] := by
  rw [ex_eq]
  exact ⟨exB_step.timer, by rw [exB_step.timeoutOuts]; rfl⟩

example : ∀ x, Out.bcast x ∈ stepOuts exSys (.timeout 2 2) →
    (∀ t, (Validation.validate Validation.ctx0 Validation.State.empty (exInput 2 x 9)).2 ≠ .reject t) :=
  fun x hx => (C10_node_emissions_not_rejected exP_valid ex_reachableG (.timeout 2 2) ex_timeout_facts.1 trivial trivial
    x (Or.inl hx) Validation.ctx0 Validation.State.empty (exInput 2 x 9) ⟨96, false⟩ Validation.share4 rfl
    (Or.inl rfl) (exShare 2) (exEnvelope 2 x 9) (exFresh 2 x 9)).1

/-! ## message counts

`TooManySameTypeMessagesPerRound` is an IGNORE-class tag (`Tag.reject = false`), so the per-round limits are not part of
`HonestConsensus` and play no role in "never rejected"; they matter for acceptance by a peer that has already seen
messages of the operator. PROVED over the whole log of `SystemB`, all schedules and Byzantine behaviours: a correct
operator broadcasts at most one prepare and at most one commit per round, and at most one round-change per round as long
as `UponDecided` never moved its round (no ghost event `G`; after a decided message of a LOWER round has been adopted the
instance keeps running from that round and may repeat a round-change — the peer then answers with the ignore-class tag).
NOT proved: one proposal per round (true under the timing hypothesis on every step; without it see the finding above), and
the decided count (each `broadcastDecided` consumes a new single-signer commit of the round, so at most N ≤ N·(f+1) =
`maxDecidedCount` per operator and round; not mechanised). -/

/-- CLAUSE message counts (prepare, commit, round change): the rounds of the logged broadcasts of a correct operator, per
    type, are pairwise distinct -/
theorem C10_message_counts {P : Params} (hP : P.Valid) {σ : Sys P} (hr : Reachable σ) (i : Op P) (hi : P.honest i = true) :
    (sentRounds i tPrepare σ.log).Nodup ∧ (sentRounds i tCommit σ.log).Nodup ∧
    ((∀ rc, Ev.G i rc ∉ σ.trace) → (sentRounds i tRoundChange σ.log).Nodup) :=
  let h := countInv_of_reachable hP hr i hi
  ⟨h.prepares, h.commits, h.rcs⟩

/-- the same as the validator counts: at most 1 (= `maxMessageCounts`) prepare / commit of the operator per round -/
theorem C10_message_counts_le_one {P : Params} (hP : P.Valid) {σ : Sys P} (hr : Reachable σ) (i : Op P)
    (hi : P.honest i = true) (r : Nat) :
    (sentRounds i tPrepare σ.log).count r ≤ 1 ∧ (sentRounds i tCommit σ.log).count r ≤ 1 ∧
    ((∀ rc, Ev.G i rc ∉ σ.trace) → (sentRounds i tRoundChange σ.log).count r ≤ 1) := by
  obtain ⟨h1, h2, h3⟩ := C10_message_counts hP hr i hi
  exact ⟨List.nodup_iff_count.1 h1 r, List.nodup_iff_count.1 h2 r, fun hg => List.nodup_iff_count.1 (h3 hg) r⟩

/-- non-vacuity: in `exSys` operator 1 has sent a round-change for round 2, then a prepare and a commit for round 2 -/
example : sentRounds (P := exP) 0 tRoundChange exSys.log = [2] ∧ sentRounds (P := exP) 0 tPrepare exSys.log = [2] ∧
    sentRounds (P := exP) 0 tCommit exSys.log = [2] := by
  rw [ex_eq]
  exact exB_step.sent

end Ssv.Emission
