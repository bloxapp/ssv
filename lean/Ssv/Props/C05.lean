/-
C05 — Only validly threshold-signed duty objects reach the beacon node, once.
Property theorems only (helpers: Ssv/Proofs/PartialSig.lean; model: Ssv/Model/PartialSig.lean).

Scope.  `run st ms` is a duty runner in its partial-signature collection phase receiving the message sequence `ms`
(any signers, any roots, any slot flag, any share qualities — no bound on length); its second component is the
list of `BeaconNode.Submit*` calls.  Styles: `loop` = attester, proposer, aggregator, sync-committee message;
`first` = voluntary exit, validator registration; `loopMatch` = sync-committee contribution (several roots).
The SAFETY theorems hold for every style and any number of expected roots.  The LIVENESS theorem
`C05_submit_once_quorum_good` covers the single-root runners (the ones C05 anchors: attester, proposer, voluntary exit,
validator registration, and also aggregator and sync-committee message).  For the multi-root runner the same statement
is FALSE of the code (`C05_multiroot_liveness_full_refuted`, reproduced on the real runner by the harness).
Assumption (threshold BLS): reconstruction over the stored shares of a root succeeds iff all of them are correct and
there are at least `Share.Quorum` of them.
-/
import Ssv.Proofs.PartialSig
import Ssv.Proofs.Kernels

namespace Ssv.PartialSig

/-! ## ties to the regenerated facts -/

/-- verify-before-use: `ReconstructSignature` verifies the recovered signature against the validator key before returning
    it, `ReconstructBeaconSig` is that function, and in every runner the `Submit*` call comes after it -/
theorem C05_tie_verify_before_use :
    Gen.calls_ReconstructSignature = ["ReconstructSignatures", "VerifyReconstructedSignature", "Serialize"] ∧
    Gen.calls_VerifyReconstructedSignature = ["DeserializeBLSPublicKey", "VerifyByte"] ∧
    Gen.calls_ReconstructBeaconSig = ["ReconstructSignature"] ∧
    Gen.calls_post_attester = ["basePostConsensusMsgProcessing", "ReconstructBeaconSig", "FallBackAndVerifyEachSignature", "SubmitAttestation"] ∧
    Gen.calls_post_proposer = ["basePostConsensusMsgProcessing", "ReconstructBeaconSig", "FallBackAndVerifyEachSignature", "SubmitBlindedBeaconBlock", "SubmitBeaconBlock"] ∧
    Gen.calls_post_aggregator = ["basePostConsensusMsgProcessing", "ReconstructBeaconSig", "FallBackAndVerifyEachSignature", "SubmitSignedAggregateSelectionProof"] ∧
    Gen.calls_post_synccommittee = ["basePostConsensusMsgProcessing", "ReconstructBeaconSig", "FallBackAndVerifyEachSignature", "SubmitSyncMessage"] ∧
    Gen.calls_post_contribution = ["basePostConsensusMsgProcessing", "ReconstructBeaconSig", "FallBackAndVerifyEachSignature", "ReconstructBeaconSig", "SubmitSignedContributionAndProof"] ∧
    Gen.calls_pre_exit = ["basePreConsensusMsgProcessing", "ReconstructBeaconSig", "FallBackAndVerifyEachSignature", "SubmitVoluntaryExit"] ∧
    Gen.calls_pre_registration = ["basePreConsensusMsgProcessing", "ReconstructBeaconSig", "FallBackAndVerifyEachSignature", "SubmitValidatorRegistration"] :=
  ⟨rfl, rfl, rfl, rfl, rfl, rfl, rfl, rfl, rfl, rfl⟩

/-- the collection path: validation precedes storing; edge detection brackets the add/replace with two `HasQuorum` reads;
    duplicates go through `resolveDuplicateSignature` (verify old, remove, verify new, add); the fallback verifies each share
    and removes the wrong ones -/
theorem C05_tie_collection_path :
    Gen.calls_basePostConsensusMsgProcessing = ["ValidatePostConsensusMsg", "basePartialSigMsgProcessing"] ∧
    Gen.calls_basePreConsensusMsgProcessing = ["ValidatePreConsensusMsg", "basePartialSigMsgProcessing"] ∧
    Gen.calls_basePartialSigMsgProcessing = ["HasQuorum", "HasSigner", "resolveDuplicateSignature", "AddSignature", "HasQuorum"] ∧
    Gen.calls_resolveDuplicateSignature = ["GetSignature", "verifyBeaconPartialSignature", "Remove", "verifyBeaconPartialSignature", "AddSignature"] ∧
    Gen.calls_FallBack = ["GetSignatures", "verifyBeaconPartialSignature", "Remove"] ∧
    Gen.calls_ValidatePostConsensusMsg = ["hasRunningDuty", "IsDecided", "validatePartialSigMsgForSlot", "expectedPostConsensusRootsAndDomain", "verifyExpectedRoot"] ∧
    Gen.calls_ValidatePreConsensusMsg = ["hasRunningDuty", "validatePartialSigMsgForSlot", "expectedPreConsensusRootsAndDomain", "verifyExpectedRoot"] ∧
    Gen.calls_baseSetupForNewDuty = ["NewRunnerState"] :=
  ⟨rfl, rfl, rfl, rfl, rfl, rfl, rfl, rfl⟩

/-- source fingerprints of the container functions the model transcribes (ssv-spec v0.3.7) -/
theorem C05_tie_container_source :
    Gen.src_spec_AddSignature = "5d263c60abe32cc6" ∧ Gen.src_spec_HasQuorum = "76933fb6bdf7c9a5" ∧
    Gen.src_spec_Remove = "a9343785b2baf40c" := ⟨rfl, rfl, rfl⟩

/-- quorum arithmetic, through the kernel TRANSLATED from `ComputeQuorumAndPartialQuorum`: for the four valid committee
    sizes the collection threshold is 2f+1 with f = (n-1)/3 -/
theorem C05_tie_quorum_kernel :
    (quorumOf 4, faultyOf 4) = (3, 1) ∧ (quorumOf 7, faultyOf 7) = (5, 2) ∧
    (quorumOf 10, faultyOf 10) = (7, 3) ∧ (quorumOf 13, faultyOf 13) = (9, 4) ∧
    ∀ n : Nat, (n = 4 ∨ n = 7 ∨ n = 10 ∨ n = 13) → quorumOf n = 2 * faultyOf n + 1 ∧ quorumOf n ≤ n :=
  ⟨by decide, by decide, by decide, by decide, fun n hn => ⟨quorumOf_eq n hn, quorumOf_le n hn⟩⟩

/-! ## safety (every runner style, any number of roots, every message sequence) -/

/-- verify-before-use: every `Submit*` call carries a signature reconstructed from correct shares only, at least
    `Share.Quorum` of them (= `reconstructOK`), over one of the expected roots of the decided value -/
theorem C05_submit_only_valid (st : St) (ms : List Msg) :
    ∀ sub ∈ (run st ms).2,
      (sub.shares.all fun p => p.2 == some true) = true ∧ st.q ≤ sub.shares.length ∧ sub.root ∈ st.expected :=
  run_safety st ms

example : ∃ sub, sub ∈ (run (init 4 1 .loop true)
    [⟨1, true, [(1, 0, true)]⟩, ⟨2, true, [(2, 0, false)]⟩, ⟨3, true, [(3, 0, true)]⟩, ⟨4, true, [(4, 0, true)]⟩,
     ⟨2, true, [(2, 0, true)]⟩]).2 := ⟨⟨0, [(1, some true), (3, some true), (4, some true)]⟩, by decide +kernel⟩

/-- each decided object (distinct objects have distinct roots) is submitted at most once, over the whole life of the duty -/
theorem C05_submit_at_most_once (st : St) (ms : List Msg) (hexp : st.expected.Nodup) :
    ((run st ms).2.map (·.root)).Nodup := run_roots_nodup st ms hexp

example : (init 4 3 .loopMatch true).expected.Nodup := List.nodup_range

/-- `roots[0]` in the exit / registration runners is never evaluated on an empty slice -/
theorem C05_no_panic (st : St) (m : Msg) : ∀ st', step st m ≠ (st', .panicked) := step_no_panic st m

/-- later duties on the same runner object: whatever the previous duty received, the collection state of the next duty is
    exactly the initial one (`baseSetupForNewDuty` keeps nothing), so every theorem stated for `init` holds for every
    duty the runner ever executes -/
theorem C05_next_duty_is_fresh (n k : Nat) (style : Style) (d0 d : Bool) (ms : List Msg) :
    let st := nextDuty (run (init n k style d0) ms).1 d
    st.q = (init n k style d).q ∧ st.cm = (init n k style d).cm ∧ st.expected = (init n k style d).expected ∧
    st.style = (init n k style d).style ∧ st.decided = d ∧ st.finished = false ∧ ∀ r s, st.c.get r s = none := by
  have sd := run_sameDuty (init n k style d0) ms
  exact ⟨sd.q, sd.cm, sd.expected, sd.style, rfl, rfl, fun _ _ => rfl⟩

/-! ## liveness, single-root runners -/

/-- STRONG form (no bound on the number of faulty senders is needed): for EVERY message sequence, if `Share.Quorum`
    distinct committee members have each delivered a correct share in a well-formed message, the object has been
    submitted exactly once by the end of the sequence.
    (Measure: an unfinished single-root duty holds fewer than `q` shares; a failed reconstruction evicts at least one
    wrong share and keeps every correct one; so a later correct share re-creates the quorum edge.) -/
theorem C05_submit_once_quorum_good_strong (n : Nat) (hq : 0 < quorumOf n) (style : Style) (ms : List Msg)
    (G : List Nat) (hG : G.Nodup) (hGq : quorumOf n ≤ G.length)
    (hGood : ∀ s ∈ G, SentGood (init n 1 style true).cm [0] 0 ms s) :
    (run (init n 1 style true) ms).2.map (·.root) = [0] :=
  run_single_submits_once 0 ms (init n 1 style true) rfl (init_cm_nodup n 1 style true) rfl rfl
    (by show count _ Container.empty 0 < quorumOf n; rw [count_empty]; exact hq) G hG hGq hGood

/-- the property as stated: committee sizes 4, 7, 10, 13; at most `f` distinct members ever send a malformed message or
    a wrong share; `2f+1` distinct members have delivered a correct share — in whatever order everything arrives,
    `Submit root` has happened (exactly once) after the whole sequence.  Runner styles `loop` (attester, proposer,
    aggregator, sync-committee message) and `first` (voluntary exit, validator registration) — and the contribution
    runner when the decided value holds a single contribution.  The two hypotheses on `B` are not used: see the strong
    form. -/
theorem C05_submit_once_quorum_good (n : Nat) (hn : n = 4 ∨ n = 7 ∨ n = 10 ∨ n = 13) (style : Style)
    (ms : List Msg) (G B : List Nat)
    (_hB : B.length ≤ faultyOf n) (_hBad : ∀ s, SentBad (init n 1 style true).cm [0] ms s → s ∈ B)
    (hG : G.Nodup) (hGq : 2 * faultyOf n + 1 ≤ G.length)
    (hGood : ∀ s ∈ G, SentGood (init n 1 style true).cm [0] 0 ms s) :
    (run (init n 1 style true) ms).2.map (·.root) = [0] := by
  have hk := quorumOf_eq n hn
  apply C05_submit_once_quorum_good_strong n (by omega) style ms G hG _ hGood
  rw [hk]; exact hGq

/-- the hypotheses are satisfiable with a faulty sender whose wrong share makes the first reconstruction fail -/
example :
    let ms : List Msg := [⟨1, true, [(1, 0, true)]⟩, ⟨4, true, [(4, 0, false)]⟩, ⟨2, true, [(2, 0, true)]⟩,
                          ⟨9, true, [(9, 0, true)]⟩, ⟨4, false, [(4, 0, true)]⟩, ⟨3, true, [(3, 0, true)]⟩]
    (∀ s ∈ [1, 2, 3], SentGood (init 4 1 .loop true).cm [0] 0 ms s) ∧
    (∀ s, SentBad (init 4 1 .loop true).cm [0] ms s → s ∈ [4, 9]) ∧
    (run (init 4 1 .loop true) ms).2.map (·.root) = [0] := by
  intro ms
  -- every message is well-formed and all-correct, or comes from member 4 or 9
  have wf : ∀ m ∈ ms, (validateForm (init 4 1 .loop true).cm [0] m = none ∧ hasBadShare m = false) ∨
      m.signer = 4 ∨ m.signer = 9 := by decide +kernel
  have good : ∀ s ∈ [1, 2, 3], ∃ m ∈ ms, m.signer = s ∧ validateForm (init 4 1 .loop true).cm [0] m = none ∧
      goodFor 0 m = true := by decide +kernel
  refine ⟨good, ?_, by decide +kernel⟩
  rintro s ⟨m, hm, hs, hb⟩
  rcases wf m hm with ⟨h1, h2⟩ | h | h
  · rcases hb with hb | hb
    · exact absurd h1 hb
    · rw [h2] at hb; cases hb
  · simp [← hs, h]
  · simp [← hs, h]

/-! ## liveness, multi-root runner (sync-committee contribution) -/

/-- the same liveness statement for a runner whose decided value has `k` objects: every one of them is submitted once
    each has received `2f+1` correct shares from distinct members while at most `f` members misbehave -/
def C05_multiroot_liveness_full : Prop :=
  ∀ (n : Nat), (n = 4 ∨ n = 7 ∨ n = 10 ∨ n = 13) → ∀ (k : Nat) (ms : List Msg) (B : List Nat),
    B.length ≤ faultyOf n → (∀ s, SentBad (init n k .loopMatch true).cm (List.range k) ms s → s ∈ B) →
    (∀ r < k, ∃ G : List Nat, G.Nodup ∧ 2 * faultyOf n + 1 ≤ G.length ∧
        ∀ s ∈ G, SentGood (init n k .loopMatch true).cm (List.range k) r ms s) →
    ∀ r < k, r ∈ (run (init n k .loopMatch true) ms).2.map (·.root)

/-- witness (n = 4, two objects): member 2 sends a wrong share for object 0 only.  The third message makes both roots
    cross the quorum edge; reconstruction of root 0 fails, the loop returns early; root 1 keeps its three correct shares
    and therefore never produces another edge.  Member 4's message then completes root 0 only, `Finished` is set and
    object 1 — which has four correct shares — is never submitted. -/
def C05_multiroot_witness : List Msg :=
  [⟨1, true, [(1, 0, true), (1, 1, true)]⟩, ⟨2, true, [(2, 0, false), (2, 1, true)]⟩,
   ⟨3, true, [(3, 0, true), (3, 1, true)]⟩, ⟨4, true, [(4, 0, true), (4, 1, true)]⟩]

/-- what the witness run does on the model: only object 0 reaches the beacon node and the duty is finished -/
theorem C05_multiroot_witness_run :
    (run (init 4 2 .loopMatch true) C05_multiroot_witness).2.map (·.root) = [0] ∧
    (run (init 4 2 .loopMatch true) C05_multiroot_witness).1.finished = true := by decide +kernel

theorem C05_multiroot_liveness_full_refuted : ¬ C05_multiroot_liveness_full := by
  intro h
  -- every message of the witness is well-formed, and only member 2 sends a wrong share
  have wf : ∀ m ∈ C05_multiroot_witness, validateForm (init 4 2 .loopMatch true).cm (List.range 2) m = none ∧
      (hasBadShare m = true → m.signer = 2) := by decide +kernel
  have good : ∀ r < 2, ∀ s ∈ (if r = 0 then [1, 3, 4] else [1, 2, 3]),
      ∃ m ∈ C05_multiroot_witness, m.signer = s ∧ goodFor r m = true := by decide +kernel
  have := h 4 (Or.inl rfl) 2 C05_multiroot_witness [2] (by decide) ?_ ?_ 1 (by decide)
  · rw [C05_multiroot_witness_run.1] at this
    simp at this
  · rintro s ⟨m, hm, hs, hbad | hbad⟩
    · exact absurd (wf m hm).1 hbad
    · simp [← hs, (wf m hm).2 hbad]
  · intro r hr
    refine ⟨if r = 0 then [1, 3, 4] else [1, 2, 3], ?_, ?_, fun s hs => ?_⟩
    · split <;> decide
    · split <;> decide
    · obtain ⟨m, hm, hs, hg⟩ := good r hr s hs
      exact ⟨m, hm, hs, (wf m hm).1, hg⟩

/-- PARTIAL, first part (what is true of the multi-root runner): both safety theorems above hold for it unchanged (any
    `k`), and the liveness statement holds when the decided value holds one object (see also the fault-free theorem
    below).  Missing for `k > 1`: after a failed reconstruction of one root the loop returns, roots that already crossed
    the quorum edge are neither retried nor re-armed, and `Finished` is set by the next successful single-root pass.
    (The two hypotheses on `B` are idle here as well: see `C05_submit_once_quorum_good_strong`.) -/
theorem C05_multiroot_liveness_partial (n : Nat) (hn : n = 4 ∨ n = 7 ∨ n = 10 ∨ n = 13) (k : Nat) (ms : List Msg)
    (G B : List Nat) :
    (∀ sub ∈ (run (init n k .loopMatch true) ms).2,
        (sub.shares.all fun p => p.2 == some true) = true ∧ quorumOf n ≤ sub.shares.length ∧ sub.root < k) ∧
    ((run (init n k .loopMatch true) ms).2.map (·.root)).Nodup ∧
    (k = 1 → B.length ≤ faultyOf n → (∀ s, SentBad (init n 1 .loopMatch true).cm [0] ms s → s ∈ B) →
      G.Nodup → 2 * faultyOf n + 1 ≤ G.length → (∀ s ∈ G, SentGood (init n 1 .loopMatch true).cm [0] 0 ms s) →
      (run (init n k .loopMatch true) ms).2.map (·.root) = [0]) := by
  refine ⟨?_, ?_, ?_⟩
  · intro sub hsub
    obtain ⟨a, b, c⟩ := C05_submit_only_valid (init n k .loopMatch true) ms sub hsub
    exact ⟨a, b, by simpa [init] using c⟩
  · exact C05_submit_at_most_once _ ms (by simpa [init] using List.nodup_range)
  · intro hk hB hBad hG hGq hGood
    subst hk
    exact C05_submit_once_quorum_good n hn .loopMatch ms G B hB hBad hG hGq hGood

/-- PARTIAL, second part: the multi-root runner IS live when nobody misbehaves — for every arrival order of well-formed
    messages that carry correct shares only (plus arbitrary malformed traffic, which is refused), once `2f+1` distinct
    members have delivered their message every decided object has been submitted exactly once (any number `k` of objects).
    So the defect needs a wrong share on one root while another root of the same message completes its quorum. -/
theorem C05_multiroot_liveness_partial_faultfree (n : Nat) (hn : n = 4 ∨ n = 7 ∨ n = 10 ∨ n = 13) (k : Nat)
    (ms : List Msg) (G : List Nat)
    (hclean : ∀ m ∈ ms, validateForm (init n k .loopMatch true).cm (List.range k) m = none → hasBadShare m = false)
    (hG : G.Nodup) (hGq : 2 * faultyOf n + 1 ≤ G.length)
    (hsent : ∀ s ∈ G, ∃ m ∈ ms, m.signer = s ∧ validateForm (init n k .loopMatch true).cm (List.range k) m = none) :
    ((run (init n k .loopMatch true) ms).2.map (·.root)).Perm (List.range k) := by
  have hq := quorumOf_eq n hn
  have hff0 : FF (init n k .loopMatch true) :=
    ⟨fun r s h => (nomatch h), fun _ _ _ _ _ => rfl, fun r _ => by
      show decide (quorumOf n ≤ count _ Container.empty r) = false
      rw [count_empty, hq]; rfl⟩
  exact run_ff_submits_all ms (init n k .loopMatch true) List.nodup_range nofun rfl hclean rfl hff0 G hG
    (Nat.le_trans (Nat.le_of_eq hq) hGq) hsent

/-- fault-free instance: three members, two objects, both submitted by the third message -/
example :
    (run (init 4 2 .loopMatch true)
      [⟨1, true, [(1, 0, true), (1, 1, true)]⟩, ⟨3, true, [(3, 1, true), (3, 0, true)]⟩,
       ⟨5, true, [(5, 0, true), (5, 1, true)]⟩, ⟨2, true, [(2, 0, true), (2, 1, true)]⟩]).2.map (·.root) = [0, 1] := by
  decide +kernel

end Ssv.PartialSig
