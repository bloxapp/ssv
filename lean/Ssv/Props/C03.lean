/-
C03 — Duty signatures are released only over the decided, validated duty data.
Property theorems only (helpers: Ssv/Proofs/Runner.lean; model: Ssv/Model/Runner.lean).

`step st i` is one call into a duty runner: `start` (Validator.StartDuty → StartNewDuty), `pre` / `post`
(partial-signature messages), `cons` (consensus message; the QBFT instance's internal protocol is an oracle input, the
controller's decided path and instance container are modelled), `foreign` (message for another validator or role — the
routing front). Every `KeyManager.SignBeaconObject` call is an output event `sign tag root epoch domain`.
The window theorems hold for EVERY state and input, hence for every input sequence from any state.
The "at most once per decided object" clause is proved in FULL (`C03_at_most_once`) for the code since fix c50569811
(`prevDecided` also holds when the duty already took a decided value). The behaviour before the fix is kept as
`processConsOld` / `stepOld` / `runOld`; its refutation `C03_at_most_once_old_refuted` is a regression lemma (the
witness is replayed on the real runner as corpus/C03/runner_resign_after_eviction.ops).
-/
import Ssv.Proofs.Runner

namespace Ssv.Runner

/-! ## ties to the regenerated facts -/

/-- `SignBeaconObject` is reached only through `signBeaconObject`, which is called only inside `executeDuty` (proposer,
    aggregator, contribution, registration, exit: the slot-bound pre-consensus objects) and inside `ProcessConsensus`
    after `baseConsensusMsgProcessing` (attester, proposer, aggregator, sync committee, contribution); never inside
    `ProcessPreConsensus`, `ProcessPostConsensus` or any `BaseRunner` helper -/
theorem C03_tie_sign_sites :
    Gen.calls_signBeaconObject = ["EstimatedEpochAtSlot", "DomainData", "SignBeaconObject"] ∧
    Gen.calls_att_executeDuty = ["decide"] ∧ Gen.calls_sc_executeDuty = ["decide"] ∧
    Gen.calls_prop_executeDuty = ["signBeaconObject"] ∧ Gen.calls_agg_executeDuty = ["signBeaconObject"] ∧
    Gen.calls_contrib_executeDuty = ["signBeaconObject"] ∧ Gen.calls_reg_executeDuty = ["signBeaconObject"] ∧
    Gen.calls_exit_executeDuty = ["signBeaconObject"] ∧
    Gen.calls_att_ProcessConsensus = ["baseConsensusMsgProcessing", "signBeaconObject"] ∧
    Gen.calls_prop_ProcessConsensus = ["baseConsensusMsgProcessing", "signBeaconObject"] ∧
    Gen.calls_agg_ProcessConsensus = ["baseConsensusMsgProcessing", "signBeaconObject"] ∧
    Gen.calls_sc_ProcessConsensus = ["baseConsensusMsgProcessing", "signBeaconObject"] ∧
    Gen.calls_contrib_ProcessConsensus = ["baseConsensusMsgProcessing", "signBeaconObject"] ∧
    Gen.calls_reg_ProcessConsensus = [] ∧ Gen.calls_exit_ProcessConsensus = [] ∧
    Gen.calls_att_ProcessPreConsensus = [] ∧ Gen.calls_sc_ProcessPreConsensus = [] ∧
    Gen.calls_prop_ProcessPreConsensus = ["basePreConsensusMsgProcessing", "decide"] ∧
    Gen.calls_agg_ProcessPreConsensus = ["basePreConsensusMsgProcessing", "decide"] ∧
    Gen.calls_contrib_ProcessPreConsensus = ["basePreConsensusMsgProcessing", "decide"] ∧
    Gen.calls_reg_ProcessPreConsensus = ["basePreConsensusMsgProcessing"] ∧
    Gen.calls_exit_ProcessPreConsensus = ["basePreConsensusMsgProcessing"] ∧
    Gen.calls_att_ProcessPostConsensus = [] ∧ Gen.calls_prop_ProcessPostConsensus = [] ∧
    Gen.calls_agg_ProcessPostConsensus = [] ∧ Gen.calls_sc_ProcessPostConsensus = [] ∧
    Gen.calls_contrib_ProcessPostConsensus = [] ∧ Gen.calls_reg_ProcessPostConsensus = [] ∧
    Gen.calls_exit_ProcessPostConsensus = [] := by and_intros <;> rfl

/-- no `BaseRunner` helper signs a beacon object -/
theorem C03_tie_base_helpers_do_not_sign :
    Gen.calls_base_baseStartNewDuty_signs = [] ∧ Gen.calls_base_baseStartNewNonBeaconDuty_signs = [] ∧
    Gen.calls_base_baseSetupForNewDuty_signs = [] ∧ Gen.calls_base_basePreConsensusMsgProcessing_signs = [] ∧
    Gen.calls_base_baseConsensusMsgProcessing_signs = [] ∧ Gen.calls_base_basePostConsensusMsgProcessing_signs = [] ∧
    Gen.calls_base_basePartialSigMsgProcessing_signs = [] ∧ Gen.calls_base_didDecideCorrectly_signs = [] ∧
    Gen.calls_base_decide_signs = [] ∧ Gen.calls_base_hasRunningDuty_signs = [] ∧
    Gen.calls_base_ShouldProcessDuty_signs = [] ∧ Gen.calls_base_ShouldProcessNonBeaconDuty_signs = [] ∧
    Gen.calls_base_ValidatePreConsensusMsg_signs = [] ∧ Gen.calls_base_ValidatePostConsensusMsg_signs = [] ∧
    Gen.calls_base_validateDecidedConsensusData_signs = [] ∧ Gen.calls_base_verifyExpectedRoot_signs = [] ∧
    Gen.calls_base_validatePartialSigMsgForSlot_signs = [] ∧ Gen.calls_base_resolveDuplicateSignature_signs = [] ∧
    Gen.calls_base_FallBackAndVerifyEachSignature_signs = [] ∧ Gen.calls_base_verifyBeaconPartialSignature_signs = [] ∧
    Gen.calls_base_signPostConsensusMsg_signs = [] ∧ Gen.calls_base_compactInstanceIfNeeded_signs = [] ∧
    Gen.calls_base_registerTimeoutHandler_signs = [] := by and_intros <;> rfl

/-- guard order: duty admission before state reset before execution; in `baseConsensusMsgProcessing` the controller runs
    first (after `prevDecided` was read from the instance object and — second `hasRunningDuty` — from the duty's decided
    value, fix c50569811; the `Decode`/`hasRunningDuty` pair before `ProcessMsg` is the flattened body of the unlisted helper
    `processPreConsensusJustification`), then the running-duty check, `didDecideCorrectly`, decoding, and the value check — all before
    `ProcessConsensus` signs; partial-signature validation order; routing by validator key and role -/
theorem C03_tie_guard_order :
    Gen.calls_baseStartNewDuty = ["ShouldProcessDuty", "baseSetupForNewDuty", "executeDuty"] ∧
    Gen.calls_baseStartNewNonBeaconDuty = ["ShouldProcessNonBeaconDuty", "baseSetupForNewDuty", "executeDuty"] ∧
    Gen.calls_baseConsensusMsgProcessing = ["hasRunningDuty", "IsDecided", "hasRunningDuty", "Decode", "hasRunningDuty",
      "ProcessMsg", "compactInstanceIfNeeded", "hasRunningDuty", "didDecideCorrectly", "Decode", "validateDecidedConsensusData"] ∧
    Gen.calls_validateDecidedConsensusData = ["Encode", "GetValCheckF"] ∧
    Gen.calls_decide = ["Encode", "GetValCheckF", "StartNewInstance", "InstanceForHeight", "registerTimeoutHandler"] ∧
    Gen.calls_ValidatePostConsensusMsg_full = ["hasRunningDuty", "IsDecided", "Decode", "validatePartialSigMsgForSlot",
      "expectedPostConsensusRootsAndDomain", "verifyExpectedRoot"] ∧
    Gen.calls_ValidatePreConsensusMsg_full = ["hasRunningDuty", "validatePartialSigMsgForSlot",
      "expectedPreConsensusRootsAndDomain", "verifyExpectedRoot"] ∧
    Gen.calls_Validator_ProcessMessage = ["DutyRunnerForMsgID", "validateMessage", "ProcessConsensus", "ProcessPostConsensus",
      "ProcessPreConsensus", "handleEventMessage"] ∧
    Gen.calls_validateMessage = ["MessageIDBelongs", "GetData"] ∧
    Gen.src_didDecideCorrectly = "2bd33bfde6b1f642" ∧ Gen.src_ShouldProcessDuty = "954f6efdc45a96a8" ∧
    Gen.src_ShouldProcessNonBeaconDuty = "a8a4c0971702d998" := by and_intros <;> rfl

/-- the controller's paths the model follows, and its instance container: capacity 2, `addNewInstance` as modelled
    (the first `addNewInstance` in `UponDecided` re-inserts an instance reloaded from storage: full nodes only, the model
    is the non-full node where `InstanceForHeight` = `FindInstance`) -/
theorem C03_tie_controller :
    Gen.calls_Controller_ProcessMsg = ["BaseMsgValidation", "IsDecidedMsg", "UponDecided", "isFutureMessage", "UponExistingInstanceMsg"] ∧
    Gen.calls_Controller_UponDecided = ["ValidateDecided", "InstanceForHeight", "addNewInstance", "NewInstance", "addNewInstance", "IsDecided"] ∧
    Gen.calls_Controller_StartNewInstance = ["GetValueCheckF", "FindInstance", "addAndStoreNewInstance", "Start", "forceStopAllInstanceExceptCurrent"] ∧
    Gen.ctrl_InstanceContainerDefaultCapacity = 2 ∧ Gen.src_addNewInstance = "2988559c7741703e" := by and_intros <;> rfl

/-! ## the signing window (every state, every input) -/

/-- Every validator-key signature is either
    (a) a pre-consensus object of the duty being started — emitted inside an ACCEPTED `StartDuty(slot)`, over one of that
        duty's slot-bound pre-consensus roots, with the epoch of that slot and the role's pre-consensus domain; or
    (b) an object contained in the value `v` that the controller reports decided for this very consensus message — a
        message carrying the controller's identifier, `v` backed by a valid quorum certificate (`ValidateDecided`) or by
        the instance's own decision — while a duty is running (not finished), the reported height is the height of the
        duty's running instance, that instance object was not decided before and the duty holds no decided value yet, `v` decodes and PASSES the duty's value
        check; signed with the epoch of `v`'s duty slot and the role's post-consensus domain. -/
theorem C03_sign_window (st : RSt) (i : In) (e : Ev) (he : e ∈ (step st i).2.2) (hs : e.isSign = true) :
    (∃ slot preObjs iok, i = .start slot preObjs iok ∧ (step st i).2.1 = true ∧ st.role.signsAtStart = true ∧
        ∃ o ∈ preObjs, e = .sign (.atStart slot) o (epochOf slot) st.role.preDomain)
    ∨
    (∃ c h v d rid, i = .cons c ∧ (ctlProcess st c).2 = .decidedMsg h v ∧
        c.idOk = true ∧ h = c.height ∧ v = c.value ∧
        ((c.isDecided = true ∧ c.valid = true) ∨ (c.isDecided = false ∧ c.instDecides = true ∧ c.instErr = false)) ∧
        st.duty = some d ∧ d.finished = false ∧ d.running = some rid ∧ heightOf (ctlProcess st c).1 rid = h ∧
        prevDecided st = false ∧ st.role.hasConsensus = true ∧
        v.decodeOk = true ∧ v.vcOk = true ∧
        ∃ o ∈ v.objs, e = .sign (.decided h) o (epochOf v.slot) st.role.postDomain) := by
  cases i with
  | start slot pre iok =>
    rcases startDuty_cases st slot pre iok with hq | ⟨ha, _, hr⟩
    · exact absurd hs (by rw [hq.no_sign e he]; nofun)
    · rw [step, hr] at he ⊢
      exact .inl ⟨slot, pre, iok, rfl, rfl, ha, mem_signAll_bcast he hs⟩
  | pre m slot iok => exact absurd hs (by rw [(processPre_quiet st m slot iok).no_sign e he]; nofun)
  | post m slot => exact absurd hs (by rw [(processPost_quiet st m slot).no_sign e he]; nofun)
  | «foreign» => cases he
  | cons c =>
    rcases processConsG_cases (prevDecided st) st c with hq |
      ⟨h, v, d, rid, hres, hcons, hctl, hd, hfin, hr, hh, hprev, hdec, hvc⟩
    · exact absurd hs (by rw [hq.no_sign e he]; nofun)
    · rw [step, processCons, hres] at he
      have hb := (ctlProcess_spec st c).backed h v hctl
      exact .inr ⟨c, h, v, d, rid, rfl, hctl, hb.idOk, hb.height, hb.value, hb.cert, hd, hfin, hr, hh, hprev, hcons, hdec,
        hvc, mem_signAll_bcast he hs⟩

/-- the window over whole traces: for ALL input sequences from ANY state, every signature in the trace satisfies the
    window rule relative to the state in which its input arrived -/
theorem C03_sign_window_trace (st : RSt) (ins : List In) :
    ∀ p ∈ run st ins, ∀ e ∈ p.2, e.isSign = true →
      (∃ slot preObjs iok o, p.1 = .start slot preObjs iok ∧ o ∈ preObjs ∧ e = .sign (.atStart slot) o (epochOf slot) st.role.preDomain)
      ∨ (∃ c o, p.1 = .cons c ∧ c.idOk = true ∧ c.value.decodeOk = true ∧ c.value.vcOk = true ∧
          ((c.isDecided = true ∧ c.valid = true) ∨ (c.isDecided = false ∧ c.instDecides = true)) ∧
          o ∈ c.value.objs ∧ e = .sign (.decided c.height) o (epochOf c.value.slot) st.role.postDomain) := by
  induction ins generalizing st with
  | nil => exact fun _ h => nomatch h
  | cons i t ih =>
    intro p hp e he hs
    rcases List.mem_cons.1 hp with rfl | hp
    · rcases C03_sign_window st i e he hs with ⟨slot, pre, iok, rfl, _, _, o, ho, rfl⟩ |
        ⟨c, h, v, d, rid, rfl, _, s1, s2, s3, s4, _, _, _, _, _, _, hdec, hvc, o, ho, rfl⟩
      · exact .inl ⟨slot, pre, iok, o, rfl, ho, rfl⟩
      · subst s2 s3
        exact .inr ⟨c, o, rfl, s1, hdec, hvc, s4.imp id fun ⟨a, b, _⟩ => ⟨a, b⟩, ho, rfl⟩
    · rw [← step_role st i]
      exact ih _ p hp e he hs

example : ∃ e ∈ (step (init .proposer 4) (.start 64 [9] true)).2.2, e.isSign = true :=
  ⟨.sign (.atStart 64) 9 2 .randao, by decide, rfl⟩

/-- partial-signature messages (pre- and post-consensus) and messages for another validator key or role never cause a
    validator-key signature -/
theorem C03_no_sign_from_partial_sig_or_foreign (st : RSt) (i : In)
    (hi : (∃ m slot iok, i = .pre m slot iok) ∨ (∃ m slot, i = .post m slot) ∨ i = .foreign) :
    ∀ e ∈ (step st i).2.2, e.isSign = false := by
  rcases hi with ⟨m, slot, iok, rfl⟩ | ⟨m, slot, rfl⟩ | rfl
  · exact (processPre_quiet st m slot iok).no_sign
  · exact (processPost_quiet st m slot).no_sign
  · exact fun _ h => nomatch h

/-- consensus messages for another height than the running instance's, after the duty finished, before any duty started,
    with a foreign identifier, not carrying a valid first decision, or when the duty already took a decided value never cause a signature -/
theorem C03_no_sign_outside_running_height (st : RSt) (c : ConsIn)
    (h : st.duty = none ∨ (∃ d, st.duty = some d ∧ d.finished = true) ∨ (∃ d, st.duty = some d ∧ d.running = none) ∨
         (∃ d rid, st.duty = some d ∧ d.running = some rid ∧ heightOf (ctlProcess st c).1 rid ≠ c.height) ∨
         c.idOk = false ∨ (c.isDecided = true ∧ c.valid = false) ∨ (c.isDecided = false ∧ c.instDecides = false) ∨
         prevDecided st = true) :
    ∀ e ∈ (step st (.cons c)).2.2, e.isSign = false := by
  intro e he
  rcases processConsG_cases (prevDecided st) st c with hq |
    ⟨hh, v, d, rid, _, _, hctl, hd, hfin, hr, hht, hprev⟩
  · exact hq.no_sign e he
  · exfalso
    have hb := (ctlProcess_spec st c).backed hh v hctl
    rcases h with h | ⟨d', h1, h2⟩ | ⟨d', h1, h2⟩ | ⟨d', rid', h1, h2, h3⟩ | h | ⟨h1, h2⟩ | ⟨h1, h2⟩ | h
    · rw [h] at hd; cases hd
    · cases h1.symm.trans hd; rw [h2] at hfin; cases hfin
    · cases h1.symm.trans hd; rw [h2] at hr; cases hr
    · cases h1.symm.trans hd; cases h2.symm.trans hr
      exact h3 (hht.trans hb.height)
    · exact absurd hb.idOk (by rw [h]; nofun)
    · rcases hb.cert with ⟨_, b⟩ | ⟨a, _⟩
      · rw [h2] at b; cases b
      · rw [h1] at a; cases a
    · rcases hb.cert with ⟨a, _⟩ | ⟨_, b, _⟩
      · rw [h1] at a; cases a
      · rw [h2] at b; cases b
    · rw [h] at hprev; cases hprev

/-! ## at most once per decided object -/

/-- FULL statement: over every input sequence from the initial state (decided values list each contained object once),
    no (decision height, object) pair is signed twice -/
def C03_at_most_once_full : Prop :=
  ∀ (role : Role) (n : Nat) (ins : List In), (∀ i ∈ ins, ∀ c, i = .cons c → c.value.objs.Nodup) →
    (decidedSigns (run (init role n) ins)).Nodup

/-- PROVED in full for the current code (fix c50569811). Invariant: a duty that signed holds a decided value, which makes
    `prevDecided` true until the next duty start; a later duty runs at a strictly greater height (or, for slot 0 with the
    controller still at height 0, cannot start an instance because one of height 0 is still stored). -/
theorem C03_at_most_once : C03_at_most_once_full := by
  intro role n ins hobjs
  simpa using run_decidedSigns_nodup ins (init role n) [] List.nodup_nil (Inv.init role n) hobjs

/-- a valid certificate for value 1 (one object, root 7) at height `h` -/
def C03_witness_cert (h : Nat) : In :=
  .cons { idOk := true, height := h, isDecided := true, valid := true,
          value := { id := 1, decodeOk := true, vcOk := true, slot := 12, objs := [7], getOk := true },
          instDecides := false, instErr := false }

/-- the witness of the repaired defect: attester duty for slot 12 running; certificates for heights 13 and 14 arrive (the
    node lags behind) and push instance 12 out of the controller's two-slot container; after that every certificate for
    height 12 creates a fresh, never-stored instance and is a "first decision" again -/
def C03_witness : List In :=
  [.start 12 [] true, C03_witness_cert 13, C03_witness_cert 14, C03_witness_cert 12, C03_witness_cert 12]

theorem C03_witness_objs : ∀ i ∈ C03_witness, ∀ c, i = .cons c → c.value.objs.Nodup := by
  intro i hi c hc
  subst hc
  simp only [C03_witness, C03_witness_cert, List.mem_cons, List.not_mem_nil, or_false] at hi
  rcases hi with h | h | h | h | h
  · cases h
  all_goals (injection h with h; subst h; decide)

/-- the same statement for the code BEFORE the fix -/
def C03_at_most_once_old_full : Prop :=
  ∀ (role : Role) (n : Nat) (ins : List In), (∀ i ∈ ins, ∀ c, i = .cons c → c.value.objs.Nodup) →
    (decidedSigns (runOld (init role n) ins)).Nodup

/-- REGRESSION lemma: before fix c50569811 the clause was false — the same certificate delivered twice was signed twice
    because `didDecideCorrectly` only consulted the runner's own, never updated, instance object -/
theorem C03_at_most_once_old_refuted : ¬ C03_at_most_once_old_full := by
  intro h
  have := h .attester 4 C03_witness C03_witness_objs
  revert this
  decide

/-- what the witness does: signed twice before the fix, once now; the container holds heights 14 and 13 -/
theorem C03_witness_run :
    decidedSigns (runOld (init .attester 4) C03_witness) = [(12, 7), (12, 7)] ∧
    decidedSigns (run (init .attester 4) C03_witness) = [(12, 7)] ∧
    (finalState (init .attester 4) C03_witness).stored.map (heightOf (finalState (init .attester 4) C03_witness)) = [14, 13] := by
  decide

/-- the hypothesis of `C03_at_most_once` is satisfiable with a sequence that signs -/
example : (∀ i ∈ C03_witness, ∀ c, i = .cons c → c.value.objs.Nodup) ∧
    decidedSigns (run (init .attester 4) C03_witness) ≠ [] := ⟨C03_witness_objs, by decide⟩

end Ssv.Runner
