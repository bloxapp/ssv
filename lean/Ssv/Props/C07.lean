/-
C07 — Consensus can always still terminate while at most f operators are faulty.

Property theorems only (helpers: Ssv/Proofs/QbftFaultFree.lean; multi-node system model: Ssv/Model/Qbft/System.lean).

(a) `C07_timeout_progress*`      — proved for EVERY state: before the cut-off a round timeout moves an undecided operator to
                                    the next round, clears the accepted proposal, re-arms the timer and broadcasts exactly one
                                    round-change for that round carrying the lock.
(b) `C07_fault_free_round1*`     — proved GENERICALLY (any committee, quorum, height, leader, values — by lemmas about k distinct
                                    prepares / commits reaching the quorum, not by evaluation): in the synchronous fault-free
                                    schedule every operator decides the round-1 leader's value in round 1, and the messages it
                                    is fed are exactly the messages the operators emit.
(c) continuation from every reachable state — NOT proved, and FALSE on this tree: `C07_continuation_full` is kept as a
    statement; the constructed timely continuation is refuted on a concrete reachable state (`C07_wedge_*`, replayed on
    real controllers by the harness: known finding), together with the mechanism in full generality
    (`C07_mixed_locks_never_justify`: a round-change set holding locks on two different values justifies no proposal at all).
    A formal proof that NO schedule helps from that state (an invariant over all continuations) is not part of this file.
-/
import Ssv.Proofs.QbftFaultFree
import Ssv.Proofs.QbftProposer
import Ssv.Proofs.Kernels
import Ssv.Model.Qbft.System

namespace Ssv.Qbft

/-! ## ties to the regenerated facts -/

theorem C07_tie_timeout_path :
    Gen.calls_qbft_OnTimeout = ["GetTimeoutData", "FindInstance", "IsDecided", "UponRoundTimeout"] ∧
    Gen.calls_qbft_node_UponRoundTimeout = ["CanProcessMessages", "TimeoutForRound", "CreateRoundChange", "Broadcast"] ∧
    Gen.calls_qbft_node_uponChangeRoundPartialQuorum = ["TimeoutForRound", "CreateRoundChange", "Broadcast"] ∧
    Gen.calls_qbft_node_hasReceivedProposalJustificationForLeadingRound =
      ["MessagesForRound", "HasQuorum", "RoundChangePrepared", "isProposalJustificationForLeadingRound"] ∧
    Gen.src_qbft_CanProcessMessages = "7232faa48f591b33" ∧ Gen.src_qbft_RoundRobinProposer = "a01bb36809ae1f4a" :=
  ⟨rfl, rfl, rfl, rfl, rfl, rfl⟩

/-- leader rotation: the model's index is the kernel translated from `RoundRobinProposer`, which stays inside the committee
    for every round ≥ 1 and every height below 2^63 -/
theorem C07_tie_leader_rotation (n height round : Nat) (hn : 0 < n) (hn' : n ≤ 13) (hr : 1 ≤ round) (hr' : round < 2 ^ 62)
    (hh : height < 2 ^ 63) :
    proposerIndex n height round = Gen.k_RoundRobinProposerIndex round height n ∧
    0 ≤ proposerIndex n height round ∧ proposerIndex n height round < n := by
  have e63 : (2 : Nat) ^ 63 = 9223372036854775808 := by decide
  have e62 : (2 : Nat) ^ 62 = 4611686018427387904 := by decide
  have hround : toInt64 round = (round : Int) :=
    (toInt64_eq_gen round (by unfold two64; omega)).trans (Gen.toInt64_of_lt _ (by omega) (by omega))
  have heq := proposerIndex_eq_kernel n height round hn (by unfold two64; omega) (by unfold two64; omega)
    (by rw [hround]; omega) (by rw [hround]; omega)
  have hk := Kernels.leader_index_in_range (round : Int) (height : Int) (n : Int) (by omega) (by omega) (by omega) (by omega) (by omega)
  rw [heq]
  exact ⟨rfl, hk.1, hk.2⟩

/-! ## (a) a round timeout always makes progress before the cut-off -/

/-- the round-change an operator announces carries its lock: prepared round, value and root, or nothing -/
theorem C07_round_change_carries_lock (cfg : Cfg) (s : State) (r : Nat) :
    (createRoundChange cfg s r).type = tRoundChange ∧ (createRoundChange cfg s r).round = r ∧
    (createRoundChange cfg s r).height = s.height ∧ (createRoundChange cfg s r).signers = [cfg.own] ∧
    (if s.lastPreparedRound ≠ noRound ∧ s.lastPreparedValue ≠ 0 then
       (createRoundChange cfg s r).dataRound = s.lastPreparedRound ∧ (createRoundChange cfg s r).fullData = s.lastPreparedValue ∧
       (createRoundChange cfg s r).root = hashData s.lastPreparedValue
     else (createRoundChange cfg s r).dataRound = noRound ∧ (createRoundChange cfg s r).fullData = 0 ∧
       (createRoundChange cfg s r).root = zeroRoot) := by
  unfold createRoundChange
  by_cases h1 : s.lastPreparedRound = noRound
  · simp [h1, ownMsg]
  · by_cases h2 : s.lastPreparedValue = 0
    · simp [h1, h2, ownMsg]
    · simp [h1, h2, ownMsg]

/-- EVERY instance state that can still process messages (not force-stopped, `int(Round) < CutoffRound`): the timeout bumps
    the round by one, clears the accepted proposal, broadcasts exactly one round-change for the new round (created from the
    state before the bump, so it carries the lock) and re-arms the timer for the new round; nothing else changes. -/
theorem C07_timeout_progress (cfg : Cfg) (s : State) (h : canProcess cfg s = true) :
    uponRoundTimeout cfg s =
      ⟨{ s with round := s.round + 1, accepted := none },
       [.bcast (createRoundChange cfg s (s.round + 1)), .timer s.height (s.round + 1)],
       .ok s.decided s.decidedValue none⟩ := uponRoundTimeout_progress cfg s h

/-- the same through `Controller.OnTimeout`: for the stored, undecided instance of that height and a timeout that is not
    stale; a stale timeout (for an earlier round) and a timeout of a decided instance are no-ops -/
theorem C07_timeout_progress_ctrl (cfg : Cfg) (c : Ctrl) (height round : Nat) (inst : State)
    (hf : findInstance c.insts height = some inst) (hr : inst.round ≤ round) (hd : inst.decided = false)
    (hcp : canProcess cfg inst = true) :
    c.onTimeout cfg height round =
      ⟨{ c with insts := updateInstance c.insts { inst with round := inst.round + 1, accepted := none } },
       [.bcast (createRoundChange cfg inst (inst.round + 1)), .timer inst.height (inst.round + 1)], .ok none⟩ := by
  unfold Ctrl.onTimeout
  have : ¬ round < inst.round := by omega
  simp only [hf, this, if_false, hd, Bool.false_eq_true, uponRoundTimeout_progress cfg inst hcp]

theorem C07_stale_timeout_is_noop (cfg : Cfg) (c : Ctrl) (height round : Nat) (inst : State)
    (hf : findInstance c.insts height = some inst) (hr : round < inst.round) :
    c.onTimeout cfg height round = ⟨c, [], .ok none⟩ := by
  unfold Ctrl.onTimeout
  simp only [hf, hr, if_true]

/-- non-vacuity: a started, locked instance in round 3 satisfies the hypothesis, and round 14 is the last round that does -/
example : canProcess (stdCfg 4 3 2 2) { newInstance 0 with round := 3, lastPreparedRound := 1, lastPreparedValue := 5, started := true } = true ∧
    canProcess (stdCfg 4 3 2 2) { newInstance 0 with round := 14 } = true ∧
    canProcess (stdCfg 4 3 2 2) { newInstance 0 with round := 15 } = false := by decide

/-! ## (b) the fault-free synchronous first round, generically -/

/-- For EVERY configuration `cfg` of an operator in a committee without duplicates and without id 0, quorum between 1 and the
    committee size, cut-off above 1, every height `h`, round-1 leader `L` of the committee and leader value `v` accepted by the
    value check, and whatever the operator's own start value `vi` is: processing `Start`, the leader's proposal, the prepares
    of all committee members and then their commits (committee order) leaves the operator decided on the LEADER's value `v`,
    still in round 1, having locked (1, v). -/
theorem C07_fault_free_round1 (cfg : Cfg) (h L v vi : Nat) (ff : FF cfg h L v) :
    let s := (runI cfg (newInstance h) (ffOps cfg h L v vi)).1
    s.decided = true ∧ s.decidedValue = v ∧ s.round = firstRound ∧ s.lastPreparedRound = firstRound ∧ s.lastPreparedValue = v := by
  obtain ⟨hs, _⟩ := ff_round1_run ff vi
  obtain ⟨hr, hv⟩ := hs.lock ff.qn
  exact ⟨hs.decided.trans (decide_eq_true ff.qn), hs.value.trans (if_pos ff.qn), hs.round, hr, hv⟩

/-- … and the run is closed: what the operator emits op by op (`ffObs`) are the timer call, its proposal if and only if it is
    the leader, its prepare right after the proposal, its commit exactly on the prepare that completes the quorum, and the
    decision with the aggregated certificate from the commit that completes the quorum on — the very messages `ffOps` feeds. -/
theorem C07_fault_free_round1_outputs (cfg : Cfg) (h L v vi : Nat) (ff : FF cfg h L v) :
    (runI cfg (newInstance h) (ffOps cfg h L v vi)).2 = ffObs cfg h L v vi :=
  (ff_round1_run ff vi).2

/-- the messages fed ARE the model's own messages: the leader's `Start` creates `ffProposal`, an accepting operator creates
    `ffPrepare`, a prepared one `ffCommit` -/
theorem C07_fault_free_messages_are_own (cfg : Cfg) (h v : Nat) (s : State) (hs : s.height = h) (hr : s.round = firstRound) :
    createProposal cfg s v [] [] = ffProposal cfg h cfg.own v ∧
    createPrepare cfg s firstRound (hashData v) = ffPrepare cfg h v cfg.own ∧
    createCommit cfg s (hashData v) = ffCommit cfg h v cfg.own :=
  ff_messages_are_own cfg h v s hs hr

/-- instantiation with the node's configuration: committee 1..n with the round-robin leader, n ∈ {4, 7, 10, 13} with the
    quorum of `ComputeQuorumAndPartialQuorum`, every operator, every height below the committee size (leader rotation),
    leader value 5: the hypotheses `FF` hold -/
theorem C07_fault_free_hypotheses_hold (n q pq : Nat) (hn : (n, q, pq) ∈ [(4, 3, 2), (7, 5, 3), (10, 7, 4), (13, 9, 5)])
    (own h : Nat) (ho : 1 ≤ own ∧ own ≤ n) (hh : h < n) :
    FF (stdCfg n q pq own) h (h % n + 1) 5 := by
  -- the committee 1..n is duplicate-free, without 0 and contains `own` and the leader for every n; only the quorum bounds
  -- and the leader arithmetic are evaluated for the four sizes
  obtain ⟨hq1, hqn, hlead⟩ : 1 ≤ q ∧ q ≤ n ∧ ∀ h, h < n → roundRobinProposer ((List.range n).map (· + 1)) h firstRound = some (h % n + 1) := by
    simp only [List.mem_cons, List.mem_nil_iff, or_false, Prod.mk.injEq] at hn
    rcases hn with ⟨rfl, rfl, rfl⟩ | ⟨rfl, rfl, rfl⟩ | ⟨rfl, rfl, rfl⟩ | ⟨rfl, rfl, rfl⟩ <;> decide +kernel
  have hmem : ∀ x, x < n → x + 1 ∈ (List.range n).map (· + 1) := fun x hx => List.mem_map.2 ⟨x, List.mem_range.2 hx, rfl⟩
  refine ⟨List.nodup_range.map _ fun a b hab e => hab (Nat.add_right_cancel e), fun h0 => ?_, ?_, Nat.one_ne_zero, hq1, ?_,
    (by decide : 1 < 15), hlead h hh, hmem _ (Nat.mod_lt _ (by omega)), rfl⟩
  · obtain ⟨x, _, e⟩ := List.mem_map.1 h0
    exact Nat.succ_ne_zero x e
  · exact Nat.sub_add_cancel ho.1 ▸ hmem (own - 1) (by omega)
  · exact (List.length_map _).trans List.length_range ▸ hqn

/-- n = 4, height 2 (leader = operator 3), operator 1 starting with another value: decided on the leader's value -/
example : ((runI (stdCfg 4 3 2 1) (newInstance 2) (ffOps (stdCfg 4 3 2 1) 2 3 5 9)).1.decided,
    (runI (stdCfg 4 3 2 1) (newInstance 2) (ffOps (stdCfg 4 3 2 1) 2 3 5 9)).1.decidedValue) = (true, 5) := by decide +kernel

/-! ## (c) continuation from every reachable state -/

/-- a scheduling step among the correct operators: deliver a pending message to an operator, or fire its round timer -/
inductive SchedStep
  | deliver (own idx : Nat)
  | timeout (own : Nat)

def Sys.sched (σ : Sys) : SchedStep → Sys
  | .deliver own idx =>
    match σ.wire[idx]? with
    | some m => σ.deliverWhere own (fun x => x.mid == m.mid)
    | none => σ
  | .timeout own =>
    match (findNode σ.nodes own).bind (fun nd => instOf nd σ.height) with
    | some i => σ.apply own (.timeout σ.height i.round)
    | none => σ

def Sys.maxRound (σ : Sys) : Nat := (σ.nodes.filterMap (fun nd => (instOf nd σ.height).map (·.round))).foldl max 0

/-- full clause for a given system state: SOME schedule of deliveries and timeouts among the correct operators makes all of
    them decide without any of them advancing more than `f+3` rounds. (False for `c07Wedge` on this tree for the constructed
    continuation; by `C07_mixed_locks_never_justify` no other delivery order can produce a justified proposal either.) -/
def C07_continuation_full (σ : Sys) (f : Nat) : Prop :=
  ∃ sched : List SchedStep, let τ := sched.foldl Sys.sched σ
    τ.nodes.all (fun nd => match instOf nd τ.height with | some i => i.decided | none => false) = true ∧
    τ.maxRound ≤ σ.maxRound + f + 3

/-- THE MECHANISM (for every configuration, height, round > 1 and value): a set of round-changes that contains prepared
    round-changes for two DIFFERENT roots justifies no proposal whatsoever — `isProposalJustification` checks every
    round-change of the set against the proposed value (`validRoundChangeForData`: `H(fullData) = rc.Root` for a prepared one).
    Operators locked on different values therefore block every leader whose quorum must contain both. -/
theorem C07_mixed_locks_never_justify (cfg : Cfg) (sh : Nat) (rcs : List Lvl1) (prepares : List Base) (h round fd : Nat)
    (a b : Lvl1) (ha : a ∈ rcs) (hb : b ∈ rcs) (hpa : a.toBase.rcPrepared = true) (hpb : b.toBase.rcPrepared = true)
    (hne : a.root ≠ b.root) (hround : round ≠ firstRound) :
    isProposalJustification cfg sh rcs prepares h round fd ≠ .ok () := by
  intro hok
  obtain ⟨hall, _⟩ := just_facts cfg sh rcs prepares h round fd () hok hround
  have ea := validRoundChangeForData_prepared_root cfg sh a h round fd () (hall a ha) hpa
  have eb := validRoundChangeForData_prepared_root cfg sh b h round fd () (hall b hb) hpb
  exact hne (ea.symm.trans eb)

/-! ### the wedge, evaluated in the model (DESIGN §8-10; the harness replays it on real controllers) -/

def c07Byz (own t r root : Nat) : Msg :=
  { type := t, height := 0, round := r, ident := 1, root := root, dataRound := 0, signers := [own], sigOk := true,
    malformed := false, mid := 1000 + own * 10 + t, rcJust := [], prepJust := [], fullData := 0 }

def c07IsT (t r : Nat) (m : Msg) : Bool := m.type == t && m.round == r && m.signers.length == 1

/-- n = 4, height 0 (leaders: round 1 → 1, round 2 → 2, round 3 → 3, round 4 → 4, round 5 → 1). Correct operators A = 1
    (start value 5), B = 2, C = 3 (start value 6); operator 4 is Byzantine and finally silent. A alone sees the round-1
    prepare quorum for 5; B and C, with 4's round-change and prepare, prepare 6 in round 2; everything reaches A only after
    its timer fired twice. No message between correct operators is lost — only delayed. -/
def c07Wedge : Sys :=
  let σ := Sys.init 4 3 2 0 [(1, 5), (2, 6), (3, 6)]
  let σ := ((σ.deliverWhere 1 (c07IsT tProposal 1)).deliverWhere 2 (c07IsT tProposal 1)).deliverWhere 3 (c07IsT tProposal 1)
  let σ := σ.deliverWhere 1 (c07IsT tPrepare 1)
  let σ := (σ.apply 2 (.timeout 0 1)).apply 3 (.timeout 0 1)
  let σ := σ.inject (c07Byz 4 tRoundChange 2 zeroRoot) [2, 3]
  let notA := fun (m : Msg) => c07IsT tRoundChange 2 m && m.signers != [1]
  let σ := (σ.deliverWhere 2 notA).deliverWhere 3 notA
  let σ := (σ.deliverWhere 2 (c07IsT tProposal 2)).deliverWhere 3 (c07IsT tProposal 2)
  let σ := σ.inject (c07Byz 4 tPrepare 2 6) [2, 3]
  let σ := (σ.deliverWhere 2 (c07IsT tPrepare 2)).deliverWhere 3 (c07IsT tPrepare 2)
  let σ := (σ.deliverWhere 2 (c07IsT tCommit 2)).deliverWhere 3 (c07IsT tCommit 2)
  let σ := (σ.apply 1 (.timeout 0 1)).apply 1 (.timeout 0 2)
  (σ.apply 2 (.timeout 0 2)).apply 3 (.timeout 0 2)

/-- the reached state: everybody undecided in round 3, A locked on (1, 5), B and C locked on (2, 6) -/
theorem C07_wedge_state :
    c07Wedge.summary = [(1, 3, false, 0, 1, 5), (2, 3, false, 0, 2, 6), (3, 3, false, 0, 2, 6)] := by decide +kernel

/-- the constructed timely continuation — f+3 = 4 times (deliver everything ever sent; all time out), then deliver everything —
    leaves all three correct operators undecided with their locks, four rounds later -/
theorem C07_wedge_constructed_continuation_refuted :
    (c07Wedge.continuation 4 30).summary = [(1, 7, false, 0, 1, 5), (2, 7, false, 0, 2, 6), (3, 7, false, 0, 2, 6)] := by
  decide +kernel

end Ssv.Qbft
