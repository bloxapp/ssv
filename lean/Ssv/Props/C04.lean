/-
C04 — An operator never signs a slashable attestation or block, across restarts.
Property theorems only (model: Ssv/Model/Slashing.lean, invariant and lemmas: Ssv/Proofs/Slashing.lean).

All statements quantify over EVERY operation history (`List Op`, any length, any order of
add / add-with-storage-fault / remove / remove-with-storage-fault / reactivate (whole or split into its clock read,
record reads and record writes) / sign attestation / sign block / sign with failing record write / clock advance /
restart / resume), every clock start and every network parameter.

Current semantics (`step`, /repo commit 23d9c6c97): `BumpSlashingProtection` holds the wallet lock for writing, so
while a split bump is in flight only the clock can advance or the process restart; a lock-taking request issued
meanwhile is delayed and executes when the bump has finished. `C04_no_slashable_pair` is the FULL statement for that
op alphabet. The semantics before the fix (`stepOld`) is kept with its 12-op double-vote witness as a regression
lemma (`C04_old_split_bump_refuted`).

The only hypothesis (`Along cfg (SignedOk cfg) s ops`, a per-step guard): every signature RELEASED by a step has
`source < target ≤ epoch(clock at its release)` (attestation) / `slot ≤ clock` (block).
* The clock halves are the property's own quantifier ("targets and block slots not beyond the clock at signing
  time, as duties are").
* `source < target` is enforced by the attester value check of ssv-spec (`AttesterValueCheckF`: "attestation data
  source > target") before any sign request is made; the key manager itself does not check it.
* Both are necessary: `C04_without_src_lt_tgt_full_refuted` / `C04_target_next_epoch_full_refuted` give histories,
  accepted step by step by the signer, that end in a slashable pair when one of them is dropped. (The value check
  admits `target ≤ current epoch + 1`; that point is outside the property's quantifier and the signer is NOT safe
  there: a remove + re-add in the same epoch re-installs `(e-1, e)` below the signed target `e+1`.)
-/
import Ssv.Proofs.Slashing

namespace Ssv.Slashing

/-! ## ties to the regenerated facts -/

/-- the two gaps the bump adds to the current epoch / slot (the model imports them; the concrete witnesses
    below are computed with these values) -/
theorem C04_tie_constants :
    Gen.ekm_minSPAttestationEpochGap = 0 ∧ Gen.ekm_minSPProposalSlotGap = 0 := ⟨rfl, rfl⟩

/-- the records live under the two prefixes named in the property's anchors -/
theorem C04_tie_prefixes :
    Gen.ekm_highestAttPrefix = "signer_data-highest_att-" ∧
    Gen.ekm_highestProposalPrefix = "signer_data-highest_prop-" := ⟨rfl, rfl⟩

/-- call-site facts the model's step structure relies on:
    AddShare = wallet write lock, account lookup, UNLOCKED bump, save account; RemoveShare = wallet write lock, lookup,
    delete att record, delete proposal record, delete account; BumpSlashingProtection = wallet WRITE lock, then the
    unlocked bump = clock read, attestation update, proposal update; each update is read → (epoch) → minimal → save;
    SignBeaconObject dispatches to signBeaconObject, which takes the wallet READ lock and dispatches to the
    library signers; the constructor (= restart) touches no record. -/
theorem C04_tie_callsites :
    Gen.calls_ekm_AddShare = ["Lock", "AccountByPublicKey", "bumpSlashingProtection", "saveShare"] ∧
    Gen.calls_ekm_RemoveShare =
      ["Lock", "AccountByPublicKey", "RemoveHighestAttestation", "RemoveHighestProposal", "DeleteAccountByPublicKey"] ∧
    Gen.calls_ekm_BumpSlashingProtection = ["Lock", "bumpSlashingProtection"] ∧
    Gen.calls_ekm_bumpUnlocked = ["EstimatedCurrentSlot", "updateHighestAttestation", "updateHighestProposal"] ∧
    Gen.calls_ekm_updateHighestAttestation =
      ["RetrieveHighestAttestation", "EstimatedEpochAtSlot", "computeMinimalAttestationSP", "SaveHighestAttestation"] ∧
    Gen.calls_ekm_updateHighestProposal = ["RetrieveHighestProposal", "computeMinimalProposerSP", "SaveHighestProposal"] ∧
    Gen.calls_ekm_SignBeaconObject = ["signBeaconObject"] ∧
    Gen.calls_ekm_signBeaconObject =
      ["RLock", "SignBeaconAttestation", "SignBlindedBeaconBlock", "SignBlindedBeaconBlock", "SignBeaconBlock"] ∧
    Gen.calls_ekm_IsAttestationSlashable = ["IsSlashableAttestation"] ∧
    Gen.calls_ekm_IsBeaconBlockSlashable = ["IsSlashableProposal"] ∧
    Gen.calls_ekm_New = ["NewSignerStorage", "OpenWallet", "NewNormalProtection", "NewSimpleSigner"] :=
  ⟨rfl, rfl, rfl, rfl, rfl, rfl, rfl, rfl, rfl, rfl, rfl⟩

/-- pinned library: account lookup, per-account lock, far-future check(s), slashability check, record update
    and only then the signature — for attestations and for (blinded or full) blocks -/
theorem C04_tie_library_order :
    Gen.calls_lib_SignBeaconAttestation =
      ["AccountByPublicKey", "lock", "IsValidFarFutureEpoch", "IsValidFarFutureEpoch", "IsSlashableAttestation",
       "UpdateHighestAttestation", "ValidationKeySign"] ∧
    Gen.calls_lib_SignBlock =
      ["AccountByPublicKey", "lock", "IsValidFarFutureSlot", "IsSlashableProposal", "UpdateHighestProposal",
       "ValidationKeySign"] ∧
    Gen.calls_lib_SignBeaconBlock = ["SignBlock"] ∧ Gen.calls_lib_SignBlindedBeaconBlock = ["SignBlock"] :=
  ⟨rfl, rfl, rfl, rfl⟩

/-- who calls add / remove / reactivate -/
theorem C04_tie_event_handlers :
    Gen.calls_eh_handleShareCreation = ["AddShare"] ∧
    Gen.calls_eh_handleValidatorRemoved = ["RemoveShare"] ∧
    Gen.calls_eh_handleClusterReactivated = ["BumpSlashingProtection"] := ⟨rfl, rfl, rfl⟩

/-- a regenerated literal/operator list without its string literals (error texts may be reworded freely) -/
def opsOnly (l : List String) : List String := l.filter fun s => s.front != '"'

/-- the comparison / arithmetic operators and numeric literals of the functions the model transcribes, in source
    (AST pre-order) order, string literals dropped:
    `updateHighestAttestation`: `found && high != nil`, then `hs >= minS || ht >= minT` keeps the record;
    `updateHighestProposal`: `found && hp != 0`, then `hp >= min` keeps; `computeMinimalAttestationSP`: `epoch + gap`,
    `target - 1`; `SaveHighestProposal` refuses `slot == 0`;
    library: `IsSlashableAttestation` refuses `src < hs || tgt <= ht` (after `!found`), `IsSlashableProposal` accepts
    `slot > highest` (after `slot == 0`, `!found`), `UpdateHighestAttestation` raises each component with `<`,
    `UpdateHighestProposal` saves when `!found || highest < slot`. -/
theorem C04_tie_comparisons :
    opsOnly Gen.ops_ekm_updateHighestAttestation = ["!=", "&&", "!=", "||", ">=", ">=", "!="] ∧
    opsOnly Gen.ops_ekm_updateHighestProposal = ["!=", "&&", "!=", "0", ">=", "!="] ∧
    opsOnly Gen.ops_ekm_computeMinimalAttestationSP = ["+", "-", "1", "u&", "u&", "u&"] ∧
    opsOnly Gen.ops_ekm_computeMinimalProposerSP = ["+"] ∧
    opsOnly Gen.ops_ekm_SaveHighestProposal = ["==", "==", "0"] ∧
    opsOnly Gen.ops_lib_IsSlashableAttestation = ["==", "!=", "u!", "!=", "||", "<", "<=", "u&"] ∧
    opsOnly Gen.ops_lib_IsSlashableProposal = ["==", "0", "!=", "u!", ">", "u&", "u&"] ∧
    opsOnly Gen.ops_lib_UpdateHighestAttestation = ["==", "!=", "||", "u!", "==", "!=", "<", "<", "!="] ∧
    opsOnly Gen.ops_lib_UpdateHighestProposal = ["==", "0", "!=", "||", "u!", "<", "!="] := by decide +kernel

/-- fingerprints of the four functions of the PINNED module eth2-key-manager v1.4.0 (they can only change with a
    version bump in go.mod, after which the model has to be re-read against the new source) -/
theorem C04_tie_library_sources :
    Gen.src_lib_IsSlashableAttestation = "0d3fcaf5e4b7ad7e" ∧
    Gen.src_lib_IsSlashableProposal = "401204009a0440b5" ∧
    Gen.src_lib_UpdateHighestAttestation = "53158a76bf1028e3" ∧
    Gen.src_lib_UpdateHighestProposal = "1e88491297e3c86d" := ⟨rfl, rfl, rfl, rfl⟩

/-! ## what the ghost log must never contain -/

/-- no double vote, no surrounding / surrounded pair, no two blocks for one slot — over ALL pairs of released
    signatures of the share (pairs of positions: two releases with equal `(source, target)` count as a double vote) -/
def Safe (s : State) : Prop :=
  s.atts.Pairwise (fun a b => ¬ Slashable a b) ∧ s.blocks.Nodup

instance (s : State) : Decidable (Safe s) := by unfold Safe; infer_instance

/-! ## main theorem -/

/-- C04, FULL: every history over the whole op alphabet — add / remove share (also with storage faults in the
    middle), reactivation as one op or split into its separate steps interleaved with anything, sign requests (also
    issued while a bump is in flight: they wait for it), failing record writes, clock advances, restarts — any
    length, any order: if every released signature is within the clock at its release (and `source < target`), the
    released signatures contain no double vote, no surround pair and no two blocks for one slot. -/
theorem C04_no_slashable_pair (cfg : Cfg) (c0 : Nat) (ops : List Op)
    (hwf : Along cfg (SignedOk cfg) (init c0) ops) :
    Safe (run cfg (init c0) ops) := by
  have h := inv_run ops (inv_init cfg c0) hwf
  exact ⟨h.att.safe, h.blk.safe⟩

/-! ## regression: the semantics before the fix (bump without the wallet lock) -/

/-- the parameters of every concrete history below: 32 slots per epoch, far-future limits out of reach -/
def cfg32 : Cfg := ⟨32, 1000000, 32000000⟩

/-- the same guard (`NewOk`) on a step of `stepOld` -/
def SignedOkOld (cfg : Cfg) (s : State) (op : Op) : Prop := NewOk cfg s (stepOld cfg s op).1

def AlongOld (cfg : Cfg) (s : State) : List Op → Prop
  | [] => True
  | op :: ops => SignedOkOld cfg s op ∧ AlongOld cfg (stepOld cfg s op).1 ops

instance (cfg : Cfg) (s : State) (op : Op) : Decidable (SignedOkOld cfg s op) := by
  unfold SignedOkOld; infer_instance

def decAlongOld (cfg : Cfg) : ∀ (s : State) (ops : List Op), Decidable (AlongOld cfg s ops)
  | _, [] => isTrue trivial
  | s, op :: ops => @instDecidableAnd _ _ _ (decAlongOld cfg (stepOld cfg s op).1 ops)

instance (cfg : Cfg) (s : State) (ops : List Op) : Decidable (AlongOld cfg s ops) := decAlongOld cfg s ops

/-- the statement for the OLD semantics … -/
def C04_old_split_bump : Prop :=
  ∀ (cfg : Cfg) (c0 : Nat) (ops : List Op), AlongOld cfg (init c0) ops → Safe (runOld cfg (init c0) ops)

/-- the race: epoch 12, a reactivation reads the clock and the old record (9,10) and decides to write (11,12);
    the clock moves to epoch 13; (12,13) is signed [record (12,13)]; the bump writes (11,12) — LOWERING the
    record; (11,13) is signed: double vote on target 13. The same bump then reads the proposal record 320, decides
    to write 384; slot 416 is signed [record 416]; the bump writes 384; slot 416 is signed again.
    (corpus/C04/ekm_race_stale_bump_write.ops is this history.) -/
def raceWitness : List Op :=
  [.addShare, .tick 64, .bumpBegin, .bumpRead, .tick 32, .signAtt 12 13, .bumpWrite, .signAtt 11 13,
   .bumpRead, .signBlock 416, .bumpWrite, .signBlock 416]

/-- … is false: a bump that is not atomic with respect to signing writes a value computed from a clock reading that
    may be stale at the time of the write (reproduced on the real code before commit 23d9c6c97) -/
theorem C04_old_split_bump_refuted : ¬ C04_old_split_bump :=
  fun h => absurd (h cfg32 320 raceWitness (by decide +kernel)) (by decide +kernel)

/-- what the race witness released under the old semantics … -/
example : (runOld cfg32 (init 320) raceWitness).atts = [(11, 13), (12, 13)] ∧
    (runOld cfg32 (init 320) raceWitness).blocks = [416, 416] := by decide +kernel

/-- … and what the same 12 ops (followed by collecting the delayed outcomes) do under `step`: the first sign request waits for
    the bump, is signed when it finishes ((12,13), record (12,13)); every later conflicting request is refused -/
example :
    Along cfg32 (SignedOk cfg32) (init 320) raceWitness ∧
    (run cfg32 (init 320) raceWitness).atts = [(12, 13)] ∧
    (run cfg32 (init 320) raceWitness).blocks = [416] ∧
    (run cfg32 (init 320) raceWitness).d = ⟨some (12, 13), some 416, true⟩ := by decide +kernel

/-! ## each hypothesis of `SignedOk` is needed (the real signer was run at these excluded points, see notes/C04.md) -/

/-- `SignedOk` without `source < target` -/
def SignedOkNoSrc (cfg : Cfg) (s : State) (op : Op) : Prop :=
  (∀ a ∈ (step cfg s op).1.atts, a ∈ s.atts ∨ a.2 ≤ epochOf cfg s.clock) ∧
  (∀ b ∈ (step cfg s op).1.blocks, b ∈ s.blocks ∨ b ≤ s.clock)

instance (cfg : Cfg) (s : State) (op : Op) : Decidable (SignedOkNoSrc cfg s op) := by
  unfold SignedOkNoSrc; infer_instance

def C04_without_src_lt_tgt_full : Prop :=
  ∀ (cfg : Cfg) (c0 : Nat) (ops : List Op),
    Along cfg (SignedOkNoSrc cfg) (init c0) ops → Safe (run cfg (init c0) ops)

/-- (50,11) is signed at epoch 11 (the signer accepts source ≥ target); remove + re-add installs (10,11);
    at epoch 60 (20,60) is signed: it surrounds (50,11). -/
theorem C04_without_src_lt_tgt_full_refuted : ¬ C04_without_src_lt_tgt_full :=
  fun h => absurd
    (h cfg32 320 [.addShare, .tick 32, .signAtt 50 11, .removeShare, .addShare, .tick 1568, .signAtt 20 60]
      (by decide +kernel))
    (by decide +kernel)

/-- `SignedOk` with the clock bound relaxed to what the ssv-spec value check admits (`target ≤ current epoch + 1`,
    `slot ≤ clock + 1`) -/
def SignedOkNextEpoch (cfg : Cfg) (s : State) (op : Op) : Prop :=
  (∀ a ∈ (step cfg s op).1.atts, a ∈ s.atts ∨ (a.1 < a.2 ∧ a.2 ≤ epochOf cfg s.clock + 1)) ∧
  (∀ b ∈ (step cfg s op).1.blocks, b ∈ s.blocks ∨ b ≤ s.clock + 1)

instance (cfg : Cfg) (s : State) (op : Op) : Decidable (SignedOkNextEpoch cfg s op) := by
  unfold SignedOkNextEpoch; infer_instance

def C04_target_next_epoch_full : Prop :=
  ∀ (cfg : Cfg) (c0 : Nat) (ops : List Op),
    Along cfg (SignedOkNextEpoch cfg) (init c0) ops → Safe (run cfg (init c0) ops)

/-- epoch 10: (10,11) is signed (target = next epoch); remove + re-add in the same epoch installs (9,10);
    (9,11) is signed: double vote on 11. Same with slot 321 at clock 320. -/
theorem C04_target_next_epoch_full_refuted : ¬ C04_target_next_epoch_full :=
  fun h => absurd
    (h cfg32 320 [.addShare, .signAtt 10 11, .signBlock 321, .removeShare, .addShare, .signAtt 9 11, .signBlock 321]
      (by decide +kernel))
    (by decide +kernel)

/-! ## missing record ⇒ refuse; a signature is only released after check and update, never during a bump -/

/-- no attestation record (never written, deleted by a half-finished removal, …) ⇒ the request, when it executes, is
    refused, nothing is released and nothing changes — whatever else the state is -/
theorem C04_refuse_when_missing (cfg : Cfg) (s : State) (x y : Nat) (h : s.d.att = none) :
    (stepFree cfg s (.signAtt x y)).1 = s ∧ ∃ r, (stepFree cfg s (.signAtt x y)).2 = .refused r := by
  rcases stepSignAtt_cases cfg s x y with ⟨r, heq⟩ | ⟨_, _, hatt, _⟩
  · exact ⟨congrArg Prod.fst heq, r, congrArg Prod.snd heq⟩
  · rw [h] at hatt; cases hatt

/-- … with the library's own reason when the account exists and the epochs pass the far-future check -/
theorem C04_refuse_when_missing_tag (cfg : Cfg) (s : State) (x y : Nat) (h : s.d.att = none)
    (hacc : s.d.account = true) (hx : x ≤ cfg.ffEpoch) (hy : y ≤ cfg.ffEpoch) :
    stepFree cfg s (.signAtt x y) = (s, .refused .attMissing) := by
  simp only [stepFree, stepSignAtt, h, hacc]
  rw [if_neg (by decide), if_neg (Nat.not_lt.mpr hy), if_neg (Nat.not_lt.mpr hx)]

theorem C04_refuse_when_missing_block (cfg : Cfg) (s : State) (slot : Nat) (h : s.d.prop = none) :
    (stepFree cfg s (.signBlock slot)).1 = s ∧ ∃ r, (stepFree cfg s (.signBlock slot)).2 = .refused r := by
  rcases stepSignBlock_cases cfg s slot with ⟨r, heq⟩ | ⟨_, hprop, _⟩
  · exact ⟨congrArg Prod.fst heq, r, congrArg Prod.snd heq⟩
  · rw [h] at hprop; cases hprop

theorem C04_refuse_when_missing_block_tag (cfg : Cfg) (s : State) (slot : Nat) (h : s.d.prop = none)
    (hacc : s.d.account = true) (hs : slot ≤ cfg.ffSlot) (h0 : slot ≠ 0) :
    stepFree cfg s (.signBlock slot) = (s, .refused .propMissing) := by
  simp only [stepFree, stepSignBlock, h, hacc]
  rw [if_neg (by decide), if_neg (Nat.not_lt.mpr hs), if_neg h0]

/-- the pre-sign checks `IsAttestationSlashable` / `IsBeaconBlockSlashable` report a missing record as an error.
    (`checkAtt` / `checkProp` are these checks on their own; no step of the model calls them, `stepSignAtt` /
    `stepSignBlock` make the same comparisons inline, and the driver prints them beside every sign request.) -/
theorem C04_check_missing (x y slot : Nat) (h0 : slot ≠ 0) :
    checkAtt none x y = some .attMissing ∧ checkProp none slot = some .propMissing :=
  ⟨rfl, by rw [checkProp, if_neg h0]⟩

/-- no account (removed share, never added) ⇒ refuse -/
theorem C04_refuse_without_account (cfg : Cfg) (s : State) (x y slot : Nat) (h : s.d.account = false) :
    stepFree cfg s (.signAtt x y) = (s, .refused .noAccount) ∧
    stepFree cfg s (.signBlock slot) = (s, .refused .noAccount) := by
  simp [stepFree, stepSignAtt, stepSignBlock, h]

/-- a request issued while a bump is in flight releases nothing and touches no record: it waits (or is rejected when
    another request is already waiting) -/
theorem C04_request_during_bump_waits (cfg : Cfg) (s : State) (x y slot : Nat) (h : s.pend.isSome = true) :
    (step cfg s (.signAtt x y)).2 ≠ .signed ∧ (step cfg s (.signBlock slot)).2 ≠ .signed ∧
    (step cfg s (.signAtt x y)).1.d = s.d ∧ (step cfg s (.signAtt x y)).1.atts = s.atts ∧
    (step cfg s (.signBlock slot)).1.d = s.d ∧ (step cfg s (.signBlock slot)).1.blocks = s.blocks := by
  simp only [step, blockOrRun, h, if_true]
  by_cases hd : s.delayed.isSome = true <;> simp [hd]

/-- a state with the account present and the attestation record missing is reachable (a removal whose second
    delete fails), and there attestation requests are refused while the intact proposal record still works -/
example :
    let s := run cfg32 (init 320) [.addShare, .removeFail 1]
    s.d = ⟨none, some 320, true⟩ ∧
    step cfg32 s (.signAtt 9 10) = (s, .refused .attMissing) ∧
    (step cfg32 s (.signBlock 0)).2 = .refused .slotZero := by decide +kernel

/-- a released attestation signature implies: no bump in flight, account present, record present, request not below
    the record in source and strictly above it in target, and the record was raised to the request in the same step -/
theorem C04_signed_only_after_check_and_update (cfg : Cfg) (s : State) (x y : Nat)
    (h : (step cfg s (.signAtt x y)).2 = .signed) :
    s.pend = none ∧ s.d.account = true ∧ ∃ hs ht, s.d.att = some (hs, ht) ∧ hs ≤ x ∧ ht < y ∧
      (step cfg s (.signAtt x y)).1.d.att = some (x, y) ∧
      (step cfg s (.signAtt x y)).1.atts = (x, y) :: s.atts := by
  obtain ⟨hp, hstep⟩ := blockOrRun_signed h
  rw [show step cfg s (.signAtt x y) = stepSignAtt cfg s x y from hstep] at h ⊢
  rcases stepSignAtt_cases cfg s x y with ⟨_, heq⟩ | ⟨hs, ht, hatt, hx, hy, hacc, _, _, heq⟩
  · rw [heq] at h; cases h
  · rw [heq]
    exact ⟨hp, hacc, hs, ht, hatt, hx, hy, rfl, rfl⟩

theorem C04_block_signed_only_after_check_and_update (cfg : Cfg) (s : State) (slot : Nat)
    (h : (step cfg s (.signBlock slot)).2 = .signed) :
    s.pend = none ∧ s.d.account = true ∧ ∃ hp, s.d.prop = some hp ∧ hp < slot ∧
      (step cfg s (.signBlock slot)).1.d.prop = some slot ∧
      (step cfg s (.signBlock slot)).1.blocks = slot :: s.blocks := by
  obtain ⟨hp, hstep⟩ := blockOrRun_signed h
  rw [show step cfg s (.signBlock slot) = stepSignBlock cfg s slot from hstep] at h ⊢
  rcases stepSignBlock_cases cfg s slot with ⟨_, heq⟩ | ⟨hp', hprop, hc, hacc, _, heq⟩
  · rw [heq] at h; cases h
  · rw [heq]
    exact ⟨hp, hacc, hp', hprop, hc, rfl, rfl⟩

/-- a sign request whose record write fails (storage error, or the database is closed under the request between
    its check and its write) releases NOTHING and changes nothing — for every state; when the plain request would
    have been signed the refusal is `writeFailed`, otherwise it is the plain request's own refusal.
    Together with `C04_signed_only_after_check_and_update`: released ⇒ the raised record was written. -/
theorem C04_failed_write_refuses (cfg : Cfg) (s : State) (x y slot : Nat) :
    (stepFree cfg s (.signAttFault x y)).1 = s ∧ (stepFree cfg s (.signAttFault x y)).2 ≠ .signed ∧
    (stepFree cfg s (.signBlockFault slot)).1 = s ∧ (stepFree cfg s (.signBlockFault slot)).2 ≠ .signed ∧
    ((stepFree cfg s (.signAtt x y)).2 = .signed → (stepFree cfg s (.signAttFault x y)).2 = .refused .writeFailed) ∧
    ((stepFree cfg s (.signBlock slot)).2 = .signed → (stepFree cfg s (.signBlockFault slot)).2 = .refused .writeFailed) := by
  simp only [stepFree, stepSignAttFault_eq, stepSignBlockFault_eq]
  exact ⟨trivial, writeFault_ne_signed _, trivial, writeFault_ne_signed _, fun h => if_pos h, fun h => if_pos h⟩

/-- non-vacuity: a request that would be signed is refused with `writeFailed` when its write fails, the record
    stays (10,11) after the following restart, and the same target is then still protected -/
example :
    let s := run cfg32 (init 320) [.addShare, .tick 40, .signAtt 10 11, .tick 32]
    (step cfg32 s (.signAtt 11 12)).2 = .signed ∧
    (step cfg32 s (.signAttFault 11 12)).2 = .refused .writeFailed ∧
    (run cfg32 s [.signAttFault 11 12, .restart, .signAtt 9 11]).atts = [(10, 11)] ∧
    (run cfg32 s [.signAttFault 11 12, .restart, .signAtt 9 11]).d.att = some (10, 11) := by decide +kernel

/-! ## restart -/

/-- a restart changes nothing durable and releases nothing (no request was waiting); it only kills an in-flight bump -/
theorem C04_restart_identity (cfg : Cfg) (s : State) (hd : s.delayed = none) :
    (step cfg s .restart).1.d = s.d ∧ (step cfg s .restart).1.atts = s.atts ∧
    (step cfg s .restart).1.blocks = s.blocks ∧ (step cfg s .restart).1.clock = s.clock ∧
    (step cfg s .restart).1.pend = none ∧
    (s.pend = none → (step cfg s .restart).1 = s) := by
  have e : step cfg s .restart = ({ s with pend := none }, .ok) := by simp only [step, drain, hd]
  rw [e]
  exact ⟨rfl, rfl, rfl, rfl, rfl, fun h => h ▸ rfl⟩

/-! ## non-vacuity: concrete non-trivial histories satisfy the hypothesis -/

/-- a history with signatures before and after a restart, a refused double vote, a remove + re-add, a
    reactivation, a storage fault and clock advances: it is `SignedOk`, three attestations and two blocks are
    released, and they are safe -/
def sampleHistory : List Op :=
  [.addShare, .signAtt 9 10, .signBlock 320, .tick 40, .signAtt 10 11, .signAtt 9 11, .signBlock 350, .restart,
   .signAtt 10 11, .tick 64, .signAtt 11 13, .removeShare, .signAtt 12 13, .addShare, .signAtt 12 13,
   .signBlock 424, .tick 32, .bump, .tick 32, .signAtt 14 15, .signBlock 480, .removeFail 1, .signAtt 14 16]

example :
    Along cfg32 (SignedOk cfg32) (init 320) sampleHistory ∧
    (run cfg32 (init 320) sampleHistory).atts = [(14, 15), (11, 13), (10, 11)] ∧
    (run cfg32 (init 320) sampleHistory).blocks = [480, 350] ∧
    (run cfg32 (init 320) sampleHistory).d = ⟨none, some 480, true⟩ := by decide +kernel

/-- a split reactivation with the clock advancing and a sign request arriving while it is in flight: the request
    waits, the bump writes the (by then stale) minimal record (11,12) / 384, the request (12,13) is signed when the
    bump finishes, `resume` reports it; later requests are checked against (12,13) -/
def sampleSplit : List Op :=
  [.addShare, .tick 64, .bumpBegin, .bumpRead, .tick 32, .signAtt 12 13, .tick 1, .bumpWrite, .bumpRead, .bumpWrite,
   .resume, .signAtt 11 13, .signBlock 417, .signBlock 417]

example : Along cfg32 (SignedOk cfg32) (init 320) sampleSplit ∧
    (step cfg32 (run cfg32 (init 320) (sampleSplit.take 5)) (.signAtt 12 13)).2 = .blocked ∧
    (step cfg32 (run cfg32 (init 320) (sampleSplit.take 10)) .resume).2 = .signed ∧
    (run cfg32 (init 320) sampleSplit).atts = [(12, 13)] ∧
    (run cfg32 (init 320) sampleSplit).blocks = [417] ∧
    (run cfg32 (init 320) sampleSplit).d = ⟨some (12, 13), some 417, true⟩ := by decide +kernel

end Ssv.Slashing
