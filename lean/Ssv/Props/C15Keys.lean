/-
C15, key layer: the decided-instance store keeps, per store prefix (duty role) and identifier, one "highest" entry and one
entry per height. The heights model treats that as a map; these theorems show that the byte keys realising the map never
collide and that CleanAllInstances removes exactly one identifier's entries — for ALL prefixes, identifiers and heights.
-/
import Ssv.Model.StoreKey
import Ssv.Props.C18

namespace Ssv.StoreKey
open Ssv.Topics (le64 unLe64 unLe64_le64)

/-- tie: the regenerated tag constants have the shape the proofs use (equal total width 16 = 8 + 8; they differ in the first byte) -/
theorem C15_tie_store_tags :
    Gen.heights_highestInstanceKey = "highest_instance" ∧ Gen.heights_instanceKey = "instance" ∧
    highestTag.length = 16 ∧ instanceTag.length = 8 ∧ highestTag.head? ≠ instanceTag.head? := by decide +kernel

theorem keyPart_length (k : Kind) : (keyPart k).length = 16 := by
  obtain ⟨_, _, hhighest, hinstance, _⟩ := C15_tie_store_tags
  cases k with
  | highest => exact hhighest
  | inst h => rw [keyPart, List.length_append, hinstance, Topics.le64_length]

/-- the "highest" tag does not start with the per-height tag: the two differ in their first byte -/
private theorem highestTag_ne (t : List Nat) : highestTag ≠ instanceTag ++ t := by
  obtain ⟨_, _, _, hlen, hhead⟩ := C15_tie_store_tags
  intro h
  have e : (instanceTag ++ t).head? = instanceTag.head? := by
    cases hh : instanceTag with
    | nil =>
      rw [hh] at hlen
      exact absurd hlen (by decide)
    | cons x xs => rfl
  exact hhead ((congrArg List.head? h).trans e)

theorem keyPart_inj (k1 k2 : Kind)
    (h1 : ∀ h, k1 = .inst h → h < 2 ^ 64) (h2 : ∀ h, k2 = .inst h → h < 2 ^ 64)
    (h : keyPart k1 = keyPart k2) : k1 = k2 := by
  cases k1 with
  | highest =>
    cases k2 with
    | highest => rfl
    | inst b => exact absurd h (highestTag_ne _)
  | inst a =>
    cases k2 with
    | highest => exact absurd h.symm (highestTag_ne _)
    | inst b =>
      have := Topics.le64_inj (List.append_cancel_left h)
      rw [Nat.mod_mod, Nat.mod_mod, Nat.mod_eq_of_lt (h1 a rfl), Nat.mod_eq_of_lt (h2 b rfl)] at this
      rw [this]

/-- No two entries share a database key. For ALL store prefixes (duty roles — also when one role name is a prefix of
    another, as SYNC_COMMITTEE / SYNC_COMMITTEE_CONTRIBUTION), ALL identifiers of one common length (message ids are 56 bytes)
    and ALL 64-bit heights: equal Badger keys ⇒ same store, same identifier, same entry. -/
theorem C15_store_keys_injective (p1 p2 id1 id2 : List Nat) (k1 k2 : Kind)
    (hid : id1.length = id2.length)
    (h1 : ∀ h, k1 = .inst h → h < 2 ^ 64) (h2 : ∀ h, k2 = .inst h → h < 2 ^ 64)
    (h : dbKey p1 id1 k1 = dbKey p2 id2 k2) : p1 = p2 ∧ id1 = id2 ∧ k1 = k2 := by
  -- split off the 16-byte key part from the right, then the identifier
  obtain ⟨h', e3⟩ := List.append_inj' h (by rw [keyPart_length, keyPart_length])
  obtain ⟨e1, e2⟩ := List.append_inj' h' hid
  exact ⟨e1, e2, keyPart_inj k1 k2 h1 h2 e3⟩

/-- CleanAllInstances(id) hits exactly id's per-height entries of its own store: the prefix it deletes under is a prefix
    of an entry's key iff the entry is a per-height entry of that very identifier (never a "highest" entry, never another id) -/
theorem C15_clean_prefix_exact (pfx id id' : List Nat) (k : Kind) (hid : id'.length = id.length) :
    (cleanPrefix pfx id).isPrefixOf (dbKey pfx id' k) = true ↔ id' = id ∧ ∃ h, k = .inst h := by
  rw [List.isPrefixOf_iff_prefix]
  unfold cleanPrefix dbKey
  rw [List.append_assoc, List.append_assoc, List.prefix_append_right_inj]
  constructor
  · rintro ⟨t, ht⟩
    rw [List.append_assoc] at ht
    obtain ⟨e1, h'⟩ := List.append_inj ht hid.symm
    refine ⟨e1.symm, ?_⟩
    cases k with
    | inst h => exact ⟨h, rfl⟩
    | highest => exact absurd h'.symm (highestTag_ne t)
  · rintro ⟨rfl, h, rfl⟩
    exact ⟨le64 (h % 2 ^ 64), by simp [keyPart]⟩

/-- hence, on any set of keys of one store, CleanAllInstances(id) keeps every entry of every OTHER identifier and removes
    every entry of `id` -/
theorem C15_clean_all_exact (pfx id id' : List Nat) (k : Kind) (keys : List (List Nat)) (hid : id'.length = id.length)
    (hk : ∀ h, k = .inst h → h < 2 ^ 64) (hmem : dbKey pfx id' k ∈ keys) :
    dbKey pfx id' k ∈ cleanAll pfx id keys ↔ id' ≠ id := by
  -- the key survives the prefix deletion unless it is a per-height entry of `id`, and the single deletion unless it is
  -- the "highest" entry of `id`; an entry of `id` is one or the other
  simp only [cleanAll, List.mem_filter, hmem, true_and, Bool.not_eq_true', decide_eq_true_eq, ← Bool.not_eq_true,
    C15_clean_prefix_exact pfx id id' k hid]
  constructor
  · rintro ⟨h1, h2⟩ rfl
    cases k with
    | highest => exact h2 rfl
    | inst h => exact h1 ⟨rfl, h, rfl⟩
  · refine fun hne => ⟨fun h => hne h.1, fun e => ?_⟩
    obtain ⟨-, hsame, -⟩ := C15_store_keys_injective pfx pfx id' id k .highest hid hk (fun _ hh => nomatch hh) e
    exact hne hsame

/-- non-vacuity / concrete evaluation: the keys of height 1 and 256 of a 3-byte identifier under prefix "A" -/
example : dbKey [65] [1,2,3] (.inst 258) =
    [65, 1,2,3, 105,110,115,116,97,110,99,101, 2,1,0,0,0,0,0,0] ∧
    (cleanPrefix [65] [1,2,3]).isPrefixOf (dbKey [65] [1,2,3] (.inst 258)) = true ∧
    (cleanPrefix [65] [1,2,3]).isPrefixOf (dbKey [65] [1,2,3] .highest) = false := by decide +kernel

/-- across stores: with store prefixes of EQUAL length (or any two prefixes neither of which the other extends by the start of an
    identifier) CleanAllInstances of one store never reaches another store's entries -/
theorem C15_clean_prefix_other_store (p1 p2 id id' : List Nat) (k : Kind) (hp : p1.length = p2.length)
    (h : (cleanPrefix p1 id).isPrefixOf (dbKey p2 id' k) = true) : p1 = p2 := by
  rw [List.isPrefixOf_iff_prefix] at h
  obtain ⟨t, ht⟩ := h
  unfold cleanPrefix dbKey at ht
  simp only [List.append_assoc] at ht
  exact (List.append_inj ht hp).1

/-- the production role names are NOT of equal length and one extends another: the only cross-store hit needs an identifier that
    starts with the rest of the longer role name (witness; message identifiers start with the 4-byte domain type, none of which
    spells "_CON") -/
example : (cleanPrefix (bytesOf "SYNC_COMMITTEE") (bytesOf "_CONTRIBUTIONx")).isPrefixOf
    (dbKey (bytesOf "SYNC_COMMITTEE_CONTRIBUTION") (bytesOf "xinstance12345") (.inst 7)) = true := by decide +kernel

end Ssv.StoreKey
