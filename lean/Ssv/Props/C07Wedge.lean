/-
C07 clause (c), system level — the mixed-locks wedge is a REACHABLE state of the executable multi-node system (`SystemB`,
n = 4, f = 1, height 0) from which NO schedule whatsoever leads a correct operator to decide, as long as the fourth
(Byzantine) member does not come to the rescue: a genuine refutation of "from every reachable state there is a deciding
continuation among the correct operators".

* `wSys` (Ssv/Proofs/QbftWedge.lean) is reached by the schedule of `c07Wedge` / DESIGN §8-10 replayed in `SystemB`: operator 1
  locked on (round 1, value 5), operators 2 and 3 locked on (round 2, value 6), all three undecided in round 3 without an
  accepted proposal (`C07_wedge_reached`). No message between correct operators was lost — only delayed.
* Continuations (`QReach`): ANY sequence of enabled `SystemB` steps — timeouts of any round, `StartNewInstance`, delivery of ANY
  authentic message (any order, duplication, loss, fabricated justifications; the fourth member may sign proposals and
  prepares and its old messages may be replayed) — restricted only by `quiet`: the fourth member signs no commit and no
  round-change for a round ≥ 3. A silent (crashed) fourth member is a special case.
* `C07_wedge_forever`: in every such continuation every correct operator is still undecided, has no accepted proposal, keeps its
  lock, and nothing was reported; `C07_wedge_no_decision`, `C07_continuation_refuted`.
* The restriction is necessary and sharp in one direction: with its commit signature the fourth member completes the commit
  quorum (2, 3, 4) for (round 2, value 6) and the decided message makes every correct operator decide 6
  (`C07_wedge_only_byzantine_unlocks`) — progress is in the hands of the faulty member, which is exactly what the property
  forbids. (A round-change of the fourth member for a round ≥ 3 prepared on (2, 6) would do as well: then operators 2, 3, 4
  justify a proposal of 6.)
Mechanism: every round-change quorum for a round ≥ 3 must contain operators 1 and 2, whose round-changes are prepared for
different values, and `isProposalJustification` checks EVERY prepared round-change against the proposed value
(`C07_mixed_locks_never_justify`); no commit quorum exists because operators 1 and 2 committed in different rounds.
-/
import Ssv.Proofs.QbftWedge2

namespace Ssv.Qbft.B.Wedge
open Ssv.Qbft Ssv.Qbft.B

/-- the wedge is a reachable state of the executable system: all three correct operators undecided in round 3, no accepted
    proposal, operator 1 locked on (1, 5), operators 2 and 3 locked on (2, 6) -/
theorem C07_wedge_reached :
    Reachable wSys ∧ wP.Valid ∧
    [(0 : Op wP), 1, 2].map (fun i => (instAt 0 (wSys.ctrl i)).map (fun s =>
      (s.round, s.decided, s.accepted.isNone, s.lastPreparedRound, s.lastPreparedValue))) =
    [some (3, false, true, 1, 5), some (3, false, true, 2, 6), some (3, false, true, 2, 6)] := by
  obtain ⟨σ, e, hf⟩ := w_facts
  exact ⟨w_reachable, wP_valid, by rw [e]; exact hf.summary⟩

/-- in EVERY quiet continuation of the wedge, every correct operator is undecided, has no accepted proposal, is in a round ≥ 3
    and still holds its lock; and no decision was ever reported -/
theorem C07_wedge_forever {σ : Sys wP} (h : QReach wSys σ) :
    (∀ i, wP.honest i = true → ∃ s, instAt 0 (σ.ctrl i) = some s ∧ s.decided = false ∧ s.accepted = none ∧ 3 ≤ s.round ∧
      s.lastPreparedRound = (lockOf i).1 ∧ s.lastPreparedValue = (lockOf i).2) ∧
    (∀ i v, ¬ reported σ i v) := by
  have hw := w_of_qreach w_wedge h
  constructor
  · intro i hi
    obtain ⟨s, hs, hn⟩ := hw.node i hi
    exact ⟨s, hs, hn.undecided, hn.acc, hn.round, hn.lpr, hn.lpv⟩
  · rintro i v ⟨r, hm⟩
    exact hw.noD _ hm i r v rfl

/-- no correct operator decides in any quiet continuation of the wedge -/
theorem C07_wedge_no_decision {σ : Sys wP} (h : QReach wSys σ) (i : Op wP) (hi : wP.honest i = true) (v : Nat) :
    ¬ decidedState σ i v ∧ ¬ reported σ i v := by
  obtain ⟨h1, h2⟩ := C07_wedge_forever h
  refine ⟨?_, h2 i v⟩
  rintro ⟨s, hs, hd, _⟩
  obtain ⟨s', hs', hund, _⟩ := h1 i hi
  cases (show instAt 0 (σ.ctrl i) = some s from hs).symm.trans hs'
  rw [hund] at hd
  cases hd

/-- every continuation stays reachable in the full system (the continuations are runs of the unrestricted `SystemB`) -/
theorem C07_wedge_continuations_reachable {σ : Sys wP} (h : QReach wSys σ) : Reachable σ :=
  reachable_of_qreach w_reachable h

/-- REFUTATION of "from every reachable state some continuation among the correct operators (fourth member silent or merely
    quiet) makes a correct operator decide" -/
theorem C07_continuation_refuted :
    ¬ ∀ σ0 : Sys wP, Reachable σ0 → ∃ σ, QReach σ0 σ ∧ ∃ i v, wP.honest i = true ∧ decidedState σ i v := by
  intro hall
  obtain ⟨σ, hq, i, v, hi, hd⟩ := hall wSys w_reachable
  exact (C07_wedge_no_decision hq i hi v).1 hd

/-- the only way out needs the Byzantine member: the decided message (round 2, value 6) with signers 2, 3, 4 is authentic as
    soon as operator 4 signs a commit, is not `quiet`, and makes operator 1 decide 6 -/
theorem C07_wedge_only_byzantine_unlocks :
    enabled wSys (.deliver 0 unwedgeCert) = true ∧ quiet unwedgeCert = false ∧
    (instAt 0 ((step wSys (.deliver 0 unwedgeCert)).ctrl 0)).map (fun s => (s.decided, s.decidedValue)) = some (true, 6) := by
  obtain ⟨σ, e, hf⟩ := w_facts
  rw [e]; exact ⟨hf.certEnabled, hf.certNotQuiet, hf.certDecides⟩

/-- non-vacuity of the continuation relation: e.g. the round-3 timer of operator 1 fires (it moves to round 4, still wedged) -/
example : ∃ σ, QReach wSys σ ∧ σ ≠ wSys ∧ ∀ i, wP.honest i = true → ∃ s, instAt 0 (σ.ctrl i) = some s ∧ s.decided = false := by
  have hq : QReach wSys (step wSys (.timeout 0 3)) := .step _ .refl rfl rfl
  refine ⟨_, hq, fun he => w_timeout_log (by rw [he]), fun i hi => ?_⟩
  obtain ⟨s, hs, hund, _⟩ := (C07_wedge_forever hq).1 i hi
  exact ⟨s, hs, hund⟩

end Ssv.Qbft.B.Wedge
