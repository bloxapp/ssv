/-
C10 — Messages produced by correct operators are never rejected by correct peers.

PARTIAL (DESIGN §7.10, §9): carried WITHOUT the full QBFT node model. What a correct operator emits is captured by the
predicates `HonestConsensus` / `HonestPartial` (own id in the committee, a single signer or a strictly increasing
quorum-sized aggregate, leader-only proposals, root = hash(full data), valid enums, round ≥ 1, justifications satisfying
the very predicate the validator calls, well-formed signatures, payload within the size limits). PROVED here, for ALL such
messages, ALL peer clocks and ALL peer states that are fresh or consistent (`PeerConsistent`): the verdict is accept or
ignore — never reject (the class that penalises the sender), never a panic; and with a fresh peer that knows the
validator, inside the slot / round window: accept. Separately the arithmetic theorem relating the round timer's deadlines
(regenerated QuickTimeoutThreshold / QuickTimeout / SlowTimeout) to the validator's round window.
That the node's emission code establishes `HonestConsensus` is proved in Props/C10Emission.lean under the hypotheses
listed there; the harness checks it empirically on every message emitted by real multi-operator runs. The timing
assumption ("sent at or after the timer of the previous round fired, instance started at or after the slot start") is a
hypothesis.
Helper lemmas: Ssv/Proofs/ValidationHonest.lean, Ssv/Proofs/ValidationWindow.lean.
-/
import Ssv.Proofs.ValidationHonest

namespace Ssv.Validation
open Ssv

/-! ## ties to the regenerated facts -/

/-- the validator's round estimate and the round timer use the same three constants; the timer adds round·quick up to
    the threshold and (round − threshold)·slow beyond (literals / operators of `RoundTimeout`) -/
theorem C10_tie_timer_constants :
    Gen.val_QuickTimeoutThreshold = 8 ∧ Gen.val_QuickTimeout = 2000000000 ∧ Gen.val_SlowTimeout = 120000000000 ∧
    Gen.val_FirstRound = 1 ∧ Gen.val_allowedRoundsInFuture = 1 ∧
    Gen.lits_val_currentEstimatedRound = ["+", "/", "<=", "-", "*", "+", "+", "/"] ∧
    Gen.lits_val_RoundTimeout = ["/", "3", "*", "/", "3", "2", "<=", "<=", "*", "*", "*", "-", "+", "+"] ∧
    Gen.calls_val_UponRoundTimeout = ["bumpToRound", "TimeoutForRound", "CreateRoundChange", "Broadcast"] :=
  ⟨rfl, rfl, rfl, rfl, rfl, rfl, rfl, rfl⟩

/-- the validator evaluates the instance's own justification predicate; decided aggregates are sorted by the node
    (`sort.Slice` in `aggregateCommitMsgs`); the per-round limits are 1 with N·(f+1) decided messages -/
theorem C10_tie_shared_predicates :
    Gen.calls_val_validateJustifications = ["GetPrepareJustifications", "GetRoundChangeJustifications", "IsProposalJustification"] ∧
    Gen.calls_val_aggregateCommitMsgs = ["DeepCopy", "Aggregate", "Slice"] ∧
    Gen.lits_val_maxMessageCounts = ["1", "1", "1", "1", "1", "1"] ∧
    Gen.lits_val_maxDecidedCount = ["/", "-", "1", "3", "*", "+", "1"] ∧
    Gen.lits_val_maxRound = ["12", "6", "0", "\"unknown role\""] :=
  ⟨rfl, rfl, rfl, rfl, rfl⟩

/-! ## never rejected -/

/-- consensus messages: a message with the emission guarantees, validated by a correct peer whose entries for the
    message's signers are absent or consistent (no different proposal data for this very round, duty count not
    exhausted) and whose duty store knows a proposer duty, is NEVER classified as reject — at any receive time, for any
    clock, whether or not the peer knows the validator — and never crashes the peer -/
theorem C10_emitted_not_rejected (x : Ctx) (st : State) (i : Input) (sh : Share) (m : QMsg)
    (hb : i.body = .consensus m) (hs : i.share = some sh ∨ i.share = none)
    (hh : HonestConsensus i sh m) (hp : PeerConsistent x st i sh m) :
    (∀ t, (validate x st i).2 ≠ .reject t) ∧ (∀ s, (validate x st i).2 ≠ .panic s) := by
  have hpre := rejectFree_preChecks i hh.size hh.role hh.key
  refine not_rejected_of_rejectFree x st i sh hs hpre fun hknown => ?_
  obtain ⟨mx, hmx, _⟩ := maxRound_of_validRole i.role hh.role
  rw [check_consensus_eq x st i sh m hknown hb]
  refine rejectFree_cons hpre (rejectFree_cons (rejectFree_of_ok ((rejectIf_ok_iff _ _).mpr ((blt_false_iff _ _).mpr hh.size))) ?_)
  rw [consensusChecks_honest x st i sh m hh mx hmx]
  have hslot : RejectFree (validateSlotTime x.cfg m.height i.role i.now) :=
    rejectFree_cons (rejectFree_rejectIf rfl) (rejectFree_cons (rejectFree_rejectIf rfl) rejectFree_ok)
  exact rejectFree_cons (rejectFree_rejectIf rfl) (rejectFree_cons hslot (rejectFree_cons (rejectFree_rejectIf rfl)
    (rejectFree_cons (rejectFree_beaconDuty x st i sh m hp) (rejectFree_cons (rejectFree_behavior x st i sh m hh hp) rejectFree_ok))))

/-- a fresh peer (no entry for any signer) with the proposer duty known is consistent -/
theorem C10_fresh_peer_is_consistent (x : Ctx) (st : State) (i : Input) (sh : Share) (m : QMsg)
    (hfresh : ∀ s ∈ m.signers, st (i.vid, i.role, s) = none)
    (hduty : i.role = Gen.val_BNRoleProposer → x.duties.proposer.contains ((epochAtSlot x.cfg m.height).toNat, m.height, sh.index) = true) :
    PeerConsistent x st i sh m :=
  ⟨hduty, fun s hs ss hss => by rw [hfresh s hs] at hss; cases hss⟩

/-- partial-signature messages of the runners: a message with the emission guarantees, validated by a correct peer whose
    entry for the signer is absent or has not exhausted its duty count, is never classified as reject and never crashes
    the peer -/
theorem C10_emitted_partial_not_rejected (x : Ctx) (st : State) (i : Input) (sh : Share) (m : PMsg)
    (hb : i.body = .partialSig m) (hs : i.share = some sh ∨ i.share = none)
    (hh : HonestPartial i sh m) (hp : PeerConsistentPartial x st i m) :
    (∀ t, (validate x st i).2 ≠ .reject t) ∧ (∀ s, (validate x st i).2 ≠ .panic s) := by
  have hpre := rejectFree_preChecks i (Nat.le_trans hh.size (by decide)) hh.role hh.key
  refine not_rejected_of_rejectFree x st i sh hs hpre fun hknown => ?_
  rw [check_partial_eq x st i sh m hknown hb]
  unfold partialChecks
  rw [hh.ptype, hh.typeRole, hh.messages, (signatureFormat_ok_iff _ _).mpr hh.sig, (envSigCheck_ok_iff _).mpr hh.env]
  exact rejectFree_cons hpre (rejectFree_cons (rejectFree_of_ok ((rejectIf_ok_iff _ _).mpr ((blt_false_iff _ _).mpr hh.size)))
    (rejectFree_cons rejectFree_ok (rejectFree_cons rejectFree_ok (rejectFree_cons (rejectFree_rejectIf rfl)
      (rejectFree_cons rejectFree_ok (rejectFree_cons (rejectFree_behaviorPartial hh.ptype hp) (rejectFree_cons rejectFree_ok
        (rejectFree_cons rejectFree_ok rejectFree_ok))))))))

/-- fault-free, in-order, timely: a fresh peer that knows the (active) validator and its duties accepts the message
    when it arrives inside the slot and round windows -/
theorem C10_emitted_accepted_fresh_timely (x : Ctx) (st : State) (i : Input) (sh : Share) (m : QMsg)
    (hb : i.body = .consensus m) (hh : HonestConsensus i sh m) (ht : TimelyKnown x i sh m)
    (hfresh : ∀ s ∈ m.signers, st (i.vid, i.role, s) = none) : (validate x st i).2 = .accept := by
  obtain ⟨mx, hmx, hle⟩ := ht.roundMax
  have hbeh : firstFail (m.signers.map fun s => signerBehaviorConsensus x.cfg sh i.role m (st (i.vid, i.role, s))) = .ok () := by
    apply (firstFail_ok_iff _).mpr
    intro c hc
    obtain ⟨s, hs, rfl⟩ := List.mem_map.mp hc
    rw [hfresh s hs]
    exact hh.just
  rw [validate_accept_iff, check_consensus_eq x st i sh m ht.share hb]
  refine firstFail_ok_cons (ht.preChecks_ok hh)
    (firstFail_ok_cons ((rejectIf_ok_iff _ _).mpr ((blt_false_iff _ _).mpr hh.size)) ?_)
  rw [consensusChecks_honest x st i sh m hh mx hmx]
  exact firstFail_ok_cons (rejectIf_decide_ok.mpr (Nat.not_lt.mpr hle)) (firstFail_ok_cons ht.slotTime
    (firstFail_ok_cons ht.roundWin (firstFail_ok_cons ht.beaconDuty_ok (firstFail_ok_cons hbeh rfl))))

/-! ## the hypothesis on the peer's entries is necessary

A correct operator whose round-change message carried prepared data V1 and whose proposal for the SAME round carries a
different value V2 (possible only when prepared values diverged, which needs message loss beyond the timing assumption)
is rejected with `duplicated proposal with different data`: the peer remembers the full data of the round change as the
signer's proposal data. -/

/-- slot 32001: the round-2 leader of a 4-committee is operator ((32001 + 1) mod 4) + 1 = 3 -/
def rc2 : QMsg :=
  { mtype := 3, height := 32001, round := 2, root := 11, fullData := some 11, signers := [3], sigLen := 96, sigZero := false,
    pjMalformed := false, pjLen := 0, rcjMalformed := false, rcjLen := 3, justOk := false }
def prop2 : QMsg :=
  { mtype := 0, height := 32001, round := 2, root := 22, fullData := some 22, signers := [3], sigLen := 96, sigZero := false,
    pjMalformed := false, pjLen := 3, rcjMalformed := false, rcjLen := 3, justOk := true }
def t2 : Int := 1616508000 + 12 * 32001 + 3

theorem C10_inconsistent_entry_is_rejected :
    (validate ctx0 (validate ctx0 State.empty (inputAt rc2 t2)).1 (inputAt prop2 (t2 + 1))).2
      = .reject .DuplicatedProposalWithDifferentData := by decide +kernel

/-- … whereas the same proposal is accepted by a fresh peer -/
example : (validate ctx0 State.empty (inputAt prop2 (t2 + 1))).2 = .accept := by decide +kernel

/-- … and has the emission guarantees (non-vacuity of the main theorems' hypotheses) -/
example : HonestConsensus (inputAt prop2 (t2 + 1)) share4 prop2 :=
  { size := by decide, role := by decide, consensusRole := by decide, key := rfl, sig := ⟨rfl, rfl⟩, mtype := by decide,
    round := by decide,
    signers := Or.inl ⟨3, rfl, by decide, by decide, fun _ => by decide⟩,
    root := by intro h hh; cases hh; rfl, just := by decide, env := Or.inl rfl }

/-! ## the per-epoch duty counter restarts at every epoch boundary

`PeerConsistent` asks the peer's entry to pass `validateDutyCount`. For a signer that performs its regular duty at a steady
rate this is an invariant of the peer's own updates: the first accepted message of a later epoch sets the counter back to 1
(if it only ever grew, the fourth epoch's duty would be rejected `too many duties per epoch`). -/

theorem C10_new_epoch_restarts_duty_count (c : NetCfg) (m : QMsg) (ss ss' : SignerState)
    (h : updSignerConsensus c m (some ss) = .ok ss') (hslot : m.height > ss.slot)
    (he : epochAtSlot c m.height > epochAtSlot c ss.slot) : ss'.epochDuties = 1 := by
  -- `advance` moves to the new slot with `resetSlot … true`, which sets the counter to 1; neither `noteData` nor the
  -- message counters touch it
  rw [updSignerConsensus_eq] at h
  split at h
  · cases h
    simp only [Option.getD_some, SignerState.advance, hslot, if_true, he, decide_true, SignerState.noteData]
    split <;> rfl
  · cases h

theorem C10_new_epoch_restarts_duty_count_partial (c : NetCfg) (m : PMsg) (ss ss' : SignerState)
    (h : updPartial c m (some ss) = .ok ss') (hslot : m.slot > ss.slot)
    (he : epochAtSlot c m.slot > epochAtSlot c ss.slot) : ss'.epochDuties = 1 := by
  -- as for consensus messages: `resetSlot … true`, then only the message counters change
  unfold updPartial at h
  simp only [Option.getD_some, hslot, if_true, he, decide_true] at h
  split at h
  · cases h
    rfl
  · cases h

/-- … and an entry whose counter is 1 passes the duty-count rule for whatever comes next -/
theorem C10_restarted_entry_is_consistent (ss : SignerState) (role : Nat) (b : Bool) (h : ss.epochDuties = 1) :
    validateDutyCount ss role b = .ok () := by
  unfold validateDutyCount
  split
  · apply (rejectIf_ok_iff _ _).mpr
    rw [h]
    cases b <;> rfl
  · rfl

/-- the verdicts of a history of validation calls on one peer -/
def verdicts (x : Ctx) : State → List Input → List Outcome
  | _, [] => []
  | st, i :: rest => (validate x st i).2 :: verdicts x (validate x st i).1 rest

/-- the commit of operator 2 for its attester duty at `slot`, received five seconds into the slot -/
def dutyCommitAt (slot : Nat) : Input :=
  inputAt { mtype := 2, height := slot, round := 1, root := 1, fullData := none, signers := [2], sigLen := 96, sigZero := false,
            pjMalformed := false, pjLen := 0, rcjMalformed := false, rcjLen := 0, justOk := false } (1616508000 + 12 * slot + 5)

/-- … in epoch 1000 + e, at slot offset 7e mod 32 (the duty slot moves around inside the epoch) -/
def dutyCommit (e : Nat) : Input := dutyCommitAt (32000 + 32 * e + 7 * e % 32)

/-- a steady schedule: one duty per epoch over eight consecutive epochs is accepted by the same peer … -/
theorem C10_one_duty_per_epoch_accepted :
    verdicts ctx0 State.empty ((List.range 8).map dutyCommit) = List.replicate 8 .accept := by decide +kernel

/-- … and so are two duties in every epoch (the most the rule allows) over five epochs; a third one is what is rejected -/
theorem C10_two_duties_per_epoch_accepted :
    verdicts ctx0 State.empty (((List.range 5).map fun e => [dutyCommitAt (32000 + 32 * e + 3), dutyCommitAt (32000 + 32 * e + 9)]).flatten)
      = List.replicate 10 .accept ∧
    verdicts ctx0 State.empty [dutyCommitAt 32003, dutyCommitAt 32009, dutyCommitAt 32011]
      = [.accept, .accept, .reject .TooManyDutiesPerEpoch] := by decide +kernel

/-! ## the round timer fires inside the validator's round window -/

/-- the real timer's deadline for round r − 1 is (base delay of the role ≥ 0) + `timerElapsed (r − 1)`:
    (r − 1)·QuickTimeout up to the threshold, then threshold·QuickTimeout + (r − 1 − threshold)·SlowTimeout. A message of
    round r ≥ 2 sent at or after that deadline — `since` nanoseconds after the slot started — is estimated at round ≥ r by
    `currentEstimatedRound`, so it lies inside the validator's window [1, estimate + allowedRoundsInFuture] with one
    round to spare. -/
theorem C10_round_timer_inside_window (r : Nat) (hr : 2 ≤ r) (since base : Int) (hb : 0 ≤ base)
    (hsent : base + timerElapsed (r - 1) ≤ since) (hs : since < 9223372036854775807) :
    (r : Int) ≤ currentEstimatedRound since ∧ (r : Int) < currentEstimatedRound since + Gen.val_allowedRoundsInFuture := by
  have h0 := timerElapsed_ge (r - 1)
  rw [currentEstimatedRound_spec since (by omega) hs]
  have := timer_deadline_inside_window r hr since base hb hsent
  simp only [g_future]
  omega

/-- non-vacuity: round 2 sent exactly when the round-1 timer of an attester (base 4 s) fires, 6 s into the slot -/
example : (2 : Int) ≤ currentEstimatedRound 6000000000 ∧ (4000000000 : Int) + timerElapsed (2 - 1) ≤ 6000000000 := by decide

/-- the same at the level of the validator's guard: on a 12-s-slot network with a realistic clock, a round-r message
    (1 ≤ r) for a started slot, received at or after the previous round's timer deadline, passes `roundWindow` -/
theorem C10_timely_message_passes_round_window (c : NetCfg) (hc : Cfg12 c) (m : QMsg) (now : GoTime) (hclock : RealisticClock c now)
    (hslot : (m.height : Int) ≤ curSlot c now) (hr1 : 1 ≤ m.round) (base : Int) (hb : 0 ≤ base)
    (hsent : 2 ≤ m.round → base + timerElapsed (m.round - 1) ≤ sinceSlotStart c m.height now) :
    roundWindow c m now = .ok () := by
  refine (roundWindow_ok_iff hc m hclock hslot).mpr ⟨hr1, ?_⟩
  unfold highestRoundSpec
  by_cases h2 : 2 ≤ m.round
  · -- the deadline of round r − 1 ≥ 1 is positive, so the slot has started and the estimate is at least r
    have hs := hsent h2
    have hest := timer_deadline_inside_window m.round h2 _ base hb hs
    have hpos := timerElapsed_ge (m.round - 1)
    rw [if_pos (by omega)]
    omega
  · split
    · have := estRound_range _ (Int.le_of_lt ‹_›)
      omega
    · omega

/-- the deadlines themselves, for reference: 2 s, 4 s, …, 16 s after the base delay for rounds 1 … 8, then +2 min each -/
example : (List.range 12).map (fun r => timerElapsed (r + 1)) =
    [2000000000, 4000000000, 6000000000, 8000000000, 10000000000, 12000000000, 14000000000, 16000000000,
     136000000000, 256000000000, 376000000000, 496000000000] := by decide +kernel

end Ssv.Validation
