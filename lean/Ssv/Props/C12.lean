/-
C12 — Block event processing is atomic and exactly-once across crashes.
Property theorems only (model: Ssv/Model/Registry.lean + RegistryCrash.lean; helper lemmas: Ssv/Proofs/Registry*.lean).

A block is executed as the list of micro-steps the real handler performs (writes through the block transaction,
direct database writes of the key manager and of the decided-history store, memory updates, marker write, commit).
A fault at write index k: the first k writes of the block happen, the next one does not — the process dies in front
of it (`crash`) or it returns an error (`error`; cli/operator/node.go ends the process on every error of the event
stream). A new process starts on what survived and asks for the stream from marker + 1.
-/
import Ssv.Proofs.RegistryFaultSeq

namespace Ssv.Registry

/-! ## ties to the regenerated facts -/

/-- * processBlockEvents: ONE transaction per block (`txn := eh.nodeStorage.Begin()`, `defer txn.Discard()`), marker
      read, events, marker SAVED THROUGH THE TRANSACTION (`SaveLastProcessedBlock` = `db.Using(rw).Set`), then Commit;
      `has_processBlockEvents`: the two statements that open the transaction and the two of the inferior-block guard
      (`if lastProcessedBlock.Uint64() >= block.BlockNumber`, `return nil, ErrInferiorBlock`) are present;
    * setupEventHandling resumes at `lastProcessedBlock + 1` (call order; `has_resume`: the two `… + 1` statements
      are present);
    * handleShareCreation calls the key manager BEFORE `Shares().Save`; handleValidatorRemoved cleans the decided
      history, deletes the share, then calls the key manager; reactivation bumps slashing protection after the save;
    * ekm AddShare / RemoveShare look the account up first (add only if absent, remove only if present);
    * the wallet stores the ACCOUNT RECORD and then the WALLET INDEX in two separate writes (nd and hd wallet);
      removal deletes the record, then stores the index; CleanAllInstances = DeletePrefix + delete. -/
theorem C12_tie_callsites :
    Gen.calls_processBlockEvents =
      ["Begin", "Discard", "GetLastProcessedBlock", "processEvent", "SaveLastProcessedBlock", "Commit"] ∧
    Gen.calls_SaveLastProcessedBlock = ["Set", "Using"] ∧
    Gen.calls_setupEventHandling = ["GetLastProcessedBlock", "SetUint64", "SyncHistory", "SetUint64", "SyncOngoing"] ∧
    Gen.has_resume = [true, true] ∧
    Gen.has_processBlockEvents = [true, true, true, true] ∧
    Gen.calls_handleShareCreation = ["validatorAddedEventToShare", "BelongsToOperator", "AddShare", "Save"] ∧
    Gen.calls_handleValidatorRemoved = ["Get", "CleanAllInstances", "Each", "Delete", "BelongsToOperator", "RemoveShare"] ∧
    Gen.calls_handleClusterReactivated = ["processClusterEvent", "BumpSlashingProtection"] ∧
    Gen.calls_ekm_AddShare = ["AccountByPublicKey", "bumpSlashingProtection", "saveShare"] ∧
    Gen.calls_ekm_RemoveShare =
      ["AccountByPublicKey", "RemoveHighestAttestation", "RemoveHighestProposal", "DeleteAccountByPublicKey"] ∧
    Gen.calls_wallet_AddValidatorAccount = ["SaveAccount", "SaveWallet"] ∧
    Gen.calls_hdwallet_AddValidatorAccount = ["SaveAccount", "SaveWallet"] ∧
    Gen.calls_hdwallet_DeleteAccountByPublicKey = ["AccountByPublicKey", "DeleteAccount", "SaveWallet"] ∧
    Gen.calls_CleanAllInstances = ["DeletePrefix", "delete"] :=
  ⟨rfl, rfl, rfl, rfl, rfl, rfl, rfl, rfl, rfl, rfl, rfl, rfl, rfl, rfl⟩

/-! ## a block that is not newer than the last processed block is refused -/

/-- ErrInferiorBlock: nothing at all changes -/
theorem C12_inferior_block_refused (me : Nat) (n : Node) (b : Block) (h : b.number ≤ n.reg.db.marker.getD 0) :
    applyBlock me n b = (n, .refused, []) :=
  if_pos (decide_eq_true h)

/-- once a block has been processed, it and every older block are refused -/
theorem C12_processed_block_refused_again (me : Nat) (n : Node) (b b' : Block) (hok : (applyBlock me n b).2.1 = .ok)
    (hle : b'.number ≤ b.number) :
    applyBlock me (applyBlock me n b).1 b' = ((applyBlock me n b).1, .refused, []) := by
  apply C12_inferior_block_refused
  rw [applyBlock_ok_marker me n b hok]
  exact hle

/-- The stored marker never goes back, whatever block is delivered — with or without events (an EMPTY,
    progress-only block is a block like any other: refused unless its number is above the marker), whatever the
    events do, refused, panicking or processed. -/
theorem C12_marker_monotone (me : Nat) (n : Node) (b : Block) :
    n.reg.db.marker.getD 0 ≤ (applyBlock me n b).1.reg.db.marker.getD 0 ∧
    ((applyBlock me n b).2.1 = .ok → (applyBlock me n b).1.reg.db.marker = some b.number ∧ n.reg.db.marker.getD 0 < b.number) := by
  have hok : (applyBlock me n b).2.1 = .ok →
      (applyBlock me n b).1.reg.db.marker = some b.number ∧ n.reg.db.marker.getD 0 < b.number := fun h =>
    ⟨applyBlock_ok_marker me n b h, Nat.not_le.1 (of_decide_eq_false (applyBlock_ok_eq me n b h).1)⟩
  refine ⟨?_, hok⟩
  by_cases h : (applyBlock me n b).2.1 = .ok
  · rw [(hok h).1]; exact Nat.le_of_lt (hok h).2
  · rw [applyBlock_db_of_not_ok me n b h]; exact Nat.le_refl _

/-- over a whole stream the marker only grows -/
theorem C12_marker_monotone_run (me : Nat) (n : Node) (bs : List Block) :
    n.reg.db.marker.getD 0 ≤ (run me n bs).1.reg.db.marker.getD 0 := by
  induction bs generalizing n with
  | nil => exact Nat.le_refl _
  | cons b bs ih =>
    have h1 := (C12_marker_monotone me n b).1
    simp only [run]
    cases hs : (applyBlock me n b).2.1 with
    | ok => exact Nat.le_trans h1 (ih _)
    | refused => exact h1
    | panicked => exact h1

/-- empty blocks below / at / above the marker -/
example :
    let n := (run 1 init [⟨5, [.operatorAdded 1 1 1]⟩]).1
    (applyBlock 1 n ⟨3, []⟩).2.1 = .refused ∧ (applyBlock 1 n ⟨5, []⟩).2.1 = .refused ∧
    (applyBlock 1 n ⟨3, []⟩).1 = n ∧
    (applyBlock 1 n ⟨6, []⟩).2.1 = .ok ∧ (applyBlock 1 n ⟨6, []⟩).1.reg.db.marker = some 6 ∧
    (run 1 n [⟨3, []⟩, ⟨5, [.operatorAdded 1 1 1]⟩]).1 = n := by decide +kernel

example : (applyBlock 1 (run 1 init [⟨5, [.operatorAdded 1 1 1]⟩]).1 ⟨5, [.operatorAdded 2 1 2]⟩).2.1 = .refused ∧
    (applyBlock 1 init ⟨0, [.operatorAdded 2 1 2]⟩).2.1 = .refused := by decide +kernel

/-! ## the marker is atomic with the block's writes -/

/-- Whatever the fault position: after the restart the registry (database and memory: shares, operators, recipients
    with nonces, marker, own operator id) is exactly the one from before the block — nothing of the block is half
    applied; otherwise the block (marker included) was committed as a whole (`C12_crash_resume_eq_partial`). -/
theorem C12_marker_atomic (me : Nat) (n : Node) (b : Block) (kind : FaultKind) (k : Nat)
    (hk : kind ≠ .retry) (hB : Boundary n)
    (hown : ∀ o ∈ n.reg.db.ops, o.pk = me → o.id = n.reg.self)
    (hhas : n.reg.self ≠ 0 → ∃ o ∈ n.reg.db.ops, o.id = n.reg.self ∧ o.pk = me)
    (hf : (faultBlock me n b kind k).2 = .faulted ∨ (faultBlock me n b kind k).2 = .faultedBad) :
    (faultBlock me n b kind k).1.reg = n.reg :=
  faultBlock_registry me n b kind k hk hB ⟨hown, hhas⟩ hf

/-! ## idempotence of the effects outside the transaction -/

/-- key manager: re-running the handler steps of a block on a wallet that an interrupted run of the same steps left
    behind stores exactly the keys the uninterrupted run stores (add only if absent / remove only if present: the
    last call on a key decides) -/
theorem C12_rerun_absorbs_wallet {w w' : Wal} (l1 r : List Step) (hl : ∀ s ∈ l1 ++ r, s.handler = true)
    (h : Sane w) (h' : Sane w')
    (hag : ∀ k, (k ∈ keysOf w' ↔ k ∈ keysOf (walRun w l1)) ∨ some k ∈ r.map Step.kmKey) (k : Nat) :
    k ∈ keysOf (walRun w' (l1 ++ r)) ↔ k ∈ keysOf (walRun w (l1 ++ r)) :=
  walRun_absorb l1 r hl h h' hag k

/-- decided history: cleaning again what an interrupted run already cleaned changes nothing -/
theorem C12_rerun_absorbs_history (h : Hist) (l1 r : List Step) : histRun (histRun h l1) (l1 ++ r) = histRun h (l1 ++ r) :=
  histRun_absorb h l1 r

/-! ## crash / error anywhere in a block, restart, resume = uninterrupted run -/

/-- the full claim: for EVERY write index the restarted-and-resumed stream ends like the uninterrupted one —
    same completion, same registry, same decided history, every share key stored equally often -/
def C12_crash_resume_eq_full : Prop :=
  ∀ (me : Nat) (n : Node) (b : Block) (rest : List Block) (kind : FaultKind) (k : Nat),
    kind ≠ .retry → Boundary n → Sane n.wal →
    (∀ o ∈ n.reg.db.ops, o.pk = me → o.id = n.reg.self) →
    (n.reg.self ≠ 0 → ∃ o ∈ n.reg.db.ops, o.id = n.reg.self ∧ o.pk = me) →
    (regEvents me b.number (beginReg n.reg) b.events).2 = false →
    n.reg.db.marker.getD 0 < b.number → (∀ c ∈ rest, b.number < c.number) →
    (faultRun me n b rest kind k).2 = (run me n (b :: rest)).2 ∧
    (faultRun me n b rest kind k).1.reg = (run me n (b :: rest)).1.reg ∧
    (faultRun me n b rest kind k).1.hist = (run me n (b :: rest)).1.hist ∧
    ∀ key, (keysOf (faultRun me n b rest kind k).1.wal).count key = (keysOf (run me n (b :: rest)).1.wal).count key

/-- four operators (the first one is the node itself) -/
def fourOps : Block := ⟨1, [.operatorAdded 1 1 1, .operatorAdded 2 1 2, .operatorAdded 3 1 3, .operatorAdded 4 1 4]⟩
/-- a valid ValidatorAdded whose first member is the node's own, decryptable, matching share (key 11) -/
def ownAdd : Block :=
  ⟨2, [.validatorAdded 1 7 (some 0) 1312 [⟨1, 11, true, true⟩, ⟨2, 12, false, false⟩, ⟨3, 13, false, false⟩, ⟨4, 14, false, false⟩]]⟩

theorem C12_witness_start_state : Boundary (run 1 init [fourOps]).1 ∧ Sane (run 1 init [fourOps]).1.wal :=
  ⟨run_boundary 1 init _ init_boundary (by decide), run_sane 1 init _ sane_init⟩

/-- REFUTED on this tree (replayed on the real handler + key manager: corpus/C12/registry_orphan_account.ops):
    the wallet's AddValidatorAccount stores the ACCOUNT RECORD and then the WALLET INDEX in two separate database
    writes. A crash (or a failing index write) between them leaves a record the index does not know; after the
    restart `AddShare` does not find the account and stores a second record for the same share key — the key share is
    stored twice, and a later RemoveShare removes only one of the two. -/
theorem C12_crash_resume_eq_full_refuted : ¬ C12_crash_resume_eq_full := by
  intro h
  have := (h 1 (run 1 init [fourOps]).1 ownAdd [] .crash 2 (by decide) C12_witness_start_state.1 C12_witness_start_state.2
    (by decide) (by decide) (by decide) (by decide) (by decide)).2.2.2 11
  revert this
  decide +kernel

/-- the witness is exactly the excluded position, and nothing else in that block is -/
example : (faultBlock 1 (run 1 init [fourOps]).1 ownAdd .crash 2).2 = .faultedBad ∧
    (faultBlock 1 (run 1 init [fourOps]).1 ownAdd .crash 0).2 = .faulted ∧
    (faultBlock 1 (run 1 init [fourOps]).1 ownAdd .crash 1).2 = .faulted ∧
    (faultBlock 1 (run 1 init [fourOps]).1 ownAdd .error 3).2 = .faulted ∧
    (faultBlock 1 (run 1 init [fourOps]).1 ownAdd .error 4).2 = .faulted ∧
    (faultBlock 1 (run 1 init [fourOps]).1 ownAdd .crash 5).2 = .faulted ∧
    (faultBlock 1 (run 1 init [fourOps]).1 ownAdd .crash 6).2 = .completed := by decide +kernel

/-- Crash or failing write at ANY write index of a block that does not panic — in front of a transactional write,
    inside a key-manager call, inside the decided-history cleanup, at the marker write, at the commit — followed by a
    restart on the surviving database and resumption from marker + 1: the stream ends exactly like the uninterrupted
    run (same completion, same registry incl. nonces and marker, same decided history, same set of stored key
    shares, none stored twice). The only excluded position is the one between the account record and the wallet
    index of an AddShare (`faultedBad`, see the refutation). Holds from every state between blocks with a sane
    wallet whose own operator id matches the stored operators. -/
theorem C12_crash_resume_eq_partial (me : Nat) (n : Node) (b : Block) (rest : List Block) (kind : FaultKind) (k : Nat)
    (hk : kind ≠ .retry) (hB : Boundary n) (hS : Sane n.wal)
    (hown : ∀ o ∈ n.reg.db.ops, o.pk = me → o.id = n.reg.self)
    (hhas : n.reg.self ≠ 0 → ∃ o ∈ n.reg.db.ops, o.id = n.reg.self ∧ o.pk = me)
    (hnp : (regEvents me b.number (beginReg n.reg) b.events).2 = false)
    (hv1 : n.reg.db.marker.getD 0 < b.number) (hv2 : ∀ c ∈ rest, b.number < c.number)
    (hgood : (faultBlock me n b kind k).2 ≠ .faultedBad) :
    (faultRun me n b rest kind k).2 = (run me n (b :: rest)).2 ∧
    (faultRun me n b rest kind k).1.reg = (run me n (b :: rest)).1.reg ∧
    (faultRun me n b rest kind k).1.hist = (run me n (b :: rest)).1.hist ∧
    ∀ key, (keysOf (faultRun me n b rest kind k).1.wal).count key = (keysOf (run me n (b :: rest)).1.wal).count key := by
  have h := (fault_resume me n b rest kind k hk hB hS ⟨hown, hhas⟩ hnp hv1 hv2 hgood).1
  exact ⟨h.ok, h.node.reg, h.node.hist, h.node.count⟩

/-- the same for a fault in ANY block of a stream that starts on an empty database: `pre` is processed, the fault
    hits block `b`, the stream `b :: rest` is resumed (OperatorAdded ids of `pre` fresh and non-zero, as the contract
    guarantees — needed for the restart to find the own operator id, `C11_load_persist_id_partial`) -/
theorem C12_crash_resume_eq_stream (me : Nat) (pre : List Block) (b : Block) (rest : List Block) (kind : FaultKind) (k : Nat)
    (hk : kind ≠ .retry) (hpre : (run me init pre).2 = true) (hwf : OpAddsWF (flatten pre))
    (hnp : (regEvents me b.number (beginReg (run me init pre).1.reg) b.events).2 = false)
    (hv1 : (run me init pre).1.reg.db.marker.getD 0 < b.number) (hv2 : ∀ c ∈ rest, b.number < c.number)
    (hgood : (faultBlock me (run me init pre).1 b kind k).2 ≠ .faultedBad) :
    let n := (run me init pre).1
    (faultRun me n b rest kind k).2 = (run me n (b :: rest)).2 ∧
    (faultRun me n b rest kind k).1.reg = (run me n (b :: rest)).1.reg ∧
    (faultRun me n b rest kind k).1.hist = (run me n (b :: rest)).1.hist ∧
    ∀ key, (keysOf (faultRun me n b rest kind k).1.wal).count key = (keysOf (run me n (b :: rest)).1.wal).count key := by
  intro n
  have h : Resumable me n [] :=
    Resumable.after { boundary := init_boundary, sane := sane_init, self := init_selfInv me, wf := hwf, ok := hpre }
  exact C12_crash_resume_eq_partial me n b rest kind k hk h.boundary h.sane h.ownId.1 h.ownId.2 hnp hv1 hv2 hgood

/-- a block with key-manager calls (RemoveShare of key 11, AddShare of key 15), history cleanup and several
    transactional writes -/
def lifeCycle : Block :=
  ⟨3, [.clusterLiquidated 1 [4, 3, 2, 1], .validatorRemoved 1 7 [], .feeRecipientUpdated 1 9,
       .validatorAdded 1 8 (some 1) 1312 [⟨1, 15, true, true⟩, ⟨2, 12, false, false⟩, ⟨3, 13, false, false⟩, ⟨4, 14, false, false⟩]]⟩

/-- non-vacuity: every write index of `lifeCycle` except the excluded one satisfies the hypotheses, the resumed run
    really re-executes the block -/
example :
    let n := (run 1 init [fourOps, ownAdd]).1
    (run 1 init [fourOps, ownAdd]).2 = true ∧ OpAddsWF (flatten [fourOps, ownAdd]) ∧
    (regEvents 1 lifeCycle.number (beginReg n.reg) lifeCycle.events).2 = false ∧
    n.reg.db.marker.getD 0 < lifeCycle.number ∧
    (faultBlock 1 n lifeCycle .crash 4).2 = .faulted ∧ (faultBlock 1 n lifeCycle .error 7).2 = .faulted ∧
    (faultBlock 1 n lifeCycle .crash 9).2 = .faultedBad ∧
    keysOf (run 1 n [lifeCycle]).1.wal = [15] ∧ keysOf (faultRun 1 n lifeCycle [] .crash 4).1.wal = [15] ∧
    keysOf (faultBlock 1 n lifeCycle .crash 4).1.wal = [11] ∧ keysOf (faultBlock 1 n lifeCycle .crash 7).1.wal = [] := by
  refine ⟨by decide +kernel, ⟨by decide +kernel, by decide +kernel⟩, ?_⟩
  decide +kernel

/-! ## sequences of faults -/

/-- ANY sequence of crashes / failing writes — each at any write index of any block that is still to be processed
    (also the same block again), each followed by a restart on the surviving database and resumption from
    marker + 1 — over a stream that starts on an empty database and is processed completely without faults
    (OperatorAdded ids fresh and non-zero): unless one of the faults falls between the account record and the wallet
    index of an AddShare, the stream ends exactly like the uninterrupted run. -/
theorem C12_fault_sequence_partial (me : Nat) (bs : List Block) (fs : List Fault)
    (hkinds : ∀ f ∈ fs, f.kind ≠ .retry) (hwf : OpAddsWF (flatten bs)) (hok : (run me init bs).2 = true)
    (hgood : (faultyRun me init bs fs).2 = false) :
    (faultyRun me init bs fs).1.2 = (run me init bs).2 ∧
    (faultyRun me init bs fs).1.1.reg = (run me init bs).1.reg ∧
    (faultyRun me init bs fs).1.1.hist = (run me init bs).1.hist ∧
    ∀ key, (keysOf (faultyRun me init bs fs).1.1.wal).count key = (keysOf (run me init bs).1.wal).count key := by
  have h := fault_sequence me fs init bs hkinds
    { boundary := init_boundary, sane := sane_init, self := init_selfInv me, wf := hwf, ok := hok } hgood
  exact ⟨h.ok, h.node.reg, h.node.hist, h.node.count⟩

/-- the same with syntactic hypotheses on the stream: strictly increasing block numbers, no log without topics -/
theorem C12_fault_sequence (me : Nat) (bs : List Block) (fs : List Fault)
    (hkinds : ∀ f ∈ fs, f.kind ≠ .retry) (hwf : OpAddsWF (flatten bs))
    (hinc : Increasing 0 bs) (hnt : Event.noTopics ∉ flatten bs)
    (hgood : (faultyRun me init bs fs).2 = false) :
    (faultyRun me init bs fs).1.2 = true ∧
    (faultyRun me init bs fs).1.1.reg = (run me init bs).1.reg ∧
    (faultyRun me init bs fs).1.1.hist = (run me init bs).1.hist ∧
    ∀ key, (keysOf (faultyRun me init bs fs).1.1.wal).count key = (keysOf (run me init bs).1.wal).count key := by
  have hok := run_completes me init bs hinc hnt
  have h := C12_fault_sequence_partial me bs fs hkinds hwf hok hgood
  exact ⟨h.1.trans hok, h.2⟩

/-- non-vacuity: three faults — inside RemoveShare of the life-cycle block, then at its commit, then in a later
    block — none on the excluded position; the faulty run really restarts and re-executes -/
example :
    let bs := [fourOps, ownAdd, lifeCycle, ⟨9, [.feeRecipientUpdated 2 3]⟩]
    let fs : List Fault := [⟨2, .crash, 5⟩, ⟨0, .error, 12⟩, ⟨1, .crash, 1⟩]
    OpAddsWF (flatten bs) ∧ (run 1 init bs).2 = true ∧ (faultyRun 1 init bs fs).2 = false ∧
    (faultyRun 1 init bs fs).1.1.reg = (run 1 init bs).1.reg ∧
    (faultyRun 1 init bs [⟨1, .crash, 2⟩]).2 = true := by
  refine ⟨⟨by decide +kernel, by decide +kernel⟩, ?_⟩
  decide +kernel

end Ssv.Registry
