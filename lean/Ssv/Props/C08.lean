/-
C08 — No network input can crash message validation or decoding.

PROVED here (rule pipeline): for every decoded message with arbitrary field values (round 0 / 2^64−1, height 0 / max,
empty or oversize signer lists, unknown types and roles, any justification lists), every signer state, every
receive time, every share (known / unknown / liquidated / metadata-less), `validateSSVMessage` and
`validateP2PMessage` return accept / ignore / reject — never the panic outcome. The model carries every Go panic
site of the path as an explicit outcome (see `PanicSite`).

PARTIAL (DESIGN §7.8 Limits): the encoding/json, base64, RLP and libp2p record envelope decoders, hanging and
unbounded allocation are NOT modelled; they are exercised by the malformed-byte stream of the harness
(fuzzing: supports, does not prove). The fastssz decoders are in Props/C08Ssz.lean. What IS proved about sizes: the size
limits are checked before the decoded body is looked at (`C08_size_limit_precedes_decoding`).
Helper lemmas: Ssv/Proofs/Validation.lean, Ssv/Proofs/ValidationPanic.lean.
-/
import Ssv.Proofs.ValidationPanic
import Ssv.Model.ValidationRecords

namespace Ssv.Validation
open Ssv

/-! ## ties to the regenerated facts -/

/-- guard order of `validateConsensusMessage` — in particular: `maxRound` and `validateSlotTime` are called BEFORE
    `validConsensusSigners` (which computes the round-robin leader) -/
theorem C08_tie_guard_order_consensus :
    Gen.calls_val_validateConsensusMessage =
      ["validateSignatureFormat", "validQBFTMsgType", "maxRound", "validateSlotTime", "validConsensusSigners",
       "GetSlotStartTime", "After", "currentEstimatedRound", "HashDataRoot", "validateBeaconDuty", "consensusState",
       "validateSignerBehaviorConsensus", "signatureVerifier", "GetSignerState", "CreateSignerState", "ResetSlot",
       "ResetRound", "hasFullData", "RecordConsensusMessage"] := rfl

theorem C08_tie_guard_order_ssv :
    Gen.calls_val_validateSSVMessage =
      ["Equal", "validRole", "DeserializeBLSPublicKey", "Get", "IsAttesting", "DecodeSSVMessage", "Lock", "Lock",
       "validateConsensusMessage", "validatePartialSignatureMessage"] ∧
    Gen.calls_val_validateP2PMessage =
      ["EstimatedEpochAtSlot", "DecodeSignedSSVMessage", "verifySignature", "DecodeNetworkMsg", "GetTopicBaseName",
       "ValidatorTopicID", "validateSSVMessage"] := ⟨rfl, rfl⟩

theorem C08_tie_guard_order_signers :
    Gen.calls_val_validConsensusSigners = ["RoundRobinProposer", "HasQuorum", "IsSorted", "commonSignerValidation"] ∧
    Gen.calls_val_validateSlotTime = ["earlyMessage", "lateMessage"] ∧
    Gen.calls_val_validateSignerBehaviorConsensus =
      ["GetSignerState", "validateJustifications", "EstimatedEpochAtSlot", "EstimatedEpochAtSlot", "validateDutyCount",
       "hasFullData", "Equal", "maxMessageCounts", "ValidateConsensusMessage", "validateJustifications"] := ⟨rfl, rfl, rfl⟩

theorem C08_tie_guard_order_partial :
    Gen.calls_val_validatePartialSignatureMessage =
      ["validPartialSigMsgType", "partialSignatureTypeMatchesRole", "earlyMessage", "validatePartialMessages", "consensusState",
       "GetSignerState", "validateSignerBehaviorPartial", "validateSignatureFormat", "signatureVerifier",
       "CreateSignerState", "ResetSlot", "RecordPartialSignatureMessage"] ∧
    Gen.calls_val_validatePartialMessages = ["commonSignerValidation", "commonSignerValidation", "validateSignatureFormat"] ∧
    Gen.calls_val_validateSignerBehaviorPartial =
      ["GetSignerState", "EstimatedEpochAtSlot", "EstimatedEpochAtSlot", "validateDutyCount", "maxMessageCounts",
       "ValidatePartialSignatureMessage"] := ⟨rfl, rfl, rfl⟩

/-- panic inventory: the explicit `panic(...)` calls of the anchored files are exactly the modelled ones
    (`maxRound`, `partialSignatureTypeMatchesRole`, the four `MessageCounts` switches; `waitAfterSlotStart` is not on
    the validation path), and the guard functions themselves contain none -/
theorem C08_tie_panic_inventory :
    Gen.panics_val_maxRound = ["panic"] ∧ Gen.panics_val_waitAfterSlotStart = ["panic"] ∧
    Gen.panics_val_partialSignatureTypeMatchesRole = ["panic"] ∧
    Gen.panics_val_ValidateConsensusMessage = ["panic"] ∧ Gen.panics_val_ValidatePartialSignatureMessage = ["panic"] ∧
    Gen.panics_val_RecordConsensusMessage = ["panic", "panic"] ∧ Gen.panics_val_RecordPartialSignatureMessage = ["panic"] ∧
    Gen.panics_val_validRole = [] ∧ Gen.panics_val_validQBFTMsgType = [] ∧ Gen.panics_val_validPartialSigMsgType = [] ∧
    Gen.panics_val_lateMessage = [] ∧ Gen.panics_val_earlyMessage = [] ∧ Gen.panics_val_currentEstimatedRound = [] ∧
    Gen.panics_val_validateDutyCount = [] ∧ Gen.panics_val_hasFullData = [] ∧ Gen.panics_val_validateSignatureFormat = [] ∧
    Gen.panics_val_consensusState = [] ∧ Gen.panics_val_ResetSlot = [] ∧ Gen.panics_val_ResetRound = [] ∧
    (Gen.calls_val_validateSSVMessage.contains "panic" = false) ∧
    (Gen.calls_val_validateConsensusMessage.contains "panic" = false) ∧
    (Gen.calls_val_validConsensusSigners.contains "panic" = false) ∧
    (Gen.calls_val_validatePartialSignatureMessage.contains "panic" = false) ∧
    (Gen.calls_val_validateJustifications.contains "panic" = false) ∧
    (Gen.calls_val_validateBeaconDuty.contains "panic" = false) := by
  refine ⟨rfl, rfl, rfl, rfl, rfl, rfl, rfl, rfl, rfl, rfl, rfl, rfl, rfl, rfl, rfl, rfl, rfl, rfl, rfl, ?_⟩
  simp [Gen.calls_val_validateSSVMessage, Gen.calls_val_validateConsensusMessage, Gen.calls_val_validConsensusSigners,
    Gen.calls_val_validatePartialSignatureMessage, Gen.calls_val_validateJustifications, Gen.calls_val_validateBeaconDuty]

/-- `instance.IsProposalJustification` (an abstract Boolean of this model) calls neither `proposer` nor `panic`,
    and no signature verification is configured on this path (`VerifySignatures` is consulted, `qbftConfig` answers false) -/
theorem C08_tie_justification_callees :
    Gen.calls_val_isProposalJustification =
      ["valCheck", "validRoundChangeForData", "HasQuorum", "HasQuorum", "highestPrepared", "HashDataRoot",
       "validSignedPrepareForHeightRoundAndRoot"] ∧
    Gen.calls_val_validRoundChangeForData =
      ["VerifySignatures", "VerifyByOperators", "Validate", "HashDataRoot", "GetRoundChangeJustifications",
       "validSignedPrepareForHeightRoundAndRoot", "HasQuorum"] ∧
    Gen.calls_val_validSignedPrepare = ["Validate", "VerifySignatures", "VerifyByOperators"] := ⟨rfl, rfl, rfl⟩

/-- literals and operators of the arithmetic kernels the model re-states (the leader index and the decided-count
    limit are additionally TRANSLATED from the source: `Gen.k_RoundRobinProposerIndex`, `Gen.k_maxDecidedCount`) -/
theorem C08_tie_kernel_literals :
    Gen.lits_val_maxRound = ["12", "6", "0", "\"unknown role\""] ∧
    Gen.lits_val_lateMessage = ["+", "1", "+", "32", "0", "+"] ∧
    Gen.lits_val_earlyMessage = [">", "+", "1", "u-"] ∧
    Gen.lits_val_currentEstimatedRound = ["+", "/", "<=", "-", "*", "+", "+", "/"] ∧
    Gen.lits_val_maxMessageCounts = ["1", "1", "1", "1", "1", "1"] ∧
    Gen.lits_val_RoundRobinProposer = ["0", "!=", "+=", "%", "%", "-", "+"] ∧
    Gen.lits_val_GetSlotStartTime = ["*", "+", "0"] ∧
    Gen.lits_val_EstimatedSlotAtTime = ["<", "0", "/", "-"] ∧
    (Gen.lits_val_validateP2PMessage.drop 3).take 9 = ["0", "+", "+", "4", "56", "8388668", "+", "/", "10"] :=
  ⟨rfl, rfl, rfl, rfl, rfl, rfl, rfl, rfl, rfl⟩

theorem C08_tie_enums :
    [Gen.val_BNRoleAttester, Gen.val_BNRoleAggregator, Gen.val_BNRoleProposer, Gen.val_BNRoleSyncCommittee,
     Gen.val_BNRoleSyncCommitteeContribution, Gen.val_BNRoleValidatorRegistration, Gen.val_BNRoleVoluntaryExit] = [0, 1, 2, 3, 4, 5, 6] ∧
    [Gen.val_ProposalMsgType, Gen.val_PrepareMsgType, Gen.val_CommitMsgType, Gen.val_RoundChangeMsgType] = [0, 1, 2, 3] ∧
    [Gen.val_PostConsensusPartialSig, Gen.val_RandaoPartialSig, Gen.val_SelectionProofPartialSig, Gen.val_ContributionProofs,
     Gen.val_ValidatorRegistrationPartialSig, Gen.val_VoluntaryExitPartialSig] = [0, 1, 2, 3, 4, 5] ∧
    Gen.val_NoRound = 0 ∧ Gen.val_FirstRound = 1 ∧ Gen.val_FirstHeight = 0 ∧ Gen.val_signatureSize = 96 ∧
    Gen.val_maxMessageSize = 8388608 ∧ Gen.val_maxConsensusMsgSize = 8388608 ∧ Gen.val_maxPartialSignatureMsgSize = 1952 :=
  ⟨rfl, rfl, rfl, rfl, rfl, rfl, rfl, rfl, rfl, rfl⟩

/-! ## the property -/

/-- for all network constants with non-zero divisors, all duty stores, all signer states, all decoded messages
    with arbitrary field values, all receive times and wall clocks, and every stored share with a non-empty committee:
    `validateSSVMessage` never panics. -/
theorem C08_validate_never_panics (x : Ctx) (hc : x.cfg.WF) (st : State) (i : Input) (hi : InputWF i) :
    ∀ s, (validate x st i).2 ≠ .panic s := validate_noPanic x hc st i hi

/-- the same for the pubsub entry point (`validateP2PMessage`: envelope, size limits, topic, then the above) -/
theorem C08_validateP2P_never_panics (x : Ctx) (hc : x.cfg.WF) (st : State) (p : P2PInput) (hi : InputWF p.inner) :
    ∀ s, (validateP2P x st p).2 ≠ .panic s := validateP2P_noPanic x hc st p hi

/-- the state after a history of calls from `st` -/
def runAll (x : Ctx) : State → List Input → State
  | st, [] => st
  | st, i :: rest => runAll x (validate x st i).1 rest

/-- … and along every history of validated messages (the state reached after any sequence of calls): an instance of
    `C08_validate_never_panics`, which holds in every state -/
theorem C08_never_panics_after_any_history (x : Ctx) (hc : x.cfg.WF) (hist : List Input) (i : Input) (hi : InputWF i) :
    ∀ s, (validate x (runAll x State.empty hist) i).2 ≠ .panic s :=
  validate_noPanic x hc _ i hi

/-! ## every panicking switch is dominated by its `valid*` check -/

theorem C08_maxRound_dominated (role : Nat) : validRole role = true → ∃ mx, maxRound role = .ok mx ∧ mx ≤ 12 :=
  maxRound_of_validRole role

theorem C08_maxRound_panics_only_for_invalid_role (role : Nat) (s : PanicSite) :
    maxRound role = .error (.panic s) → validRole role = false := maxRound_panics_only_unknown role s

theorem C08_partialTypeRole_dominated (t role : Nat) : validRole role = true → ∃ b, partialTypeMatchesRole t role = .ok b :=
  partialTypeMatchesRole_of_validRole t role

theorem C08_counts_dominated (c : Counts) (m : QMsg) (n : Nat) :
    validQBFTMsgType m.mtype = true → ∀ s, countsValidate c m n ≠ .error (.panic s) :=
  fun h => countsValidate_noPanic h

theorem C08_record_dominated (c : Counts) (m : QMsg) :
    validQBFTMsgType m.mtype = true → m.signers ≠ [] → ∃ c', countsRecord c m = .ok c' := countsRecord_ok c m

theorem C08_partial_counts_dominated (c : Counts) (t : Nat) :
    validPartialSigMsgType t = true →
      (∀ s, countsValidatePartial c t ≠ .error (.panic s)) ∧ ∃ c', countsRecordPartial c t = .ok c' :=
  fun h => ⟨countsValidatePartial_noPanic h, countsRecordPartial_ok c t h⟩

/-- the `[signatureSize]byte(signature)` conversion is reached only for 96-byte signatures -/
theorem C08_signature_conversion_dominated (l : Nat) (z : Bool) : ∀ s, signatureFormat l z ≠ .error (.panic s) :=
  signatureFormat_noPanic

/-! ## the leader index -/

/-- the model's wrap-exact index expression IS the kernel translated from ssv-spec `RoundRobinProposer`
    wherever no intermediate sum overflows -/
theorem C08_leader_index_eq_translated_kernel (n h r : Nat) (hn : 0 < n) (hn' : (n : Int) < 4611686018427387904)
    (hh : (h : Int) < two64) (hr : (r : Int) < 4611686018427387904) :
    leaderIndex n h r = Gen.k_RoundRobinProposerIndex r h n := leaderIndex_eq_kernel n h r hn hn' hh hr

/-- whenever it is computed (round in [1, 12] after the zero-round and max-round guards, height below 2^63 after the
    slot window guard) the index lies in `[0, n)` -/
theorem C08_leader_index_in_range (n h r : Nat) (hn : 0 < n) (hn' : n < 2147483648) (hh : (h : Int) < two63)
    (hr1 : 1 ≤ r) (hr2 : r ≤ 12) : 0 ≤ leaderIndex n h r ∧ leaderIndex n h r < n :=
  leaderIndex_in_range n h r hn hn' hh hr1 hr2

/-- the slot window guard really bounds the height: whatever passes `validateSlotTime` is below 2^63 -/
theorem C08_slot_window_bounds_height (c : NetCfg) (hc : c.WF) (slot role : Nat) (now : GoTime) :
    validateSlotTime c slot role now = .ok () → (slot : Int) < two63 :=
  fun h => slot_lt_of_not_early hc (validateSlotTime_not_early h)

example : 0 ≤ leaderIndex 4 32000 1 ∧ leaderIndex 4 32000 1 < 4 := by decide

/-! ## the repaired defect, kept as a regression statement

Before `fix: message validation must not compute the round leader for out-of-range rounds and heights`
`validConsensusSigners` ran before any round / slot range check. -/

/-- round 0 and a height that is a multiple of the committee size: index −1 -/
theorem C08_prefix_order_round0_index_negative : leaderIndex 4 8 0 = -1 := by decide

/-- … and for a height ≥ 2^63 (negative after `int(...)`) even for round 1 -/
theorem C08_prefix_order_huge_height_index_negative : leaderIndex 4 18446744073709551615 1 = -1 := by decide

def round0Proposal : QMsg :=
  { mtype := 0, height := 32000, round := 0, root := 1, fullData := some 1, signers := [1], sigLen := 96, sigZero := false,
    pjMalformed := false, pjLen := 0, rcjMalformed := false, rcjLen := 0, justOk := true }

/-- `validConsensusSigners`, which ran first before the fix, panics on the round-0 proposal (index out of range [-1]) … -/
theorem C08_prefix_order_round0_panics :
    validConsensusSigners share4 round0Proposal = .error (.panic .leaderIndexOutOfRange) := by decide

/-- … while the order after the fix turns it down with the zero-round rule before the leader is computed -/
theorem C08_fixed_order_round0_rejected :
    (validate ctx0 State.empty (inputAt round0Proposal (1616508000 + 12 * 32000))).2 = .reject .ZeroRound := by decide

/-- … and a height of 2^64 − 1 is refused by the slot window (early message) -/
theorem C08_fixed_order_huge_height_ignored :
    (validate ctx0 State.empty (inputAt { round0Proposal with round := 1, height := 18446744073709551615 } (1616508000 + 12 * 32000))).2
      = .ignore .EarlyMessage := by decide

/-! ## necessity of the share hypothesis

`InputWF` (non-empty committee) cannot be dropped: with a stored share whose committee is empty the leader
computation divides by zero. Such a share cannot be created by the registry (C11: committees of 4/7/10/13). -/
theorem C08_empty_committee_would_panic :
    (validate ctx0 State.empty
        { inputAt { round0Proposal with round := 1 } (1616508000 + 12 * 32000) with share := some { share4 with committee := [] } }).2
      = .panic .leaderModZero := by decide

/-! ## node-record (ENR) entry decoders (network/records/entries.go; reached from every discovered peer's record)

The property names "the decoders of … node records". `DomainTypeEntry.DecodeRLP` converted the decoded byte slice to a
4-byte array without looking at its length — a Go run-time panic for fewer than four bytes (found on the pinned tree,
repaired by aac5f5f72). -/

/-- tie: in `DomainTypeEntry.DecodeRLP` the length guard (`len(buf) < len(dt)` → error) precedes the slice-to-array
    conversion, the comparison is `<`, and neither it nor the `Get…Entry` readers / `checkPeer` call `panic` -/
theorem C08_tie_record_entry_decoders :
    Gen.calls_val_DomainTypeEntry_DecodeRLP = ["Decode", "len", "len", "New", "DomainTypeEntry"] ∧
    Gen.has_val_DomainTypeEntry_DecodeRLP = [true, true] ∧
    Gen.lits_val_DomainTypeEntry_DecodeRLP = ["u&", "!=", "<", "\"domain type entry is too short\""] ∧
    Gen.calls_val_GetDomainTypeEntry = ["Load", "IsNotFound", "DomainType"] ∧
    Gen.calls_val_GetSubnetsEntry = ["NewBitvector128", "Load", "WithEntry", "IsNotFound", "Len", "Len", "BitAt"] ∧
    Gen.calls_val_checkPeer = ["GetDomainTypeEntry", "GetSubnetsEntry", "Equal", "UpdatePeerSubnets", "limitNodeFilter",
                               "sharedSubnetsFilter"] := ⟨rfl, rfl, rfl, rfl, rfl, rfl⟩

/-- the domain-type entry decoder is total — for EVERY value (any byte string of any length, any non-string item) the
    outcome is an error or four bytes, never a panic; short ⇒ error; ≥ 4 bytes ⇒ exactly the first four -/
theorem C08_domain_type_entry_total (v : EnrValue) :
    decodeDomainType v ≠ .panic ∧
    (∀ b, v = .bytes b → b.length < 4 → decodeDomainType v = .err) ∧
    (∀ b, v = .bytes b → 4 ≤ b.length → decodeDomainType v = .ok (b.take 4) ∧ (b.take 4).length = 4) ∧
    (v = .notBytes → decodeDomainType v = .err) := by
  refine ⟨?_, ?_, ?_, ?_⟩
  · cases v with
    | notBytes => exact EntryOutcome.noConfusion
    | bytes b => intro h; change ite _ _ _ = _ at h; split at h <;> cases h
  · rintro b rfl hl; exact if_pos hl
  · rintro b rfl hl
    exact ⟨if_neg (Nat.not_lt.mpr hl), by rw [List.length_take]; exact Nat.min_eq_left hl⟩
  · rintro rfl; rfl

/-- the pre-repair decoder (no length guard): EVERY byte string shorter than four bytes — the empty string,
    small integers, … — is a panic; from four bytes on the two decoders agree -/
theorem C08_regression_old_domain_type_decoder_panics (b : List Nat) :
    (b.length < 4 → decodeDomainTypeOld (.bytes b) = .panic) ∧
    (4 ≤ b.length → decodeDomainTypeOld (.bytes b) = decodeDomainType (.bytes b)) :=
  ⟨fun h => if_pos h, fun h => (if_neg (Nat.not_lt.mpr h)).trans (if_neg (Nat.not_lt.mpr h)).symm⟩

/-- the subnets entry reader is total as well: a byte string of ANY length yields exactly 128 entries (all zero unless the
    string is 16 bytes long), anything else an error -/
theorem C08_subnets_entry_total (v : EnrValue) :
    decodeSubnets v ≠ .panic ∧
    (∀ b, v = .bytes b → ∃ l, decodeSubnets v = .ok l ∧ l.length = 128 ∧ (b.length ≠ 16 → l = List.replicate 128 0)) := by
  constructor
  · cases v <;> exact EntryOutcome.noConfusion
  · rintro b rfl
    refine ⟨_, rfl, by rw [List.length_map, List.length_range]; rfl, fun h => ?_⟩
    simp only [if_neg h, List.map_const', List.length_range]
    rfl

example : decodeDomainType (.bytes [0, 0, 48, 18, 9, 9]) = .ok [0, 0, 48, 18] := by decide
example : decodeDomainType (.bytes [1, 2, 3]) = .err ∧ decodeDomainTypeOld (.bytes [1, 2, 3]) = .panic := by decide
example : decodeSubnets (.bytes (5 :: List.replicate 15 0)) = .ok ([1, 0, 1] ++ List.replicate 125 0) := rfl

/-! ## metric labels (monitoring/metricsreporter; repaired by 14cd45e91)

The validator labels Prometheus vectors with the round, the QBFT / SSV message type and the number of signers of a message
BEFORE the message is checked; a vector keeps one series per distinct label value for ever. -/

/-- tie: every label taken from a peer's message goes through a helper with a bounded range — rounds above 16 and signer
    counts above 13 share one label, unknown message types share one label; no number is formatted at the call sites -/
theorem C08_tie_metric_labels_bounded :
    Gen.calls_val_metrics_MessageRejected = ["roundLabel"] ∧ Gen.calls_val_metrics_MessageIgnored = ["roundLabel"] ∧
    Gen.calls_val_metrics_MessageAccepted = ["roundLabel"] ∧ Gen.calls_val_metrics_SSVMessageType = ["ssvMsgTypeLabel"] ∧
    Gen.calls_val_metrics_ConsensusMsgType = ["qbftMsgTypeLabel", "signersLabel"] ∧
    Gen.has_val_roundLabel = [true, true] ∧ Gen.has_val_signersLabel = [true, true] ∧
    Gen.has_val_ssvMsgTypeLabel = [true] ∧ Gen.has_val_qbftMsgTypeLabel = [true] ∧
    Gen.val_maxRoundLabel = 16 ∧ Gen.val_maxSignersLabel = 13 := ⟨rfl, rfl, rfl, rfl, rfl, rfl, rfl, rfl, rfl, rfl, rfl⟩

/-! ## size limits precede decoding -/

/-- an oversize message gets the same verdict whatever the decoder would have produced: the size guard decides first -/
theorem C08_size_limit_precedes_decoding (x : Ctx) (st : State) (i : Input) (b : Body)
    (h : Gen.val_maxMessageSize < i.dataLen) : check x st { i with body := b } = check x st i :=
  check_too_big_independent_of_body x st i b h

-- the hypotheses of `C08_validate_never_panics` can be met, and a message that is accepted
example : praterCfg.WF := ⟨by decide, by decide, by decide, by decide⟩
example : InputWF (inputAt round0Proposal 0) := by
  intro sh h; cases h; exact ⟨by decide, by decide⟩
example : (validate ctx0 State.empty (inputAt { round0Proposal with round := 1 } (1616508000 + 12 * 32000))).2 = .accept := by decide

end Ssv.Validation
