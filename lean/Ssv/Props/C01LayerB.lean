/-
C01 — Consensus agreement, LAYER B: the eight trace rules H0–H7 of Layer A (`QAbs.Rules`, Ssv/Proofs/QbftAbstract.lean) are
DERIVED from the executable node model (Ssv/Model/Qbft: controller + instance, light node, no runner compaction), and
agreement follows for the executable multi-node system `Ssv/Model/Qbft/SystemB.lean`:

  committee 1..n, n = 3f+1, at most f Byzantine members, one (identifier, height); steps `start i v`, `deliver i m` for ANY
  message m whose verified signed parts OF THE INSTANCE'S OWN IDENTIFIER that list a correct signer are backed by an earlier
  broadcast of that signer with the same signed content, identifier included (unforgeability — drop, duplication, reordering,
  selective delivery, equivocation, fabricated justifications are all included); signed parts with a FOREIGN identifier are
  entirely adversary-controlled, because correct operators sign the same (height, round) with the same keys in the instances
  of the validator's other duty roles; `timeout i r`; all start values, all schedules, all Byzantine behaviours, any rounds.
  The proofs of H3 use the identifier guards of `validRoundChangeForData` (fix e1612ceed in /repo): every embedded
  round-change and prepare that is counted carries the own identifier (`RcValid.ident`). With the validators as they were
  before that fix agreement FAILS under this adversary: `C01_identifier_regression_old_model_disagrees`.

STATUS: all eight rules are derived (`C01_rule_H0 … C01_rule_H7`, each an invariant of `Reachable`); none remains a
hypothesis. `C01_agreement` is unconditional for every valid parameter set (`Params.Valid`: at most f Byzantine members and
3f+1 fits a Go `int`, so that the quorum kernel translated from `ComputeQuorumAndPartialQuorum` yields 2f+1).
`C01_agreement_partial` (agreement from `Reachable` + rules given as hypotheses) is kept as the fallback form.

Proof architecture (Ssv/Proofs/QbftNode*.lean): `ISpec`/`NStep` = exact case list of what one `ProcessMsg` /
`StartNewInstance` / `OnTimeout` call does to the instance of the height (derived by unfolding the model once);
`NodeInv` = coupling of instance state and ghost trace (propose container = accepted-proposal events, one proposal per
round, `LastPreparedRound` only set to the current round, round only lowered by `UponDecided`, every stored prepare /
commit backed by an event of its correct signer, …); `Inv` = shape + log + node invariants + `QAbs.Rules`, preserved by
every step.

Two points where the paper rules met the code (both resolved without weakening agreement):
* ghost event `P i r v` is emitted when operator i ACCEPTS the proposal (round r, root v) (`uponProposal` stores it and creates
  its prepare), not only when the prepare reaches the network: `Instance.Broadcast` refuses when the new round is at the
  cut-off (`CanProcessMessages`), and a later decided message can lower the round again and re-enable the instance with
  that stale accepted proposal; with "P = prepare on the wire" the stale disjunct of H2 would lack its witness. The
  corner is reachable (`example` below, `cutSys`). Every prepare that IS broadcast has its `P` event (`C01_log_reflected`).
* `UponDecided` may also RAISE the round (decided message of a higher round) while the accepted proposal stays; the node
  then counts prepares for (new round, old root). H2 still holds through its first disjunct because the node was never in
  that round before (invariant `NodeInv.low`).
Instance re-creation after eviction from the 2-slot container cannot happen in the one-height system: a decided message
of another height needs f+1 correct commit signers for that height, and correct operators only ever broadcast for the
height they were started for (`cert_facts`, used in `step_nstep`). With several heights this is C15's finding.
-/
import Ssv.Proofs.QbftNodeExample
import Ssv.Proofs.QbftIdentOld

namespace Ssv.Qbft.B
open Ssv.Qbft

variable {P : Params}

/-! ### the rules, each an invariant of the reachable states -/

/-- H0: commits are sent in rounds ≥ 1 (a decided message of round 0 cannot lower the round: it would need a correct
    round-0 commit) -/
theorem C01_rule_H0 (hP : P.Valid) {σ : Sys P} (h : Reachable σ) :
    ∀ i r v k, i ∉ (ctxOf hP σ).byz → QAbs.At (ctxOf hP σ) k (.K i r v) → 1 ≤ r :=
  (inv_of_reachable hP h).rules.H0

/-- H1: at most one accepted proposal (hence prepare) per round and operator -/
theorem C01_rule_H1 (hP : P.Valid) {σ : Sys P} (h : Reachable σ) :
    ∀ i r v v' k k', i ∉ (ctxOf hP σ).byz → QAbs.At (ctxOf hP σ) k (.P i r v) → QAbs.At (ctxOf hP σ) k' (.P i r v') → v = v' :=
  (inv_of_reachable hP h).rules.H1

/-- H2: a commit is broadcast only on an authentic prepare quorum for (round, root), or — after a decided message lowered
    the round — for the root of a proposal accepted earlier in a higher round -/
theorem C01_rule_H2 (hP : P.Valid) {σ : Sys P} (h : Reachable σ) :
    ∀ i r v k, i ∉ (ctxOf hP σ).byz → QAbs.At (ctxOf hP σ) k (.K i r v) →
      QAbs.PQ (ctxOf hP σ) k r v ∨
      ((∃ g rc, g < k ∧ QAbs.At (ctxOf hP σ) g (.G i rc) ∧ rc ≤ r) ∧ ∃ r2, r < r2 ∧ QAbs.Before (ctxOf hP σ) k (.P i r2 v)) :=
  (inv_of_reachable hP h).rules.H2

/-- H3: a proposal accepted for a round > 1 is justified by a validated round-change quorum whose highest prepared value
    (itself backed by an authentic prepare quorum) is the proposed one -/
theorem C01_rule_H3 (hP : P.Valid) {σ : Sys P} (h : Reachable σ) :
    ∀ i r v k, i ∉ (ctxOf hP σ).byz → QAbs.At (ctxOf hP σ) k (.P i r v) → 1 < r →
      ∃ S d, QAbs.RCQ (ctxOf hP σ) k r S d ∧
        ((∀ j ∈ S, (d j).1 = 0) ∨ ∃ js ∈ S, (∀ j ∈ S, (d j).1 ≤ (d js).1) ∧ 0 < (d js).1 ∧ (d js).2 = v) :=
  (inv_of_reachable hP h).rules.H3

/-- H4: a round-change for a higher round sent after a commit carries a lock at least as high as the commit's round,
    unless a decided message lowered the round below it in between -/
theorem C01_rule_H4 (hP : P.Valid) {σ : Sys P} (h : Reachable σ) :
    ∀ i r v r' pr pv k1 k2, i ∉ (ctxOf hP σ).byz → QAbs.At (ctxOf hP σ) k1 (.K i r v) →
      QAbs.At (ctxOf hP σ) k2 (.RC i r' pr pv) → k1 < k2 → r < r' →
      (∀ g rc, k1 < g → g < k2 → QAbs.At (ctxOf hP σ) g (.G i rc) → r ≤ rc) → r ≤ pr :=
  (inv_of_reachable hP h).rules.H4

/-- H5: no commit for a round below an announced round without a decided message lowering the round in between -/
theorem C01_rule_H5 (hP : P.Valid) {σ : Sys P} (h : Reachable σ) :
    ∀ i r v r' pr pv k1 k2, i ∉ (ctxOf hP σ).byz → QAbs.At (ctxOf hP σ) k1 (.RC i r' pr pv) →
      QAbs.At (ctxOf hP σ) k2 (.K i r v) → k1 < k2 → r < r' →
      ∃ g rc, k1 < g ∧ g < k2 ∧ QAbs.At (ctxOf hP σ) g (.G i rc) ∧ rc ≤ r :=
  (inv_of_reachable hP h).rules.H5

/-- H6: `UponDecided` adopts a decided message only with an authentic commit quorum for its round -/
theorem C01_rule_H6 (hP : P.Valid) {σ : Sys P} (h : Reachable σ) :
    ∀ i rc k, i ∉ (ctxOf hP σ).byz → QAbs.At (ctxOf hP σ) k (.G i rc) → ∃ v, QAbs.KQ (ctxOf hP σ) k rc v :=
  (inv_of_reachable hP h).rules.H6

/-- H7: every reported decision is backed by an authentic commit quorum for (round, value) -/
theorem C01_rule_H7 (hP : P.Valid) {σ : Sys P} (h : Reachable σ) :
    ∀ i r v k, i ∉ (ctxOf hP σ).byz → QAbs.At (ctxOf hP σ) k (.D i r v) → QAbs.KQ (ctxOf hP σ) (k + 1) r v :=
  (inv_of_reachable hP h).rules.H7

/-- all eight rules hold in every reachable state of the executable system -/
theorem C01_rules (hP : P.Valid) {σ : Sys P} (h : Reachable σ) : QAbs.Rules (ctxOf hP σ) :=
  (inv_of_reachable hP h).rules

/-! ### agreement -/

/-- fallback form: reachable + the rules (as hypotheses) ⇒ agreement. With `C01_rules` no hypothesis remains. -/
theorem C01_agreement_partial (hP : P.Valid) {σ : Sys P} (R : QAbs.Rules (ctxOf hP σ)) {i j : Op P} {v v' : Nat}
    (hi : P.honest i = true) (hj : P.honest j = true) (hv : reported σ i v) (hv' : reported σ j v') : v = v' := by
  obtain ⟨r, hr⟩ := hv
  obtain ⟨r', hr'⟩ := hv'
  exact agreement_of_rules (T := σ.trace) R hi hj hr hr'

/-- AGREEMENT for the executable multi-node system: in every reachable state, any two correct operators that reported a
    decision reported the same value — all committee sizes n = 3f+1, all start values, schedules, Byzantine behaviours. -/
theorem C01_agreement (hP : P.Valid) {σ : Sys P} (h : Reachable σ) {i j : Op P} {v v' : Nat}
    (hi : P.honest i = true) (hj : P.honest j = true) (hv : reported σ i v) (hv' : reported σ j v') : v = v' :=
  C01_agreement_partial hP (C01_rules hP h) hi hj hv hv'

/-- the second observation point: `State.Decided/DecidedValue` of a correct operator's instance is always a reported
    decision -/
theorem C01_decided_reported (hP : P.Valid) {σ : Sys P} (h : Reachable σ) {i : Op P} {v : Nat}
    (hi : P.honest i = true) (hd : decidedState σ i v) : reported σ i v := by
  obtain ⟨s, hs, hdec, hval⟩ := hd
  have hn := (inv_of_reachable hP h).node i hi
  rw [hs] at hn
  have hn' : NodeInv P σ.trace i s := hn
  rw [← hval]
  exact hn'.dec hdec

/-- the first observation point: whenever `Controller.ProcessMsg(m)` of operator i returns a decided message d, the value
    d.fullData is a reported decision of the resulting state (so `C01_agreement` covers every returned decision) -/
theorem C01_returned_reported (σ : Sys P) (i : Op P) (m d : Msg)
    (h : ((σ.ctrl i).processMsg (P.cfg i) m).res = .ok (some d)) : reported (step σ (.deliver i m)) i d.fullData :=
  returned_reported σ i m d h

/-- agreement on the instance states: two correct operators whose instances are decided hold the same decided value -/
theorem C01_state_agreement (hP : P.Valid) {σ : Sys P} (h : Reachable σ) {i j : Op P} {v v' : Nat}
    (hi : P.honest i = true) (hj : P.honest j = true) (hv : decidedState σ i v) (hv' : decidedState σ j v') : v = v' :=
  C01_agreement hP h hi hj (C01_decided_reported hP h hi hv) (C01_decided_reported hP h hj hv')

/-- every message a correct operator put on the network is for the height and reflected in the ghost trace (a prepare
    by an accepted-proposal event, a commit by `K`, a round-change by `RC`) -/
theorem C01_log_reflected (hP : P.Valid) {σ : Sys P} (h : Reachable σ) : ∀ m ∈ σ.log, LogOK P σ.trace m :=
  (inv_of_reachable hP h).log

/-- the quorum used by the system is the translated kernel's, and equals 2f+1 for every valid parameter set -/
theorem C01_tie_kernel_quorum (hP : P.Valid) (i : Op P) : (P.cfg i).quorum = 2 * P.f + 1 := kernel_quorum P hP

/-! ### regression: the validators before the identifier fix -/

/-- REGRESSION (identifier confusion, fixed in /repo e1612ceed). With the validators as they were before the fix
    (`Ssv/Proofs/QbftIdentOld.lean`: embedded round-change / prepare justifications not compared with the instance's
    identifier) and the SAME adversary, a reachable state of the 4-operator system has two correct operators reporting
    DIFFERENT values: operator 1 decided 7 in round 2; the Byzantine round-3 leader then justified the fresh value 8 with
    genuine unprepared round-changes that operators 1, 2, 4 signed for another duty role, and operators 2 and 4 decided 8.
    So `C01_agreement` is not vacuous with respect to this attack, and would be false without the identifier guards. -/
theorem C01_identifier_regression_old_model_disagrees :
    ∃ σ : Sys Old.regP, Old.ReachableOld σ ∧ Old.regP.Valid ∧ Old.regP.honest 0 = true ∧ Old.regP.honest 1 = true ∧
      reported σ 0 7 ∧ reported σ 1 8 := by
  obtain ⟨h1, h2, _⟩ := Old.reg_members
  exact ⟨Old.regSys, Old.reg_reachable, ⟨by decide, by decide⟩, by decide, by decide, ⟨2, h1⟩, ⟨3, h2⟩⟩

/-- the same Byzantine proposal is rejected by the current validators (`wrong msg identifier`) -/
theorem C01_identifier_regression_fixed_rejects :
    (Old.runOld (Sys.init Old.regP) (Old.regSched.take 26)).map
        (fun σ => ((σ.ctrl 1).processMsg (Old.regP.cfg 1) Old.byzProposal).res) =
      some (.err [.couldNotProcess, .invalidSigned, .notJustified, .rcNotValid, .wrongMsgIdentifier]) :=
  Old.reg_fixed_rejects

/-! ### non-vacuity -/

/-- a concrete reachable state of the 4-operator system (operator 4 Byzantine and silent, leader of round 1): after a
    round change (three `RC` events for round 2) operators 1 and 2 have both decided value 5 in round 2 — the hypotheses of
    `C01_agreement` and `C01_state_agreement` are satisfied by a non-trivial state -/
example : exP.Valid ∧ Reachable exSys ∧ exP.honest 0 = true ∧ exP.honest 1 = true ∧
    reported exSys 0 5 ∧ reported exSys 1 5 ∧ decidedState exSys 0 5 ∧ decidedState exSys 1 5 ∧
    Ev.RC 0 2 0 1 ∈ exSys.trace ∧ Ev.RC 1 2 0 1 ∈ exSys.trace := by
  have hmem : ∀ e ∈ [Ev.D 0 2 5, .D 1 2 5, .RC 0 2 0 1, .RC 1 2 0 1], e ∈ exSys.trace := by
    rw [ex_trace]; decide
  have hdec : ∀ i, (instAt exP.height (exSys.ctrl i)).map (fun s => (s.decided, s.decidedValue, s.round)) = some (true, 5, 2) →
      decidedState exSys i 5 := fun i h => by
    obtain ⟨s, hs, e⟩ := Option.map_eq_some_iff.1 h
    exact ⟨s, hs, (Prod.mk.inj e).1, (Prod.mk.inj (Prod.mk.inj e).2).1⟩
  exact ⟨exP_valid, ex_reachable, by decide, by decide, ⟨2, hmem _ (.head _)⟩, ⟨2, hmem _ (.tail _ (.head _))⟩,
    hdec 0 ex_states.1, hdec 1 ex_states.2, hmem _ (.tail _ (.tail _ (.head _))),
    hmem _ (.tail _ (.tail _ (.tail _ (.head _))))⟩

/-- the rules hold of that state's trace (instance of `C01_rules`) -/
example : QAbs.Rules (ctxOf exP_valid exSys) := C01_rules exP_valid ex_reachable

/-- the cut-off corner is reachable: operator 1 accepted a round-2 proposal (`P` event) while no prepare was put on the
    network (`CutoffRound = 2`: `Broadcast` refuses in round 2) — why `P` is tied to acceptance -/
example : Reachable cutSys ∧ Ev.P 0 2 9 ∈ cutSys.trace ∧ ∀ m ∈ cutSys.log, m.type ≠ tPrepare := by
  obtain ⟨ht, hl⟩ := cut_facts
  refine ⟨cut_reachable, by rw [ht]; decide, ?_⟩
  intro m hm
  have := List.all_eq_true.1 hl m hm
  simpa using this

end Ssv.Qbft.B
