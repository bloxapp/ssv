/-
C15 — A duty height once started or decided is never run again, even after restart.
Property theorems only (helper lemmas: Ssv/Proofs/Heights*.lean; model: Ssv/Model/Heights.lean = the CURRENT tree, i.e.
with the fixes 358626700 (a stored decided instance is only replaced by a higher height or by more signers),
26e2e6b00 (an instance reloaded from storage is kept) and c50569811 (a duty that holds a decided value counts as
previously decided)).

All statements quantify over ALL histories `ops : List Op` of duty starts (attester-style `start`, two-phase
`begin`/`decide`), commit/decided messages of any height, round, root, signer list and validity (through the
controller or through the runner, optionally while the store fails the write), decisions of the running instance by a
commit quorum (with the runner's value check accepting or rejecting), compactions and restarts (each restart may pick
full or light mode), from the initial state of a full or a light node, with any quorum `q`.  No bound on anything.

All three clauses of the property are proved in full for this model:
  1. `C15_no_restart_of_old_height`    (full and light nodes, both kinds of consensus start)
  2. `C15_highest_survives_restart`, `C15_stored_highest_never_rerun`, `C15_top_decided_is_stored`
  3. `C15_highest_replaced_monotone`   (highest record AND every historical record, from ANY state)
The semantics before the first two fixes (Ssv/Model/HeightsOld.lean) violated 1 and 3; the three witnesses are kept as
regression lemmas (`C15_regression_*`): they go through on the old semantics and are closed on the current one.
-/
import Ssv.Proofs.HeightsTop
import Ssv.Model.HeightsOld

namespace Ssv.Heights

/-! ## ties to the regenerated facts -/

/-- constants the model imports -/
theorem C15_tie_constants :
    Gen.heights_InstanceContainerDefaultCapacity = 2 ∧ cap = Gen.heights_InstanceContainerDefaultCapacity ∧
    Gen.heights_FirstHeight = 0 ∧ Gen.heights_FirstRound = 1 ∧
    (newCtrl true).height = Gen.heights_FirstHeight ∧ (newInst 7).round = Gen.heights_FirstRound ∧
    Gen.heights_highestInstanceKey ≠ Gen.heights_instanceKey := by decide

/-- `Controller.SaveInstance` is where the controller package writes to the store (three Save* calls, in this order,
    selected by `fullNode` and `isHighest := msg.Height >= c.Height`); none of the other controller functions on the
    modelled paths touches the storage's Save*; `UponDecided`: `InstanceForHeight`, then `FindInstance` +
    `addNewInstance` (the reloaded instance is kept), then the branches (`addNewInstance` for a new instance,
    `IsDecided`, comparison with `LongestUniqueSignersForRoundAndRoot`), then `FindInstance` + `c.SaveInstance`; reads go
    through `GetInstance` / `GetHighestInstance` only -/
theorem C15_tie_controller_callsites :
    Gen.calls_heights_SaveInstance =
      ["GetStorage().SaveHighestAndHistoricalInstance", "GetStorage().SaveInstance", "GetStorage().SaveHighestInstance"] ∧
    Gen.lits_heights_SaveInstance = ["u&", ">="] ∧
    Gen.calls_heights_UponDecided =
      ["ValidateDecided", "errors.Wrap", "InstanceForHeight", "FindInstance", "addNewInstance", "addNewInstance", "IsDecided",
       "LongestUniqueSignersForRoundAndRoot", "FindInstance", "c.SaveInstance", "NewDecidedHandler"] ∧
    Gen.calls_heights_StartNewInstance = ["FindInstance", "addAndStoreNewInstance", "forceStopAllInstanceExceptCurrent"] ∧
    Gen.calls_heights_UponExistingInstanceMsg = ["InstanceForHeight"] ∧
    Gen.calls_heights_ProcessMsg = ["BaseMsgValidation", "IsDecidedMsg", "UponDecided", "isFutureMessage", "UponExistingInstanceMsg"] ∧
    Gen.calls_heights_InstanceForHeight = ["FindInstance", "GetStorage().GetInstance"] ∧
    Gen.calls_heights_addAndStoreNewInstance = ["addNewInstance"] ∧
    Gen.calls_heights_LoadHighestInstance = ["getHighestInstance", "reset", "addNewInstance"] ∧
    Gen.calls_heights_getHighestInstance = ["GetStorage().GetHighestInstance", "Compact"] ∧
    Gen.calls_heights_OnTimeout = [] := ⟨rfl, rfl, rfl, rfl, rfl, rfl, rfl, rfl, rfl, rfl, rfl⟩

/-- the container code: comparison / arithmetic skeleton of `addNewInstance` and `FindInstance` -/
theorem C15_tie_container :
    Gen.lits_heights_addNewInstance = ["==", "0", "0", "<", "==", "<", "==", "+", "1", "+", "1"] ∧
    Gen.lits_heights_FindInstance = ["!=", "=="] := ⟨rfl, rfl⟩

/-- the store: a compacted copy; each key is read (`GetHighestInstance` / `GetInstance`) and written (`save`) only if
    `replaces` says so; `replaces` = nil checks, height `!=` → `<`, else signer counts `<` -/
theorem C15_tie_store :
    Gen.calls_heights_store_saveInstance = ["CompactCopy", "GetHighestInstance", "replaces", "save", "GetInstance", "replaces", "save"] ∧
    Gen.lits_heights_replaces = ["||", "||", "||", "==", "==", "==", "==", "!=", "<", "<"] := ⟨rfl, rfl⟩

/-- order facts the model relies on:
    * in `UponDecided` the only error that is RETURNED is the wrapped `ValidateDecided` error (one `errors.Wrap`, before
      anything else); a `SaveInstance` failure is logged, and the height bump / `NewDecidedHandler` follow the save block;
    * in `baseConsensusMsgProcessing` the runner's `SaveInstance` comes BEFORE the decided value is decoded and validated -/
theorem C15_tie_save_order :
    Gen.calls_heights_UponDecided.filter (· == "errors.Wrap") = ["errors.Wrap"] ∧
    Gen.calls_heights_UponDecided.head? = some "ValidateDecided" ∧
    (Gen.calls_heights_UponDecided.dropWhile (· != "c.SaveInstance")) = ["c.SaveInstance", "NewDecidedHandler"] ∧
    (Gen.calls_heights_baseConsensusMsgProcessing.dropWhile (· != "QBFTController.SaveInstance")) =
      ["QBFTController.SaveInstance", "decidedValue.Decode", "validateDecidedConsensusData"] := by decide

/-- `Validator.Start` loads the highest instance and sets the runner's highest decided slot; `baseStartNewDuty` = guard,
    new state, executeDuty; `decide` starts the instance and looks it up; the runner compacts after ProcessMsg and then
    saves through the controller's `SaveInstance` -/
theorem C15_tie_runner_callsites :
    Gen.calls_heights_ValidatorStart = ["LoadHighestInstance", "SetHighestDecidedSlot"] ∧
    Gen.calls_heights_baseStartNewDuty = ["ShouldProcessDuty", "baseSetupForNewDuty", "executeDuty"] ∧
    Gen.calls_heights_decide = ["StartNewInstance", "InstanceForHeight"] ∧
    Gen.calls_heights_compactInstanceIfNeeded = ["FindInstance", "IsDecidedMsg", "Compact"] ∧
    Gen.calls_heights_baseConsensusMsgProcessing =
      ["ProcessMsg", "compactInstanceIfNeeded", "didDecideCorrectly", "FindInstance", "QBFTController.SaveInstance",
       "decidedValue.Decode", "validateDecidedConsensusData"] ∧
    Gen.calls_heights_attester_executeDuty = ["GetAttestationData", "decide"] := ⟨rfl, rfl, rfl, rfl, rfl, rfl⟩

/-! ## clause 1 — no consensus start at or below a height already started or learned decided -/

/-- CLAUSE 1, in full (in-process): whenever an op starts consensus for `slot` — attester-style `start`, or the `decide`
    of a two-phase runner — `slot` is strictly above every height started or learned decided (valid decided message
    delivered, whether or not the store write succeeded) since the last restart, and above the stored highest height at
    that restart. Full and light nodes, any mode switches at restarts. -/
theorem C15_no_restart_of_old_height (full : Bool) (q : Nat) (ops : List Op) (op : Op) (slot : Nat)
    (hcs : consensusStart (runSeen (init full q) [] ops).1 op = some slot) :
    ∀ h ∈ (runSeen (init full q) [] ops).2, h < slot :=
  fun h hh => consensusStart_above hcs
    (Seen.runSeen (s := init full q) (CInv.init full) (fun _ hx => absurd hx List.not_mem_nil) ops h hh)

/-- non-vacuity: a full node that restarted with highest 5 starts slot 6; a future decided message learned during a
    failing store write still bumps the height: the duty in between is refused, the one above is fine -/
example : consensusStart (runSeen (init true 3) [] [.decided 5 1 110 [1, 2, 3] true false, .restart true]).1 (.start 6) = some 6 ∧
    (runSeen (init true 3) [] [.decided 5 1 110 [1, 2, 3] true false, .restart true]).2 = [5] ∧
    (runSeen (init false 3) [] [.start 5, .decidedSF 10 1 120 [1, 2, 3] true false]).2 = [5, 10] ∧
    (runSeen (init false 3) [] [.start 5, .decidedSF 10 1 120 [1, 2, 3] true false]).1.s.highest = none ∧
    consensusStart (runSeen (init false 3) [] [.start 5, .decidedSF 10 1 120 [1, 2, 3] true false]).1 (.start 7) = none ∧
    consensusStart (runSeen (init false 3) [] [.start 5, .decidedSF 10 1 120 [1, 2, 3] true false]).1 (.start 11) = some 11 := by
  decide

/-- everything of a decided message except the store write is independent of a store failure: the controller after
    `decidedSF` is the controller after `decided` (from ANY state), and through the controller path nothing is written -/
theorem C15_store_failure_keeps_controller (s : State) (h r root : Nat) (sg : List Nat) (ok via : Bool) :
    (step s (.decidedSF h r root sg ok via)).1.c = (step s (.decided h r root sg ok via)).1.c ∧
    (step s (.decidedSF h r root sg ok false)).1.s = s.s :=
  ⟨step_decidedSF_c s h r root sg ok via, rfl⟩

/-- a commit-type message BELOW quorum is not a decided message: it takes the ordinary commit path
    (`UponExistingInstanceMsg`), which never writes to the store and never moves the controller height — from ANY state,
    valid or not; so it teaches nothing and cannot weaken any clause -/
theorem C15_below_quorum_commit_is_not_decided (s : State) (h r root : Nat) (sg : List Nat) (ok : Bool)
    (hlt : sg.length < s.q) :
    (step s (.decided h r root sg ok false)).1.s = s.s ∧
    (step s (.decided h r root sg ok false)).1.c.height = s.c.height ∧
    learns s (.decided h r root sg ok false) = [] := by
  have hp : (processMsg s.q s.c s.s h ⟨r, root, sg⟩ ok).2.1 = s.s ∧
      (processMsg s.q s.c s.s h ⟨r, root, sg⟩ ok).1.height = s.c.height := by
    rcases processMsg_cases s.q s.c s.s h ⟨r, root, sg⟩ ok with he | ⟨_, hq, _⟩ | ⟨_, _, he⟩
    · rw [he]; exact ⟨rfl, rfl⟩
    · exact absurd hq (Nat.not_le_of_lt hlt)
    · rw [he]; exact ⟨rfl, (existingMsg_height_full _ _ _ _ _).1⟩
  refine ⟨hp.1, hp.2, ?_⟩
  show (if (ok && decide (s.q ≤ sg.length)) = true then [h] else []) = []
  rw [decide_eq_false (Nat.not_le_of_lt hlt), Bool.and_false]
  rfl

/-- non-vacuity: after a commit-quorum decision a fourth operator's single commit is filed (one more commit), a repeated
    one is a duplicate, a two-signer one is rejected; the store is the same in all three cases -/
example :
    (step (run (init false 3) [.start 2, .commits 104 true]) (.decided 2 1 104 [4] true false)).2 = .ddup ∧
    ((step (run (init false 3) [.start 2, .commits 104 true]) (.decided 2 1 104 [4] true false)).1.c.insts.map (·.commits.length)) = [4] ∧
    (step (run (init false 3) [.start 2, .commits 104 true]) (.decided 2 1 104 [3] true false)).1 =
      (run (init false 3) [.start 2, .commits 104 true]) ∧
    (step (run (init false 3) [.start 2, .commits 104 true]) (.decided 2 1 104 [1, 2] true false)).2 = .derr := by decide

/-! ## clause 2 — the highest decided instance survives a restart -/

/-- a restart leaves the store untouched, and when a highest record exists the new process resumes with it:
    controller height, the loaded (compacted) instance as the only one in the container, the runner's highest decided
    slot, no running duty — for full and light mode alike, from ANY state -/
theorem C15_highest_survives_restart (s : State) (f : Bool) :
    (step s (.restart f)).1.s = s.s ∧
    ∀ a, s.s.highest = some a →
      (step s (.restart f)).1.c.height = a.inst.height ∧
      (step s (.restart f)).1.c.insts = [trim a.inst] ∧
      (step s (.restart f)).1.r.hds = a.inst.height ∧
      (step s (.restart f)).1.r.duty = none ∧
      (step s (.restart f)).2 = .loaded := by
  refine ⟨(restartStep_cs s f).2.1, ?_⟩
  intro a ha
  obtain ⟨h1, h2, _, h4⟩ := loadHighest_some (c := newCtrl f) ha
  show (restartStep s f).1.c.height = _ ∧ (restartStep s f).1.c.insts = _ ∧ (restartStep s f).1.r.hds = _ ∧
    (restartStep s f).1.r.duty = none ∧ (restartStep s f).2 = .loaded
  unfold restartStep
  simp only [h4]
  refine ⟨h1, h2, ?_⟩
  simp [newRunner]

example : (run (init false 3) [.decided 5 1 110 [1, 2, 3] true false]).s.highest =
    some ⟨⟨5, 1, true, false, [⟨1, 110, [1, 2, 3]⟩], none⟩, ⟨1, 110, [1, 2, 3]⟩⟩ := by decide

/-- … and it still refuses older or equal duties: once a height is stored as highest, NO later history — with any
    number of further restarts, in either mode — ever starts consensus at or below it (attester-style or two-phase) -/
theorem C15_stored_highest_never_rerun (full : Bool) (q : Nat) (ops ops' : List Op) (op : Op) (a : Stored) (slot : Nat)
    (ha : (run (init full q) ops).s.highest = some a)
    (hcs : consensusStart (run (run (init full q) ops) ops') op = some slot) :
    a.inst.height < slot := by
  -- the record `b` stored at the end is not below `a`, and `CInv` there makes its height one that `StartNewInstance` refuses
  have inv := (CInv.reach full q ops).run ops'
  obtain ⟨b, hb, hab⟩ := run_highest_mono ha ops'
  have hle := inv.le b hb
  exact consensusStart_above hcs ⟨Nat.le_trans hab hle, fun he => inv.live b hb (Nat.le_antisymm hle (he ▸ hab))⟩

example : consensusStart (run (run (init true 3) [.decided 5 1 110 [1, 2, 3] true false]) [.restart false, .begin 8, .restart true])
    (.start 6) = some 6 := by decide

/-- "the highest decided instance" is what is stored: on histories without store-write failures, every valid decided
    message at or above the controller height ends up as (or already is) the stored highest record — full and light
    nodes (mechanism: "save as highest only if height >= current"; a write that was made to fail cannot be there) -/
theorem C15_top_decided_is_stored (full : Bool) (q : Nat) (ops : List Op) (hnf : NoStoreFail ops)
    (h r root : Nat) (sg : List Nat) (via : Bool)
    (hq : q ≤ sg.length) (hge : (run (init full q) ops).c.height ≤ h) :
    ∃ b, (step (run (init full q) ops) (.decided h r root sg true via)).1.s.highest = some b ∧ b.inst.height = h :=
  top_decided_stored (SInvAll.reach full q ops hnf) h r root sg via (by rw [run_q]; exact hq) hge

example : NoStoreFail [.start 9, .decided 5 1 110 [1, 2, 3] true false, .restart true] ∧
    (run (init true 3) [.start 9, .decided 5 1 110 [1, 2, 3] true false, .restart true]).c.height ≤ 5 := by
  refine ⟨?_, by decide⟩
  intro op hop h r root sg ok via he
  subst he
  simp at hop

/-- a decision of the running instance by a commit quorum is saved BEFORE the runner validates the decided value: the
    controller and the store after `commits` do not depend on the value check (only error / nil of `ProcessConsensus`
    and whether the duty takes the decided value do) -/
theorem C15_decided_instance_saved_before_value_check (s : State) (root : Nat) :
    (step s (.commits root false)).1.c = (step s (.commits root true)).1.c ∧
    (step s (.commits root false)).1.s = (step s (.commits root true)).1.s := by
  show (commitsStep s root false).1.c = (commitsStep s root true).1.c ∧
    (commitsStep s root false).1.s = (commitsStep s root true).1.s
  rcases commitsStep_cases s root with h | ⟨_, _, _, _, _, h⟩
  · rw [(h false).1, (h true).1]; exact ⟨rfl, rfl⟩
  · rw [(h false).ctrl, (h false).store, (h true).ctrl, (h true).store]; exact ⟨rfl, rfl⟩

/-- … and when that instance is at the controller height (nothing higher learned meanwhile) the decided height IS the
    stored highest afterwards, whatever the value check says — on every reachable state; so by
    `C15_highest_survives_restart` / `C15_stored_highest_never_rerun` it survives restarts and is never run again -/
theorem C15_commit_quorum_decision_is_stored (full : Bool) (q : Nat) (ops : List Op) (hnf : NoStoreFail ops)
    (root : Nat) (vc : Bool) (rh : Nat)
    (hrun : (run (init full q) ops).r.running = some rh) (hge : (run (init full q) ops).c.height ≤ rh)
    (happ : (step (run (init full q) ops) (.commits root vc)).2 ≠ .na) :
    ∃ b, (step (run (init full q) ops) (.commits root vc)).1.s.highest = some b ∧ b.inst.height = rh := by
  have inv := SInvAll.reach full q ops hnf
  show ∃ b, (commitsStep (run (init full q) ops) root vc).1.s.highest = some b ∧ _
  rcases commitsStep_cases (run (init full q) ops) root with hna | ⟨rh', i, hr', hf, hnd, h⟩
  · exact absurd (hna vc).2 happ
  · rw [hrun] at hr'
    cases hr'
    rw [(h vc).store, inv.rinv.noValue hrun hf hnd]
    exact saveFound_stores (commitsCtrl_find hf root) hge (fun a ha => Nat.le_trans (inv.cinv.le a ha) hge)

example : (step (run (init false 3) [.start 12]) (.commits 124 false)).2 = .cerr ∧
    ((step (run (init false 3) [.start 12]) (.commits 124 false)).1.s.highest.map (·.inst.height)) = some 12 ∧
    consensusStart (run (init false 3) [.start 12, .commits 124 false, .restart false]) (.start 12) = none := by decide

/-! ## clause 3 — stored decided instances are only replaced upwards -/

/-- CLAUSE 3, in full, from ANY state and for every op: the highest record is never lost and is only ever replaced by a
    record for a higher height or, at the same height, by a certificate with more signers (`Mono`: unchanged in
    (height, certificate), or higher, or same height with more signers); and the same for the historical record of
    every height. (The store itself enforces it: `saveInstance` writes a key only if `replaces`.) -/
theorem C15_highest_replaced_monotone (s : State) (op : Op) :
    (∀ a, s.s.highest = some a → ∃ b, (step s op).1.s.highest = some b ∧
      ((b.inst.height = a.inst.height ∧ b.cert = a.cert) ∨ a.inst.height < b.inst.height ∨
       (a.inst.height = b.inst.height ∧ a.cert.signers.length < b.cert.signers.length))) ∧
    (∀ h a, histGet s.s.hist h = some a → ∃ b, histGet (step s op).1.s.hist h = some b ∧
      ((b.inst.height = a.inst.height ∧ b.cert = a.cert) ∨ a.inst.height < b.inst.height ∨
       (a.inst.height = b.inst.height ∧ a.cert.signers.length < b.cert.signers.length))) :=
  step_store_mono s op

/-- non-vacuity: a same-height replacement by more signers happens; one by fewer signers of another round does not -/
example : ((step (run (init false 3) [.decided 5 1 110 [1, 2, 3] true false]) (.decided 5 1 110 [1, 2, 3, 4] true false)).1.s.highest.map
      (·.cert)) = some ⟨1, 110, [1, 2, 3, 4]⟩ ∧
    ((step (run (init false 3) [.start 5, .decided 5 2 110 [1, 2, 3, 4] true false]) (.decided 5 1 110 [1, 3, 4] true false)).1.s.highest.map
      (·.cert)) = some ⟨2, 110, [1, 2, 3, 4]⟩ := by decide

/-- along any history (restarts included) the highest record is never lost and its height never decreases -/
theorem C15_highest_height_monotone (s : State) (ops : List Op) (a : Stored) (ha : s.s.highest = some a) :
    ∃ b, (run s ops).s.highest = some b ∧ a.inst.height ≤ b.inst.height :=
  run_highest_mono ha ops

/-! ## regression: the three defects of the tree before the fixes (Ssv/Model/HeightsOld.lean) -/

def witnessReload : List Op :=
  [.start 9, .decided 5 1 110 [1, 2, 3] true false, .restart true, .begin 5, .decided 5 1 110 [1, 2, 3] true false]

/-- F3 (fixed by 26e2e6b00). Old semantics: a full node re-ran a height it had learned decided — the instance reloaded
    from storage was neither kept nor saved as highest, so the late `decide` succeeded. Current model: refused, and the
    height is stored as highest. -/
theorem C15_regression_reloaded_instance_kept :
    ((stepOld (runOld (init true 3) witnessReload) .decide).2 = .ok ∧
      (runOld (init true 3) witnessReload).c.height = 5 ∧ (runOld (init true 3) witnessReload).s.highest = none) ∧
    ((step (run (init true 3) witnessReload) .decide).2 = .refused ∧
      ((run (init true 3) witnessReload).s.highest.map (·.inst.height)) = some 5) := by decide

/-- F1 (fixed by 358626700). Old semantics: stored (round 2, 4 signers) was replaced by (round 1, 3 signers) at the same
    height. Current model: kept. -/
theorem C15_regression_other_round_fewer_signers :
    ((stepOld (runOld (init false 3) [.start 5, .decided 5 2 110 [1, 2, 3, 4] true false])
        (.decided 5 1 110 [1, 3, 4] true false)).1.s.highest.map (·.cert)) = some ⟨1, 110, [1, 3, 4]⟩ ∧
    ((step (run (init false 3) [.start 5, .decided 5 2 110 [1, 2, 3, 4] true false])
        (.decided 5 1 110 [1, 3, 4] true false)).1.s.highest.map (·.cert)) = some ⟨2, 110, [1, 2, 3, 4]⟩ := by decide

/-- F2 (fixed by 358626700). Old semantics: within ONE (round, root) a stored (round 1, 4 signers) was replaced by
    (round 1, 3 signers) once compaction had trimmed that round (State.Round = 2). Current model: kept. -/
theorem C15_regression_same_round_trimmed_bucket :
    ((stepOld (runOld (init false 3) [.decided 5 2 110 [1, 2, 3] true true, .decided 5 1 110 [1, 2, 3, 4] true true])
        (.decided 5 1 110 [1, 2, 4] true true)).1.s.highest.map (·.cert)) = some ⟨1, 110, [1, 2, 4]⟩ ∧
    ((step (run (init false 3) [.decided 5 2 110 [1, 2, 3] true true, .decided 5 1 110 [1, 2, 3, 4] true true])
        (.decided 5 1 110 [1, 2, 4] true true)).1.s.highest.map (·.cert)) = some ⟨1, 110, [1, 2, 3, 4]⟩ := by decide

/-- the historical-record variant: old semantics let the first decided message of a re-run instance overwrite the
    historical (round 1, 4 signers) by (round 1, 3 signers). Current model: kept. -/
theorem C15_regression_historical_overwritten :
    ((histGet (stepOld (runOld (init true 3) [.start 9, .decided 5 1 110 [1, 2, 3, 4] true false, .restart true, .start 5])
        (.decided 5 1 110 [1, 2, 3] true false)).1.s.hist 5).map (·.cert)) = some ⟨1, 110, [1, 2, 3]⟩ ∧
    ((histGet (step (run (init true 3) [.start 9, .decided 5 1 110 [1, 2, 3, 4] true false, .restart true, .start 5])
        (.decided 5 1 110 [1, 2, 3] true false)).1.s.hist 5).map (·.cert)) = some ⟨1, 110, [1, 2, 3, 4]⟩ := by decide

end Ssv.Heights
