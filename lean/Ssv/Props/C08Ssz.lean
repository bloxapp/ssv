/-
C08 — byte-level part: the SSZ decoders that run on attacker-supplied bytes never panic.

Model: `Ssv/Model/Ssz.lean` — the fastssz-generated `UnmarshalSSZ` methods of ssv-spec v0.3.7 reached from
`commons.DecodeNetworkMsg`, `queue.DecodeSSVMessage` and the message validator, plus the fastssz helpers they call, with every
Go slice expression and fixed-width read an explicit partial operation whose failure is the outcome `panic`.

Statements are for EVERY byte string (any length, any content; no bound): the outcome is a decoded value or an error, never a
panic; a decoded value obeys the size limits the rest of the pipeline relies on; every well-formed message has an encoding that
decodes back to it (so the accepting path is reachable: the never-panics statements are not true for want of accepted inputs).
Helper lemmas: `Ssv/Proofs/Ssz.lean`, `Ssv/Proofs/SszRoundTrip.lean`.
-/
import Ssv.Proofs.Ssz
import Ssv.Proofs.SszRoundTrip
import Ssv.Gen.Ssz

namespace Ssv.Ssz

/-! ### never panics — for every byte string -/

/-- `types.SSVMessage.UnmarshalSSZ` (= `commons.DecodeNetworkMsg`) -/
theorem C08_ssz_SSVMessage_never_panics (buf : List Nat) : decodeSSV buf ≠ .panic := (decodeSSV_sat buf).np

/-- `qbft.Message.UnmarshalSSZ`, including both dynamic justification lists (`DecodeDynamicLength` + `UnmarshalDynamic`) -/
theorem C08_ssz_QbftMessage_never_panics (buf : List Nat) : decodeQMsg buf ≠ .panic := (decodeQMsg_sat buf).np

/-- `qbft.SignedMessage.UnmarshalSSZ` (body of a consensus `SSVMessage`, and every embedded justification) -/
theorem C08_ssz_SignedMessage_never_panics (buf : List Nat) : decodeSigned buf ≠ .panic := (decodeSigned_sat buf).np

/-- `types.PartialSignatureMessage.UnmarshalSSZ` -/
theorem C08_ssz_PartialSignatureMessage_never_panics (buf : List Nat) : decodePSig buf ≠ .panic := (decodePSig_sat buf).np

/-- `types.PartialSignatureMessages.UnmarshalSSZ` -/
theorem C08_ssz_PartialSignatureMessages_never_panics (buf : List Nat) : decodePSigs buf ≠ .panic := (decodePSigs_sat buf).np

/-- `types.SignedPartialSignatureMessage.UnmarshalSSZ` (body of a partial-signature `SSVMessage`) -/
theorem C08_ssz_SignedPartialSignatureMessage_never_panics (buf : List Nat) : decodeSPSig buf ≠ .panic :=
  (decodeSPSig_sat buf).np

/-- the list helper alone, for ANY source bytes, claimed length, start state of the loop and element decoder that does not
    panic itself: `src[offset:endOffset]` is always guarded by `offset ≤ endOffset ≤ len(src)` -/
theorem C08_ssz_dynamic_loop_never_panics {α : Type} (src : List Nat) (f : List Nat → Res α) (hf : ∀ b, f b ≠ .panic)
    (n offset : Nat) (dst : List Nat) : dynLoop src f n offset dst ≠ .panic :=
  (dynLoop_sat src (fun b => .of_np (hf b)) n offset dst).np

/-- `UnmarshalDynamic` reads `ReadOffset(src)` and `src[4:]` WITHOUT a length check of its own: it is safe only because the
    length handed to it comes from `DecodeDynamicLength` on the same bytes (a non-zero length needs four bytes).  Both halves: -/
theorem C08_ssz_unmarshalDynamic_needs_its_length_guard :
    unmarshalDynamic (α := List Nat) [1, 2] 1 (justItem 65536) = .panic ∧
    ∀ (src : List Nat) (m n : Nat), decodeDynamicLength src m = .ok n →
      unmarshalDynamic src n (justItem 65536) ≠ .panic :=
  ⟨by decide, fun src _ n h =>
    have ⟨_, h4⟩ := (decodeDynamicLength_sat src _).of_ok h
    (unmarshalDynamic_sat (justItem_sat _) h4).np⟩

/-! ### what a successful decode guarantees -/

/-- an accepted `SSVMessage`: 56-byte id, payload within the limit -/
theorem C08_ssz_SSVMessage_bounds {buf : List Nat} {m : SSVMessage} (h : decodeSSV buf = .ok m) :
    m.msgID.length = 56 ∧ m.data.length ≤ 6291829 :=
  have ⟨hid, hd, _⟩ := (decodeSSV_sat buf).of_ok h
  ⟨hid, hd⟩

/-- an accepted `SignedMessage`: 96-byte signature, at most 13 signers, bounded full data, identifier ≤ 56 bytes, 32-byte root,
    at most 13 justifications per list, each at most 65536 bytes -/
theorem C08_ssz_SignedMessage_bounds {buf : List Nat} {m : SignedMsg} (h : decodeSigned buf = .ok m) :
    m.signature.length = 96 ∧ m.signers.length ≤ 13 ∧ m.fullData.length ≤ 5243144 ∧
    m.message.identifier.length ≤ 56 ∧ m.message.root.length = 32 ∧
    m.message.rcj.length ≤ 13 ∧ (∀ j ∈ m.message.rcj, j.length ≤ 65536) ∧
    m.message.pj.length ≤ 13 ∧ (∀ j ∈ m.message.pj, j.length ≤ 65536) := by
  obtain ⟨hsig, hsigners, hfull, hb⟩ := (decodeSigned_sat buf).of_ok h
  exact ⟨hsig, hsigners, hfull, hb.identifier, hb.root, hb.rcjCount, hb.rcjSize, hb.pjCount, hb.pjSize⟩

/-- an accepted `SignedPartialSignatureMessage`: 96-byte signature, at most 13 partial signatures -/
theorem C08_ssz_SignedPartialSignatureMessage_bounds {buf : List Nat} {m : SPSig} (h : decodeSPSig buf = .ok m) :
    m.signature.length = 96 ∧ m.message.messages.length ≤ 13 := (decodeSPSig_sat buf).of_ok h

/-! ### round trips: the accepting paths are reachable for every well-formed message -/

theorem C08_ssz_SSVMessage_roundtrip (m : SSVMessage) (hid : m.msgID.length = 56) (ht : m.msgType < 2 ^ 64)
    (hd : m.data.length ≤ 6291829) : decodeSSV (encodeSSV m) = .ok m := decode_encodeSSV m hid ht hd

theorem C08_ssz_SignedPartialSignatureMessage_roundtrip (m : SPSig) (h : m.WF) : decodeSPSig (encodeSPSig m) = .ok m :=
  decode_encodeSPSig h

/-- the dynamic list codec (offset table + items, as the generated `MarshalSSZTo` writes the justification lists): for EVERY list
    of byte lists within the limits, `DecodeDynamicLength` returns its length and `UnmarshalDynamic` returns the list itself -/
theorem C08_ssz_dynamic_list_roundtrip (items : List (List Nat)) (hn : items.length ≤ 13)
    (hM : ∀ x ∈ items, x.length ≤ 65536) :
    decodeDynamicLength (encodeDyn items) 13 = .ok items.length ∧
    unmarshalDynamic (encodeDyn items) items.length (justItem 65536) = .ok items := dynList_enc hn hM (by decide)

/-- the whole `qbft.Message` (three offsets, identifier, two dynamic justification lists): every message within the limits of the
    generated code decodes back from its encoding -/
theorem C08_ssz_QbftMessage_roundtrip (m : QMsg) (h : m.WF) : decodeQMsg (encodeQMsg m) = .ok m := decode_encodeQMsg h

/-- the outer `qbft.SignedMessage` (signature, signer list, embedded message, full data): every message within the limits of the
    generated code decodes back from its encoding — with the theorems above, every SSZ decoder of the validation path has a
    proved round trip -/
theorem C08_ssz_SignedMessage_roundtrip (m : SignedMsg) (h : m.WF) : decodeSigned (encodeSigned m) = .ok m :=
  decode_encodeSigned h

/-- non-vacuity: a message with an identifier, one round-change justification and two prepare justifications is well-formed -/
example : ({ msgType := 1, height := 2, round := 3, identifier := [7, 7], root := List.replicate 32 9, dataRound := 0,
             rcj := [[1, 2, 3]], pj := [[5], [6, 6]] } : QMsg).WF :=
  ⟨by decide +kernel, by decide +kernel, by decide +kernel, by decide +kernel, ⟨by decide +kernel, by decide +kernel, by decide +kernel, by decide +kernel, by decide +kernel, by decide +kernel⟩⟩

/-- non-vacuity of the well-formedness predicate: a message with two partial signatures -/
example : (⟨⟨1, 7, [⟨List.replicate 96 5, List.replicate 32 6, 3⟩, ⟨List.replicate 96 8, List.replicate 32 9, 4⟩]⟩,
    List.replicate 96 1, 2⟩ : SPSig).WF :=
  have wf (s r k : Nat) (hk : k < 2 ^ 64) : (⟨List.replicate 96 s, List.replicate 32 r, k⟩ : PSig).WF :=
    ⟨List.length_replicate, List.length_replicate, hk⟩
  ⟨List.length_replicate, by decide, ⟨by decide, by decide, by decide,
    List.forall_mem_cons.mpr ⟨wf 5 6 3 (by decide), List.forall_mem_cons.mpr ⟨wf 8 9 4 (by decide), nofun⟩⟩⟩⟩

/-- a concrete `qbft.Message` encoding with one round-change justification and two prepare justifications decodes (the dynamic
    list path is reachable), and the same bytes with the first inner offset pointing past the end are refused, not a panic -/
example :
    decodeQMsg ([1,0,0,0,0,0,0,0] ++ [2,0,0,0,0,0,0,0] ++ [3,0,0,0,0,0,0,0] ++ [76,0,0,0] ++ List.replicate 32 9 ++
      [0,0,0,0,0,0,0,0] ++ [78,0,0,0] ++ [85,0,0,0] ++ [7,7] ++ ([4,0,0,0] ++ [1,2,3]) ++ ([8,0,0,0] ++ [9,0,0,0] ++ [5] ++ [6,6]))
    = .ok { msgType := 1, height := 2, round := 3, identifier := [7,7], root := List.replicate 32 9, dataRound := 0,
            rcj := [[1,2,3]], pj := [[5],[6,6]] } := by decide +kernel

example :
    decodeQMsg ([1,0,0,0,0,0,0,0] ++ [2,0,0,0,0,0,0,0] ++ [3,0,0,0,0,0,0,0] ++ [76,0,0,0] ++ List.replicate 32 9 ++
      [0,0,0,0,0,0,0,0] ++ [78,0,0,0] ++ [85,0,0,0] ++ [7,7] ++ ([4,0,0,0] ++ [1,2,3]) ++ ([8,0,0,0] ++ [99,0,0,0] ++ [5] ++ [6,6]))
    = .err := by decide +kernel

/-! ### fidelity of the representation (bytes are `Nat`s in the model) -/

/-- on a genuine byte string (every element < 256) the decoded integer is a genuine uint64 — the `Nat`-valued fields of the model
    do not exceed what the Go fields can hold -/
theorem C08_ssz_decoded_integer_is_uint64 {buf : List Nat} {m : SSVMessage} (hb : ∀ b ∈ buf, b < 256)
    (h : decodeSSV buf = .ok m) : m.msgType < 2 ^ 64 :=
  have ⟨_, _, ht⟩ := (decodeSSV_sat buf).of_ok h
  ht hb

/-- the encoder writes genuine bytes when the payload consists of bytes -/
theorem C08_ssz_encoder_writes_bytes (m : SSVMessage) (hid : ∀ b ∈ m.msgID, b < 256) (hd : ∀ b ∈ m.data, b < 256) :
    ∀ b ∈ encodeSSV m, b < 256 := encodeSSV_bytes m hid hd

/-! ### tie: the limits and slice bounds of the model are the literals of the generated code -/

def opToks : List String := ["<", ">", "==", "!=", "||", "++", "*", "+", "u!", "--", "/", "%"]

/-- the numeric literals of a literal/operator list, in order -/
def nums (l : List String) : List String := l.filter fun s => !decide (s ∈ opToks)

theorem C08_tie_ssz_SSVMessage :
    nums Gen.lits_ssz_SSVMessage = ["68", "0", "8", "8", "64", "64", "68", "68", "6291829", "0", "0"] ∧
    (ssvFixed, ssvMaxData) = (68, 6291829) := ⟨by decide +kernel, rfl⟩

theorem C08_tie_ssz_QbftMessage :
    nums Gen.lits_ssz_QMessage =
      ["76", "0", "8", "8", "16", "16", "24", "24", "28", "76", "28", "60", "60", "68", "68", "72", "72", "76", "56", "0", "0",
       "13", "65536", "0", "0", "13", "65536", "0", "0"] ∧
    (qmsgFixed, maxIdentifier, maxJustifications, maxJustificationSize) = (76, 56, 13, 65536) ∧
    Gen.lits_ssz_QMessage.filter (fun s => decide (s ∈ ["||", ">", "<"])) =
      ["<", ">", "<", "||", ">", ">", "||", ">", ">", ">", ">", ">"] := ⟨by decide +kernel, rfl, by decide +kernel⟩

theorem C08_tie_ssz_SignedMessage :
    nums Gen.lits_ssz_SignedMessage =
      ["108", "0", "0", "0", "96", "0", "96", "96", "100", "108", "100", "104", "104", "108", "8", "13", "0", "8", "1", "8",
       "5243144", "0", "0"] ∧
    (signedFixed, maxSigners, maxFullData) = (108, 13, 5243144) ∧
    Gen.lits_ssz_SignedMessage.filter (fun s => decide (s ∈ ["||", ">", "<"])) =
      ["<", ">", "<", "||", ">", ">", "||", ">", ">", "<", ">"] := ⟨by decide +kernel, rfl, by decide +kernel⟩

theorem C08_tie_ssz_PartialSignatures :
    nums Gen.lits_ssz_PSig = ["136", "0", "0", "0", "96", "0", "96", "96", "128", "128", "136"] ∧
    nums Gen.lits_ssz_PSigs = ["20", "0", "8", "8", "16", "16", "20", "20", "136", "13", "0", "136", "1", "136"] ∧
    nums Gen.lits_ssz_SPSig = ["108", "0", "4", "108", "0", "0", "4", "100", "4", "100", "100", "108"] ∧
    (psigSize, psigsFixed, maxPSigs, spsigFixed) = (136, 20, 13, 108) := ⟨by decide +kernel, by decide +kernel, by decide +kernel, rfl⟩

/-- the fastssz helpers the model was written against (guards and their order) -/
theorem C08_tie_ssz_helpers :
    Gen.lits_ssz_DecodeDynamicLength.filter (fun s => decide (s ∈ opToks ∨ s ∈ ["0", "1", "4"])) = ["==", "0", "0", "<", "4", "0", "4", "u!", "0", ">", "0"] ∧
    Gen.lits_ssz_UnmarshalDynamic.filter (fun s => decide (s ∈ opToks ∨ s ∈ ["0", "1", "4"])) = ["==", "0", "0", "4", "!=", "1", "!=", ">", ">", "!=", "++", "==", "1", "--"] ∧
    Gen.lits_ssz_safeReadOffset.filter (fun s => decide (s ∈ opToks ∨ s ∈ ["0", "1", "4"])) = ["<", "4", "0", "4"] ∧
    Gen.lits_ssz_DivideInt2.filter (fun s => decide (s ∈ opToks ∨ s ∈ ["0", "1", "4"])) = ["u!", "0", ">", "0"] ∧
    Gen.lits_ssz_DivideInt = ["/", "==", "%", "0"] := ⟨by decide +kernel, by decide +kernel, by decide +kernel, by decide +kernel, rfl⟩

end Ssv.Ssz
