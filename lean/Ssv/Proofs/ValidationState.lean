/-
C09 helper lemmas: how the state update touches the per-signer map (frame / pointwise characterisation),
what an accepted message guarantees about the signer list, and congruence of `check` in the part of the
state it reads.
-/
import Ssv.Proofs.ValidationPanic

namespace Ssv.Validation
open Ssv

theorem State.set_same (st : State) (k : Key) (v : SignerState) : (st.set k v) k = some v := by
  simp [State.set]

theorem State.set_other (st : State) (k k' : Key) (v : SignerState) (h : k' ≠ k) : (st.set k v) k' = st k' := by
  simp [State.set, h]

/-! ## signers of an accepted message are strictly increasing -/

theorem commonSigner_ok (sh : Share) (s : Nat) (h : commonSigner sh s = .ok ()) : s ≠ 0 ∧ s ∈ sh.committee := by
  simp only [commonSigner, firstFail_cons_ok_iff] at h
  obtain ⟨h0, hmem, -⟩ := h
  exact ⟨rejectIf_decide_ok.mp h0, List.contains_iff_mem.mp (rejectIf_not_ok.mp hmem)⟩

/-- `signerLoop` passes on a sorted list: every signer is a non-zero committee member and, `prev` included, the list is
    strictly increasing (sorted gives `≤` between neighbours, the loop excludes `=`) -/
theorem signerLoop_spec (sh : Share) (l : List Nat) : ∀ prev, isSorted (prev :: l) = true → signerLoop sh prev l = .ok () →
    (∀ s ∈ l, s ≠ 0 ∧ s ∈ sh.committee) ∧ (prev :: l).Pairwise (· < ·) := by
  induction l with
  | nil => intro prev _ _; exact ⟨fun _ h => (nomatch h), List.pairwise_singleton _ _⟩
  | cons s rest ih =>
    intro prev hs h
    simp only [signerLoop, firstFail_cons_ok_iff] at h
    obtain ⟨h1, h2, h3, -⟩ := h
    obtain ⟨hle, hs'⟩ := Bool.and_eq_true_iff.mp hs
    obtain ⟨hmem, hpw⟩ := ih s hs' h3
    have hlt : prev < s := Nat.lt_of_le_of_ne (of_decide_eq_true hle) (Ne.symm (rejectIf_decide_ok.mp h2))
    refine ⟨List.forall_mem_cons.mpr ⟨commonSigner_ok sh s h1, hmem⟩, List.pairwise_cons.mpr ⟨fun a ha => ?_, hpw⟩⟩
    rcases List.mem_cons.mp ha with rfl | ha
    · exact hlt
    · exact Nat.lt_trans hlt ((List.pairwise_cons.mp hpw).1 a ha)

theorem validConsensusSigners_spec (sh : Share) (m : QMsg) (h : validConsensusSigners sh m = .ok ()) :
    m.signers ≠ [] ∧ m.signers.Pairwise (· < ·) ∧ (∀ s ∈ m.signers, s ≠ 0 ∧ s ∈ sh.committee) := by
  have hne := validConsensusSigners_nonempty sh m h
  simp only [validConsensusSigners, firstFail_cons_ok_iff] at h
  obtain ⟨-, hs, hloop, -⟩ := h
  have hsorted : isSorted m.signers = true := rejectIf_not_ok.mp hs
  have h0 : isSorted (0 :: m.signers) = true := by
    cases hm : m.signers with
    | nil => rfl
    | cons a r => rw [hm] at hsorted; exact Bool.and_eq_true_iff.mpr ⟨decide_eq_true (Nat.zero_le a), hsorted⟩
  obtain ⟨hmem, hpw⟩ := signerLoop_spec sh m.signers 0 h0 hloop
  exact ⟨hne, (List.pairwise_cons.mp hpw).2, hmem⟩

section
variable {c : NetCfg} {vid role : Nat} {m : QMsg}

theorem updConsensus_frame (l : List Nat) :
    ∀ st st', updConsensus c vid role m l st = .ok st' → ∀ k : Key, (∀ s ∈ l, k ≠ (vid, role, s)) → st' k = st k := by
  induction l with
  | nil => intro st st' h k _; cases h; rfl
  | cons s rest ih =>
    intro st st' h k hk
    unfold updConsensus at h
    split at h
    · cases h
    · rw [ih _ _ h k fun s' hs' => hk s' (List.mem_cons_of_mem _ hs')]
      exact State.set_other _ _ _ _ (hk s List.mem_cons_self)

theorem updConsensus_get (l : List Nat) :
    ∀ st st', l.Nodup → updConsensus c vid role m l st = .ok st' →
      ∀ s ∈ l, ∃ ss, updSignerConsensus c m (st (vid, role, s)) = .ok ss ∧ st' (vid, role, s) = some ss := by
  induction l with
  | nil => intro _ _ _ _ s hs; cases hs
  | cons a rest ih =>
    intro st st' hnd h s hs
    unfold updConsensus at h
    split at h
    · cases h
    · rename_i ss hss
      obtain ⟨ha, hnd'⟩ := List.nodup_cons.mp hnd
      rcases List.mem_cons.mp hs with rfl | hsr
      · -- the head's entry is written in this step and not touched by the rest of the loop
        refine ⟨ss, hss, ?_⟩
        rw [updConsensus_frame rest _ _ h _ fun s' hs' he => ha (by cases he; exact hs')]
        exact State.set_same _ _ _
      · -- a later signer's entry is still the old one when its turn comes
        obtain ⟨ss', h1, h2⟩ := ih _ _ hnd' h s hsr
        rw [State.set_other _ _ _ _ fun he => ha (by cases he; exact hsr)] at h1
        exact ⟨ss', h1, h2⟩

end

theorem check_congr (x : Ctx) {st1 st2 : State} {i : Input} (h : ∀ s, st1 (i.vid, i.role, s) = st2 (i.vid, i.role, s)) :
    check x st1 i = check x st2 i := by
  -- the guards mention the state only as `st (i.vid, i.role, _)`
  unfold check consensusChecks partialChecks
  simp only [h]

end Ssv.Validation
