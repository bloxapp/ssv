/-
C01 all heights — every `MStep` preserves `InvM`, hence it holds in every reachable state; and once a height is `Blocked` for
an operator it stays so.
-/
import Ssv.Proofs.QbftMultiSystem
import Ssv.Proofs.QbftNodeSystem

namespace Ssv.Qbft.M
open Ssv.Qbft Ssv.Qbft.B

theorem nodeSt_some {P : B.Params} {T : List (Ev (B.Op P))} {i : B.Op P} {c : Ctrl} {h : Nat} {s : State}
    (hs : instAt h c = some s) : NodeSt P T i c h ↔ NodeInv P T i s := by
  unfold NodeSt; rw [hs]
  exact ⟨fun x => x.elim id (fun y => nomatch y.1), Or.inl⟩

theorem hstep_evs_node {N : Type} {cfg : Cfg} {h : Nat} {A : Msg → Prop} {i : N} {c c' : Ctrl} {bs : List Msg}
    {evs : List (Ev N)} (hst : HStep cfg h A i c c' bs evs) : ∀ e ∈ evs, e.node = i := by
  cases hst with
  | n hn => exact nstep_evs_node hn
  | dropped m ha h0 h1 hb hv hh h2 h3 =>
    intro e he; rw [h3] at he; simp at he; rcases he with rfl | rfl <;> rfl

section
variable {P : Params} (hP : P.Valid) {σ σ' : Sys P} {i : Op P} {h0 : Nat} {c' : Ctrl} {outs : List Out}
  {evs : List (Ev (Op P))}

/-- at the acting height after the step: the acting operator's state, the new broadcasts, the rules -/
theorem node_main (hinv : InvM P hP σ) (ms : MStep P σ σ' i h0 c' outs evs) :
    NodeSt (P.at h0) (trP P h0 σ.trace ++ evs) i c' h0 ∧
    (∀ x ∈ bcasts outs, LogOK (P.at h0) (trP P h0 σ.trace ++ evs) x) ∧
    QAbs.Rules (ctxT (P.at h0) (hP.at h0) (trP P h0 σ.trace ++ evs)) := by
  have hmain := ms.main
  cases hmain with
  | n hn =>
    rcases hinv.node i ms.hi h0 with hpre | ⟨hnone, hb⟩
    · have hpost := nodeInv_step (fun _ h => h) (hinv.rules h0) i hn hpre
      exact ⟨Or.inl hpost, log_step (P := P.at h0) i ms.hi hn hpre,
        step_rules (fun _ h => h) hn (fun s hs => by rw [hs] at hpre; exact hpre) (hinv.rules h0)
          (fun _ s' hs' => by rw [hs'] at hpost; exact hpost)⟩
    · -- a blocked height stays without instance, so the step did nothing there
      have hb' := ms.blocked h0 hb
      have hnone' := blocked_none ms.cinv hb'
      obtain ⟨_, hbs, hevs⟩ := nstep_none hn hnone'
      rw [hbs, hevs, List.append_nil]
      exact ⟨Or.inr ⟨hnone', hb'⟩, fun x hx => (nomatch hx), hinv.rules h0⟩
  | dropped m ha hn0 hn1 hb hv hh h2 h3 =>
    refine ⟨Or.inr ⟨hn1, hb⟩, by rw [h2]; exact fun x hx => (nomatch hx), ?_⟩
    -- For the rules the dropped instance behaves like a created-and-forgotten decided instance: `step_rules` looks at
    -- the post-state only through its last argument, and only when the step emits a `P` event, which this one does not.
    have fake : NStep ((P.at h0).cfg i) (P.at h0).height (AuthT (P.at h0) (trP P h0 σ.trace)) i (none : Option State)
        (some { newInstance h0 with round := m.round, decided := true, decidedValue := m.fullData, commit := [m] })
        ([] : List Msg) evs :=
      .createDecided m ha rfl hv hh rfl rfl h3
    refine step_rules (fun _ h => h) fake (fun s hs => (nomatch hs)) (hinv.rules h0) ?_
    rintro ⟨r, v, hin⟩
    rw [h3] at hin
    cases hin with
    | tail _ h => cases h with
      | tail _ h => cases h

theorem inv_mstep (hinv : InvM P hP σ) (ms : MStep P σ σ' i h0 c' outs evs) : InvM P hP σ' := by
  obtain ⟨hnode0, hlog0, hrules0⟩ := node_main hP hinv ms
  have hev := hstep_evs_node ms.main
  rw [ms.eq]
  have htr : ∀ h, trP P h (σ.update i c' outs h0 evs).trace = trP P h σ.trace ++ (if h = h0 then evs else []) :=
    fun h => trP_step P h σ.trace h0 evs
  have hci : (σ.update i c' outs h0 evs).ctrl i = c' := if_pos rfl
  have hcj : ∀ j, j ≠ i → (σ.update i c' outs h0 evs).ctrl j = σ.ctrl j := fun j hj => if_neg hj
  refine ⟨?_, ?_, ?_, ?_⟩
  · intro j
    by_cases hji : j = i
    · subst hji; rw [hci]; exact ms.cinv
    · rw [hcj j hji]; exact hinv.shape j
  · intro m hm h hh
    rw [htr h]
    rcases List.mem_append.1 (show m ∈ σ.log ++ bcasts outs from hm) with hm' | hm'
    · exact (hinv.log m hm' h hh).ext _
    · have hl := hlog0 m hm'
      -- a new broadcast is of the acting height
      have : h = h0 := hh.symm.trans (by obtain ⟨_, _, _, hmh, _⟩ := hl; exact hmh)
      subst this
      rw [if_pos rfl]
      exact hl
  · intro j hj h
    rw [htr h]
    have pre := hinv.node j hj h
    by_cases hji : j = i
    · subst hji
      rw [hci]
      by_cases hh : h = h0
      · subst hh; rw [if_pos rfl]; exact hnode0
      · rw [if_neg hh, List.append_nil]
        -- the instance is kept, stopped, or evicted for good
        rcases ms.other h hh with h1 | ⟨s, hs0, hs1⟩ | ⟨s, _, hs1, hb⟩
        · unfold NodeSt; rw [h1]
          exact pre.imp id (fun x => ⟨x.1, ms.blocked h x.2⟩)
        · exact (nodeSt_some hs1).2 ((nodeSt_some hs0).1 pre).upd_forceStop
        · exact Or.inr ⟨hs1, hb⟩
    · rw [hcj j hji]
      refine pre.imp (fun x => nodeInvO_other x _ (fun e he => ?_)) id
      split at he
      · exact fun x => hji (x.symm.trans (hev e he))
      · cases he
  · intro h
    unfold ctxH
    rw [htr h]
    by_cases hh : h = h0
    · subst hh; rw [if_pos rfl]; exact hrules0
    · rw [if_neg hh, List.append_nil]; exact hinv.rules h

end

theorem inv_init (P : Params) (hP : P.Valid) : InvM P hP (Sys.init P) where
  -- no instance is stored, nothing is logged, the trace is empty
  shape := fun _ => ⟨List.Pairwise.nil, Nat.zero_le 2, fun _ hx => nomatch hx⟩
  log := fun _ hm => nomatch hm
  node := fun i _ h => Or.inl (show ∀ e ∈ ([] : List (Ev (B.Op (P.at h)))), e.node ≠ i from fun _ he => nomatch he)
  rules := fun h => B.rules_nil (P.at h) (hP.at h)

theorem inv_of_reachable {P : Params} (hP : P.Valid) {σ : Sys P} (h : Reachable σ) : InvM P hP σ := by
  induction h with
  | init => exact inv_init P hP
  | step a _ hen ih =>
    obtain ⟨i, h0, c', outs, evs, ms⟩ := step_mstep hP _ ih a hen
    exact inv_mstep hP ih ms

theorem blocked_step {P : Params} (hP : P.Valid) {σ : Sys P} (hinv : InvM P hP σ) (a : Action P)
    (hen : enabled σ a = true) (i : Op P) (h : Nat) (hb : Blocked h (σ.ctrl i)) :
    Blocked h ((step σ a).ctrl i) ∧ instAt h ((step σ a).ctrl i) = none := by
  obtain ⟨j, h0, c', outs, evs, ms⟩ := step_mstep hP σ hinv a hen
  have hinv' := inv_mstep hP hinv ms
  have hb' : Blocked h ((step σ a).ctrl i) := by
    rw [ms.eq]
    show Blocked h (if i = j then c' else σ.ctrl i)
    split
    · rename_i hij
      subst hij
      exact ms.blocked h hb
    · exact hb
  exact ⟨hb', blocked_none (hinv'.shape i) hb'⟩

end Ssv.Qbft.M
