/-
C01, both systems — unforgeability seen from ONE height: `AuthT` says that every verified signed part of that height listing
a correct signer is reflected in the height's ghost trace (the trace, not a log: the multi-height log also holds other
heights' messages). What validation plus `AuthT` give (certificates, prepares, commits), and preservation of the node
invariant by every node transition, for any predicate on delivered messages that yields `AuthT`.
-/
import Ssv.Proofs.QbftNodeStep

namespace Ssv.Qbft.M
open Ssv.Qbft Ssv.Qbft.B

/-- a signed part of the height whose signature verifies is reflected in the height's trace -/
def BackedT (P : B.Params) (T : List (Ev (B.Op P))) (b : Base) : Prop :=
  b.height = P.height → b.ident = ownIdent → b.sigOk = true → ∀ j : B.Op P, P.honest j = true → opId j ∈ b.signers →
    (b.type = tPrepare → Ev.P j b.round b.root ∈ T) ∧ (b.type = tCommit → Ev.K j b.round b.root ∈ T) ∧
    (b.type = tRoundChange → Ev.RC j b.round b.dataRound b.root ∈ T)

def AuthT (P : B.Params) (T : List (Ev (B.Op P))) (m : Msg) : Prop :=
  m.ident = ownIdent ∧ BackedT P T m.toBase ∧ ∀ rc ∈ m.rcJust, BackedT P T rc.toBase ∧ ∀ pm ∈ rc.just, BackedT P T pm

variable {P : B.Params} {T : List (Ev (B.Op P))}

theorem AuthT.of_backed {P' : B.Params} {log : List Msg} {m : Msg} (hb : ∀ b, backed P' log b = true → BackedT P T b)
    (ha : authentic P' log m = true) (hid : m.ident = ownIdent) : AuthT P T m :=
  ⟨hid, hb _ (authentic_base ha), fun rc hrc =>
    ⟨hb _ (authentic_rc ha rc hrc).1, fun pm hpm => hb _ ((authentic_rc ha rc hrc).2 pm hpm)⟩⟩

theorem prepOK_of_valid (i : B.Op P) (m : Msg) (h r root : Nat) (hh : h = P.height)
    (hv : validSignedPrepare (P.cfg i) m.toBase h r root = .ok ()) (hid : m.ident = ownIdent) (ha : BackedT P T m.toBase) :
    PrepOK P T m ∧ m.round = r ∧ m.root = root := by
  obtain ⟨ht, hhe, hr, hroot, hso, sg, hsg, hc⟩ := validSignedPrepare_ok _ _ _ _ _ _ hv
  refine ⟨⟨sg, hsg, hc, ?_⟩, hr, hroot⟩
  intro j hj hjs
  have hmem : opId j ∈ m.toBase.signers := by rw [hsg, hjs]; simp
  exact (ha (by rw [hhe, hh]) hid hso j hj hmem).1 ht

theorem commitOK_of (m : Msg) (ht : m.type = tCommit) (hso : m.sigOk = true) (hnd : m.signers.Nodup)
    (hc : ∀ s ∈ m.signers, s ∈ P.committee) (hh : m.height = P.height) (hid : m.ident = ownIdent)
    (ha : BackedT P T m.toBase) : CommitOK P T m :=
  ⟨hnd, hc, fun j hj hmem => (ha hh hid hso j hj hmem).2.1 ht⟩

theorem cert_facts (hP : P.Valid) (i : B.Op P) (m : Msg) (hv : validateDecided (P.cfg i) m = .ok ())
    (hh : m.height = P.height) (hid : m.ident = ownIdent) (ha : BackedT P T m.toBase) : CertFacts P T m := by
  obtain ⟨ht, hq, hnd, _, hso, hc, hhash⟩ := validateDecided_ok _ m () hv
  have hok := commitOK_of m ht hso hnd hc hh hid ha
  have hq' : P.quorum ≤ uniqueCount m.signers := by rw [uniqueCount_of_nodup _ hnd]; exact hq
  obtain ⟨j, hj, hmem⟩ := exists_honest_signer P hP m.signers hc hq'
  exact ⟨hok, hhash, hh, hq', j, hj, (ha hh hid hso j hj hmem).2.1 ht⟩

theorem commitOK_of_validateCommit (i : B.Op P) (m : Msg) (h r : Nat) (p : Msg) (hh : h = P.height)
    (hv : validateCommit (P.cfg i) m.toBase h r p = .ok ()) (hid : m.ident = ownIdent) (ha : BackedT P T m.toBase) :
    CommitOK P T m ∧ m.round = r ∧ p.root = m.root := by
  obtain ⟨ht, hso, hc, hnd, _, hr, hroot, hhe, _⟩ := validateCommit_ok _ _ _ _ _ _ hv
  exact ⟨commitOK_of m ht hso hnd hc (by rw [← hh]; exact hhe) hid ha, hr, hroot⟩

theorem BackedT.ext {b : Base} (h : BackedT P T b) (evs : List (Ev (B.Op P))) : BackedT P (T ++ evs) b := by
  intro h1 h1' h2 j hj hm
  obtain ⟨a, b', c⟩ := h h1 h1' h2 j hj hm
  exact ⟨fun t => List.mem_append_left _ (a t), fun t => List.mem_append_left _ (b' t), fun t => List.mem_append_left _ (c t)⟩

/-- every node transition keeps the node invariant, whatever tells that the delivered message is authentic at the height -/
theorem nodeInv_step {A : Msg → Prop} (hA : ∀ m, A m → AuthT P T m) {hP : P.Valid} (R : QAbs.Rules (ctxT P hP T))
    (i : B.Op P) {os os' : Option State} {bs : List Msg} {evs : List (Ev (B.Op P))}
    (hst : NStep (P.cfg i) P.height A i os os' bs evs) (hinv : NodeInvO P T i os) : NodeInvO P (T ++ evs) i os' := by
  -- an adopted decided message: its certificate, and its round is at least 1 because a correct operator committed in it
  have cert : ∀ m : Msg, validateDecided (P.cfg i) m = .ok () → m.height = P.height → A m →
      CommitOK P T m ∧ 1 ≤ m.round := fun m hv hh ha => by
    obtain ⟨hid, hb, _⟩ := hA m ha
    have cf := cert_facts hP i m hv hh hid hb
    obtain ⟨j, hj, hK⟩ := cf.honest
    obtain ⟨k, hk⟩ := List.getElem?_of_mem hK
    exact ⟨cf.ok, R.H0 j _ _ k ((honest_iff P hP _ j).2 hj) (at_K.2 hk)⟩
  -- a validated prepare is for the root of the accepted proposal, whether or not that proposal is of the current round
  have prep : ∀ (s : State) (m p : Msg), NodeInv P T i s → A m → s.accepted = some p →
      validSignedPrepare (P.cfg i) m.toBase s.height s.round p.root = .ok () →
      NodeInv P T i { s with prepare := s.prepare ++ [m] } := fun s m p hs ha hacc hv => by
    obtain ⟨hid, hb, _⟩ := hA m ha
    obtain ⟨hok, hr, hroot⟩ := prepOK_of_valid i m _ _ _ hs.height hv hid hb
    refine NodeInv.upd_prepare hs m hok ?_
    by_cases hpr : p.round = s.round
    · exact .inl ⟨p, (hs.acc p hacc).1, by rw [hpr, hr], hroot.symm⟩
    · exact .inr ⟨(hs.acc p hacc).2 hpr, .inr ⟨hr, p, hacc, hpr, hroot⟩⟩
  have com : ∀ (s : State) (m p : Msg), NodeInv P T i s → A m →
      validateCommit (P.cfg i) m.toBase s.height s.round p = .ok () → CommitOK P T m := fun s m p hs ha hv => by
    obtain ⟨hid, hb, _⟩ := hA m ha
    exact (commitOK_of_validateCommit i m _ _ p hs.height hv hid hb).1
  cases hst with
  | idle h1 _ h3 => subst h1 h3; rwa [List.append_nil]
  | create v h0 h1 _ h3 => subst h0 h1 h3; rw [List.append_nil]; exact nodeInv_create hinv v
  | createDecided m ha h0 hv hh h1 _ h3 =>
    subst h0 h1 h3; exact nodeInv_createDecided hinv m (cert m hv hh ha).1 (cert m hv hh ha).2
  | adopt s m ha h0 hd hv hh h1 _ h3 =>
    subst h0 h1 h3; exact NodeInv.step_adopt hinv m hd (cert m hv hh ha).1 (cert m hv hh ha).2
  | more s m ha h0 _ hv hh h1 _ h3 =>
    subst h0 h1 h3; rw [List.append_nil]; exact NodeInv.upd_commit hinv m (cert m hv hh ha).1
  | prop s m _ h0 hv hnew h1 _ h3 => subst h0 h1 h3; exact NodeInv.step_prop hinv m hv hnew
  | prep s m p ha h0 hacc hv h1 _ h3 =>
    subst h0 h1 h3; rw [List.append_nil]
    exact prep s m p hinv ha hacc hv
  | prepQ s m p ha h0 hacc hv _ h1 h2 =>
    subst h0 h1
    have hne : p.fullData ≠ 0 := valOk_ne_zero _ _ (NodeInv.propGood hinv p (NodeInv.acc hinv p hacc).1).value
    have hS := NodeInv.upd_lock (prep s m p hinv ha hacc hv) p.fullData hne
    rcases h2 with ⟨_, rfl⟩ | ⟨_, rfl⟩
    · rwa [List.append_nil]
    · exact NodeInv.ext_K hS s.round p.root (Nat.le_refl _) (Nat.le_refl _)
  | com s m p ha h0 _ hv h1 _ h3 =>
    subst h0 h1 h3; rw [List.append_nil]
    exact NodeInv.upd_commit hinv m (com s m p hinv ha hv)
  | comQ s m p agg ha h0 _ hv _ hagg h1 _ h3 =>
    subst h0 h1 h3
    obtain ⟨_, _, _, _, _, _, _, _, _, hfd, _⟩ := aggregateCommitMsgs_spec _ _ _ hagg
    -- a `D` event is none of the events the invariant speaks of
    have hE := NodeInv.ext hinv [Ev.D i agg.round agg.fullData] (by simp) (by simp) (by simp) (by simp)
    have hC := NodeInv.upd_commit hE m ((com s m p hinv ha hv).ext _)
    exact NodeInv.upd_decided hC p.fullData ⟨agg.round, by rw [← hfd]; simp⟩
  | rc s X h0 h1 _ h3 => subst h0 h1 h3; rw [List.append_nil]; exact NodeInv.upd_roundChange hinv X
  | jump s X R h0 hR h1 h2 =>
    subst h0 h1
    have hS := NodeInv.upd_jump hinv X R hR
    rcases h2 with ⟨_, rfl⟩ | ⟨_, rfl⟩
    · rwa [List.append_nil]
    · exact NodeInv.ext_RC hS R _ _ (Nat.le_refl _)

/-- `forceStop` (set by `StartNewInstance` of another height) is invisible to the node invariant -/
theorem _root_.Ssv.Qbft.B.NodeInv.upd_forceStop {i : B.Op P} {s : State} (h : NodeInv P T i s) : NodeInv P T i (forceStop s) :=
  { h with }

theorem nstep_none {N : Type} {cfg : Cfg} {h : Nat} {A : Msg → Prop} {i : N} {os os' : Option State} {bs : List Msg}
    {evs : List (Ev N)} (hst : NStep cfg h A i os os' bs evs) (hn : os' = none) : os = none ∧ bs = [] ∧ evs = [] := by
  cases hst with
  | idle h1 h2 h3 => exact ⟨by rw [← h1]; exact hn, h2, h3⟩
  | _ =>
    -- every other transition states `os' = some _`
    subst_vars
    contradiction

end Ssv.Qbft.M
