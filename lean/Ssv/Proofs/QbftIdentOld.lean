/-
Regression witness for the identifier-confusion defect (fixed in /repo e1612ceed): the validators AS THEY WERE BEFORE THE FIX
(`…Old`: embedded round-change and prepare justifications are not checked for the instance's identifier), wired into the
unchanged instance / controller functions and run under the adversary of `SystemB` (signed parts with a foreign identifier
are adversary-controlled). A concrete 4-operator schedule, kernel-evaluated, ends with two correct operators reporting
different values. With the current validators the same proposal is rejected (`wrongMsgIdentifier`) and agreement is proved
(`C01_agreement`). Core Lean only.
-/
import Ssv.Model.Qbft.SystemB

namespace Ssv.Qbft.Old
open Ssv.Qbft Ssv.Qbft.B

/-- `validRoundChangeForData` before the fix: no identifier check on the round-change nor on its inner prepares -/
def validRoundChangeForDataOld (cfg : Cfg) (stateHeight : Nat) (rc : Lvl1) (height round fullData : Nat) : V Unit := do
  rejectIf (rc.type != tRoundChange) .notRoundChange
  rejectIf (rc.height != height) .wrongHeight
  rejectIf (rc.round != round) .wrongRound
  rejectIf (rc.signers.length != 1) .oneSigner
  rejectIf (!cfg.verifySig rc.toBase) .sigInvalid
  wrap .roundChangeInvalid (messageValidate rc.toBase)
  if rc.toBase.rcPrepared then
    wrap .rcJustInvalid (firstFail (fun pm => validSignedPrepare cfg pm stateHeight rc.dataRound rc.root) rc.just)
    rejectIf (hashData fullData != rc.root) .hashMismatch
    rejectIf (!cfg.hasQuorum (signersOfB rc.just)) .noJustQuorum
    rejectIf (decide (rc.dataRound > round)) .preparedGtRound
  else pure ()

/-- `isProposalJustification` before the fix -/
def isProposalJustificationOld (cfg : Cfg) (stateHeight : Nat) (rcs : List Lvl1) (prepares : List Base)
    (height round fullData : Nat) : V Unit := do
  rejectIf (!cfg.valOk fullData) .valueInvalid
  if round == firstRound then pure ()
  else
    wrap .rcNotValid (firstFail (fun rc => validRoundChangeForDataOld cfg stateHeight rc height round fullData) rcs)
    rejectIf (!cfg.hasQuorum (signersOfL rcs)) .rcNoQuorum
    if !rcs.any (·.toBase.rcPrepared) then pure ()
    else
      rejectIf (!cfg.hasQuorum (signersOfB prepares)) .prepNoQuorum
      match highestPrepared rcs with
      | none => fail .noHighestPrepared
      | some rcm =>
        rejectIf (hashData fullData != rcm.root) .notHighestPrepared
        match firstFail (fun pm => validSignedPrepare cfg pm height rcm.dataRound rcm.root) prepares with
        | .ok _ => pure ()
        | .error .panic => .error .panic
        | .error (.tag _) => fail .prepareNotValid

def isValidProposalOld (cfg : Cfg) (s : State) (m : Msg) : V Unit := do
  rejectIf (m.type != tProposal) .notProposal
  rejectIf (m.height != s.height) .wrongHeight
  rejectIf (m.signers.length != 1) .oneSigner
  rejectIf (!cfg.verifySig m.toBase) .sigInvalid
  match cfg.proposer s.height m.round with
  | none => .error .panic
  | some leader =>
    rejectIf (!matchedSigners m.signers [leader]) .leaderInvalid
    wrap .proposalInvalid (signedValidate m.toBase)
    rejectIf (hashData m.fullData != m.root) .hashMismatch
    wrap .notJustified (isProposalJustificationOld cfg s.height m.rcJust m.prepJust s.height m.round m.fullData)
    if (s.accepted.isNone && m.round == s.round) || decide (m.round > s.round) then pure ()
    else fail .notValidWithState

def baseMsgValidationOld (cfg : Cfg) (s : State) (m : Msg) : V Unit := do
  wrap .invalidSigned (signedValidate m.toBase)
  rejectIf (decide (m.round < s.round)) .pastRound
  if m.type == tProposal then isValidProposalOld cfg s m
  else if m.type == tPrepare then
    match s.accepted with
    | none => fail .noProposal
    | some p => validSignedPrepare cfg m.toBase s.height s.round p.root
  else if m.type == tCommit then
    match s.accepted with
    | none => fail .noProposal
    | some p => validateCommit cfg m.toBase s.height s.round p
  else if m.type == tRoundChange then
    validRoundChangeForDataOld cfg s.height m.toLvl1 s.height m.round m.fullData
  else fail .typeNotSupported

def isProposalJustificationForLeadingRoundOld (cfg : Cfg) (s : State) (rcMsg : Msg) (roundChanges : List Msg)
    (value newRound : Nat) : V Unit := do
  wrap .notJustified (isProposalJustificationOld cfg s.height (roundChanges.map Msg.toLvl1)
    (rcMsg.rcJust.map (·.toBase)) s.height rcMsg.round value)
  match cfg.proposer s.height rcMsg.round with
  | none => .error .panic
  | some leader =>
    rejectIf (leader != cfg.own) .notProposer
    let current := s.accepted.isNone && s.round == newRound
    let future := decide (newRound > s.round)
    rejectIf (!current && !future) .roundMismatch

def findJustifiedOld (cfg : Cfg) (s : State) (trigger : Msg) (roundChanges : List Msg) : List Msg → V (Option (Msg × Nat))
  | [] => pure none
  | m :: rest =>
    let value := if m.toBase.rcPrepared then trigger.fullData else s.startValue
    match isProposalJustificationForLeadingRoundOld cfg s m roundChanges value trigger.round with
    | .ok _ => pure (some (m, value))
    | .error .panic => .error .panic
    | .error (.tag _) => findJustifiedOld cfg s trigger roundChanges rest

def hasReceivedProposalJustificationOld (cfg : Cfg) (s : State) (trigger : Msg) : V (Option (Msg × Nat)) :=
  let roundChanges := forRound s.roundChange trigger.round
  if !cfg.hasQuorum (signersOf roundChanges) then pure none
  else findJustifiedOld cfg s trigger roundChanges roundChanges

def uponRoundChangeOld (cfg : Cfg) (s : State) (m : Msg) : Step :=
  let before := cfg.hasQuorum (signersOf (forRound s.roundChange m.round))
  let (rc, added) := addFirst s.roundChange m
  if !added then okStep s [] else
  let s1 := { s with roundChange := rc }
  if before then okStep s1 [] else
  match hasReceivedProposalJustificationOld cfg s1 m with
  | .error f => failStep s1 [] f
  | .ok (some (justified, value)) =>
    sendOr cfg s1 .bcastProposalFailed (createProposal cfg s1 value (forRound rc s1.round) justified.rcJust) []
  | .ok none =>
    let higher := rc.filter (fun x => Nat.blt s1.round x.round)
    if cfg.hasPartialQuorum (signersOf higher) then
      let newRound := minRound higher
      if newRound ≤ s1.round then okStep s1 [] else uponChangeRoundPartialQuorum cfg s1 newRound
    else okStep s1 []

def processMsgOld (cfg : Cfg) (s : State) (m : Msg) : Step :=
  if !canProcess cfg s then ⟨s, [], .err [.stopped]⟩ else
  match wrap .invalidSigned (baseMsgValidationOld cfg s m) with
  | .error f => failStep s [] f
  | .ok _ =>
    if m.type == tProposal then uponProposal cfg s m
    else if m.type == tPrepare then uponPrepare cfg s m
    else if m.type == tCommit then uponCommit cfg s m
    else if m.type == tRoundChange then uponRoundChangeOld cfg s m
    else ⟨s, [], .err [.typeNotSupported]⟩

def uponExistingInstanceMsgOld (cfg : Cfg) (c : Ctrl) (m : Msg) : CStep :=
  match findInstance c.insts m.height with
  | none => ⟨c, [], .err [.instanceNotFound]⟩
  | some inst =>
    let prevDecided := inst.decided
    let st := processMsgOld cfg inst m
    let c1 : Ctrl := { c with insts := updateInstance c.insts st.st }
    match st.res with
    | .panic => ⟨c1, st.outs, .panic⟩
    | .err t => ⟨c1, st.outs, .err (.couldNotProcess :: t)⟩
    | .ok decided _ agg =>
      if !decided then ⟨c1, st.outs, .ok none⟩ else
      match agg with
      | none => ⟨c1, st.outs, .ok none⟩
      | some d =>
        let outs := st.outs ++ [.bcastDecided d]
        if prevDecided then ⟨c1, outs, .ok none⟩ else ⟨c1, outs, .ok (some d)⟩

def ctrlProcessMsgOld (cfg : Cfg) (c : Ctrl) (m : Msg) : CStep :=
  if m.ident != cfg.ident then ⟨c, [], .err [.invalidMsg, .wrongIdentifier]⟩
  else if isDecidedMsg cfg m then uponDecided cfg c m
  else if isFutureMessage c m then ⟨c, [], .err [.futureMsg]⟩
  else uponExistingInstanceMsgOld cfg c m

/-- `SystemB.step` with the old validators -/
def stepOld {P : Params} (σ : Sys P) : Action P → Sys P
  | .start i v =>
    let st := (σ.ctrl i).startNewInstance (P.cfg i) P.height v
    σ.update i st.ct st.outs (outEvents i st.outs)
  | .deliver i m =>
    let st := ctrlProcessMsgOld (P.cfg i) (σ.ctrl i) m
    σ.update i st.ct st.outs (deliverEvents (P.cfg i) P.height i (σ.ctrl i) st m)
  | .timeout i r =>
    let st := (σ.ctrl i).onTimeout (P.cfg i) P.height r
    σ.update i st.ct st.outs (outEvents i st.outs)

/-- reachability with the old validators, same adversary (`B.enabled`) -/
inductive ReachableOld {P : Params} : Sys P → Prop
  | init : ReachableOld (Sys.init P)
  | step {σ : Sys P} (a : Action P) : ReachableOld σ → enabled σ a = true → ReachableOld (stepOld σ a)

inductive Item (P : Params) where
  | act (a : Action P)
  | fwd (i : Op P) (k : Nat)

def runOld {P : Params} (σ : Sys P) : List (Item P) → Option (Sys P)
  | [] => some σ
  | .act a :: rest => if enabled σ a then runOld (stepOld σ a) rest else none
  | .fwd i k :: rest =>
    match σ.log[k]? with
    | some m => if enabled σ (.deliver i m) then runOld (stepOld σ (.deliver i m)) rest else none
    | none => none

theorem reachable_runOld {P : Params} {σ σ' : Sys P} (l : List (Item P)) (h : ReachableOld σ)
    (hr : runOld σ l = some σ') : ReachableOld σ' := by
  induction l generalizing σ with
  | nil => cases hr; exact h
  | cons it rest ih =>
    cases it with
    | act a =>
      simp only [runOld] at hr
      split at hr
      · exact ih (.step a h ‹_›) hr
      · cases hr
    | fwd i k =>
      simp only [runOld] at hr
      split at hr
      · split at hr
        · exact ih (.step _ h ‹_›) hr
        · cases hr
      · cases hr

/-- height 0: leaders of rounds 1, 2, 3 are operators 1, 2, 3; operator 3 is Byzantine -/
def regP : Params := { f := 1, height := 0, cutoff := 15, valCheck := fun _ => true, byz := [2] }

/-- an unprepared round-3 round-change that operator `s` genuinely signed — for ANOTHER duty role (identifier 2) -/
def foreignRC (s : Nat) : Lvl1 :=
  { type := tRoundChange, height := 0, round := 3, ident := 2, root := 1, dataRound := 0, signers := [s], sigOk := true,
    malformed := false, mid := 0, just := [] }

/-- the Byzantine round-3 leader's proposal of the fresh value 8, "justified" by the foreign round-changes of 1, 2, 4 -/
def byzProposal : Msg :=
  { type := tProposal, height := 0, round := 3, ident := ownIdent, root := 8, dataRound := 0, signers := [3], sigOk := true,
    malformed := false, mid := 0, rcJust := [foreignRC 1, foreignRC 2, foreignRC 4], prepJust := [], fullData := 8 }

def byzMsg (t r root : Nat) : Msg :=
  { type := t, height := 0, round := r, ident := ownIdent, root := root, dataRound := 0, signers := [3], sigOk := true,
    malformed := false, mid := 0, rcJust := [], prepJust := [], fullData := 0 }

/-- round-1 proposal lost; 1, 2, 4 send unprepared round-changes for round 2; the correct round-2 leader (operator 2) proposes 7,
    all three prepare and commit, only operator 1 sees the commits and decides 7; 2 and 4 time out; the Byzantine round-3
    leader proposes 8 justified by foreign-identifier round-changes; 2 and 4 (with 3's prepare and commit) decide 8 -/
def regSched : List (Item regP) :=
  [.act (.start 0 5), .act (.start 1 7), .act (.start 3 6),
   .act (.timeout 0 1), .act (.timeout 1 1), .act (.timeout 3 1),
   .fwd 1 1, .fwd 1 2, .fwd 1 3,
   .fwd 0 4, .fwd 1 4, .fwd 3 4,
   .fwd 0 5, .fwd 0 6, .fwd 0 7, .fwd 1 5, .fwd 1 6, .fwd 1 7, .fwd 3 5, .fwd 3 6, .fwd 3 7,
   .fwd 0 8, .fwd 0 9, .fwd 0 10,
   .act (.timeout 1 2), .act (.timeout 3 2),
   .act (.deliver 1 byzProposal), .act (.deliver 3 byzProposal),
   .act (.deliver 1 (byzMsg tPrepare 3 8)), .act (.deliver 3 (byzMsg tPrepare 3 8)),
   .fwd 1 13, .fwd 1 14, .fwd 3 13, .fwd 3 14,
   .act (.deliver 1 (byzMsg tCommit 3 8)), .act (.deliver 3 (byzMsg tCommit 3 8)),
   .fwd 1 15, .fwd 1 16, .fwd 3 15, .fwd 3 16]

/-- the schedule is enabled to its end, and these are the decisions reported in its final state, in trace order.
    The one kernel evaluation of the whole run; the facts about `regSys` below are read off it. -/
theorem reg_run :
    (runOld (Sys.init regP) regSched).map
        (fun σ => σ.trace.filter (fun e => match e with | .D _ _ _ => true | _ => false)) =
      some [.D 0 2 7, .D 1 3 8, .D 3 3 8] := by
  decide +kernel

theorem reg_isSome : (runOld (Sys.init regP) regSched).isSome = true :=
  Option.isSome_map.symm.trans (Option.isSome_of_eq_some reg_run)

def regSys : Sys regP := (runOld (Sys.init regP) regSched).get reg_isSome

theorem reg_reachable : ReachableOld regSys := reachable_runOld regSched ReachableOld.init (by simp [regSys])

/-- the decisions reported in the final state: operator 1 decided 7 in round 2, operators 2 and 4 decided 8 in round 3 -/
theorem reg_decisions :
    regSys.trace.filter (fun e => match e with | .D _ _ _ => true | _ => false) = [.D 0 2 7, .D 1 3 8, .D 3 3 8] := by
  obtain ⟨σ, h, hd⟩ := Option.map_eq_some_iff.1 reg_run
  rw [show regSys = σ from Option.get_of_eq_some _ h]
  exact hd

theorem reg_members : Ev.D 0 2 7 ∈ regSys.trace ∧ Ev.D 1 3 8 ∈ regSys.trace ∧ Ev.D 3 3 8 ∈ regSys.trace := by
  have h : ∀ e ∈ [Ev.D 0 2 7, .D 1 3 8, .D 3 3 8], e ∈ regSys.trace :=
    fun e he => (List.mem_filter.1 (reg_decisions ▸ he)).1
  exact ⟨h _ (.head _), h _ (.tail _ (.head _)), h _ (.tail _ (.tail _ (.head _)))⟩

/-- with the CURRENT validators the Byzantine proposal is rejected by the identifier guard -/
theorem reg_fixed_rejects :
    (runOld (Sys.init regP) (regSched.take 26)).map (fun σ => ((σ.ctrl 1).processMsg (regP.cfg 1) byzProposal).res) =
      some (.err [.couldNotProcess, .invalidSigned, .notJustified, .rcNotValid, .wrongMsgIdentifier]) := by
  decide +kernel

end Ssv.Qbft.Old
