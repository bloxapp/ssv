/-
Node-level facts about runs of the registry model: state between blocks, restart, batching independence
(properties C11, C12). Core Lean only.
-/
import Ssv.Proofs.RegistrySelf

namespace Ssv.Registry

/-- nothing pending, memory equals the database (shares map and wallet index) -/
def Boundary (n : Node) : Prop := RegBoundary n.reg ∧ n.wal.midx = n.wal.pidx

theorem Boundary.reg {n : Node} (h : Boundary n) : RegBoundary n.reg := h.1
theorem Boundary.wal {n : Node} (h : Boundary n) : n.wal.midx = n.wal.pidx := h.2

theorem init_boundary : Boundary init := by
  refine ⟨⟨rfl, rfl, ?_⟩, rfl⟩
  simp [NodupPk, init]

theorem init_selfInv (me : Nat) : SelfInv me [] init.reg :=
  ⟨by simp [init], by simp [init], by simp [init], by simp [init, hasOp], by simp [init, hasOp]⟩

theorem foldl_stepWal_expand_sync (w : Wal) (s : Step) (hs : s.handler = true) (h : w.midx = w.pidx) :
    ((expand w s).foldl stepWal w).midx = ((expand w s).foldl stepWal w).pidx := by
  cases s with
  | kmAdd k =>
    -- an expanded call ends with `saveWallet`, which stores the index as it is in memory
    simp only [expand]; split
    · exact h
    · rfl
  | kmRemove k =>
    simp only [expand]; split
    · rfl
    · exact h
  | putMarker _ | commit | memIdxSet _ | memIdxDel _ | saveAccount _ | deleteAccount _ | saveWallet => cases hs
  | _ => exact h

theorem runMacro_wal_sync (n : Node) (l : List Step) (hl : ∀ s ∈ l, s.handler = true) (h : n.wal.midx = n.wal.pidx) :
    (runMacro n l).wal.midx = (runMacro n l).wal.pidx := by
  induction l generalizing n with
  | nil => exact h
  | cons s l ih =>
    simp only [runMacro]
    refine ih _ (fun s hs => hl s (List.mem_cons_of_mem _ hs)) ?_
    rw [runSteps_wal]
    exact foldl_stepWal_expand_sync n.wal s (hl s List.mem_cons_self) h

theorem applyEvent_wal_sync (me blk : Nat) (n : Node) (e : Event) (h : n.wal.midx = n.wal.pidx) :
    (applyEvent me blk n e).1.wal.midx = (applyEvent me blk n e).1.wal.pidx :=
  runMacro_wal_sync n _ (regSteps_handler me blk _ e) h

theorem run_boundary (me : Nat) (n : Node) (bs : List Block) (h : Boundary n) (hok : (run me n bs).2 = true) :
    Boundary (run me n bs).1 :=
  run_induction me (fun _ x => Boundary x)
    (fun _ x => SharesSync x.reg ∧ x.wal.midx = x.wal.pidx)
    (fun _ _ h => ⟨h.1.begin, h.2⟩)
    (fun _ x blk e h _ =>
      ⟨applyEvent_reg me blk x e ▸ (regEvent_effect me blk x.reg e).sync h.1, applyEvent_wal_sync me blk x e h.2⟩)
    (fun _ _ m h => ⟨h.1.commit m, h.2⟩)
    bs n h hok

/-- between blocks, with the own operator id consistent with the stored operators, a restart changes nothing -/
theorem restart_eq (me : Nat) (n : Node) (h : Boundary n)
    (hown : ∀ o ∈ n.reg.db.ops, o.pk = me → o.id = n.reg.self)
    (hhas : n.reg.self ≠ 0 → ∃ o ∈ n.reg.db.ops, o.id = n.reg.self ∧ o.pk = me) : restart me n = n := by
  obtain ⟨⟨h1, h2, _⟩, h3⟩ := h
  have hs := lookupSelf_eq me n.reg.self n.reg.db.ops hown hhas
  obtain ⟨⟨db, txn, shares, self⟩, ⟨recs, pidx, midx, nextId⟩, hist⟩ := n
  obtain rfl : txn = db := h1
  obtain rfl : shares = txn.shares := h2
  obtain rfl : midx = pidx := h3
  -- what `load` builds from the database, the stored index and the lookup
  show (⟨⟨txn, txn, txn.shares, lookupSelf me txn.ops⟩, ⟨recs, midx, midx, nextId⟩, hist⟩ : Node) = _
  rw [show lookupSelf me txn.ops = self from hs]

/-- two nodes agree on everything an event handler reads or writes, except the committed view of the operators
    (read by SaveOperatorData outside the transaction) and the marker -/
structure Sim (a b : Node) : Prop where
  wal : a.wal = b.wal
  hist : a.hist = b.hist
  shares : a.reg.shares = b.reg.shares
  self : a.reg.self = b.reg.self
  tsh : a.reg.txn.shares = b.reg.txn.shares
  tops : a.reg.txn.ops = b.reg.txn.ops
  trec : a.reg.txn.recips = b.reg.txn.recips

/-- the node with everything written so far committed -/
def norm (n : Node) : Node := { n with reg := { n.reg with db := n.reg.txn } }

/-- batching-free reference semantics: every event sees all earlier writes as committed -/
def idealEvent (me : Nat) (n : Node) (e : Event) : Node := norm (applyEvent me 0 (norm n) e).1

def idealRun (me : Nat) (n : Node) (evs : List Event) : Node := evs.foldl (idealEvent me) (norm n)

/-- what `Sim` compares: the node without the committed registry and the marker -/
def forget (n : Node) : Node :=
  { reg := { db := {}, txn := { shares := n.reg.txn.shares, ops := n.reg.txn.ops, recips := n.reg.txn.recips, marker := none },
             shares := n.reg.shares, self := n.reg.self },
    wal := n.wal, hist := n.hist }

theorem sim_iff_forget {a b : Node} : Sim a b ↔ forget a = forget b :=
  ⟨fun h => by unfold forget; rw [h.wal, h.hist, h.shares, h.self, h.tsh, h.tops, h.trec],
   fun h => ⟨(congrArg Node.wal h :), (congrArg Node.hist h :), (congrArg (·.reg.shares) h :),
     (congrArg (·.reg.self) h :), (congrArg (·.reg.txn.shares) h :), (congrArg (·.reg.txn.ops) h :),
     (congrArg (·.reg.txn.recips) h :)⟩⟩

-- `norm` changes only what `forget` drops: `forget (norm b)` unfolds to `forget b`
theorem sim_norm_right {a b : Node} (h : Sim a b) : Sim a (norm b) :=
  sim_iff_forget.2 (sim_iff_forget.1 h :)

/-- no step but the commit reads the committed registry, and none reads the marker -/
theorem forget_applyStep (n : Node) (s : Step) (hs : s ≠ .commit) :
    forget (applyStep (forget n) s) = forget (applyStep n s) := by
  cases s with
  | commit => exact absurd rfl hs
  | _ => simp only [forget, applyStep, stepReg]

theorem sim_runSteps {a b : Node} (l : List Step) (hl : ∀ s ∈ l, s ≠ .commit) (h : Sim a b) :
    Sim (runSteps a l) (runSteps b l) := by
  induction l generalizing a b with
  | nil => exact h
  | cons s l ih =>
    have hs := hl s List.mem_cons_self
    refine ih (fun s hs => hl s (List.mem_cons_of_mem _ hs)) (sim_iff_forget.2 ?_)
    rw [← forget_applyStep a s hs, ← forget_applyStep b s hs, sim_iff_forget.1 h]

theorem expand_no_commit (w : Wal) (s : Step) (hs : s.handler = true) : ∀ t ∈ expand w s, t ≠ .commit := by
  intro t ht hc
  subst hc
  unfold expand at ht
  split at ht
  · split at ht <;> simp at ht
  · split at ht <;> simp at ht
  · rw [← List.mem_singleton.1 ht] at hs; cases hs

theorem sim_runMacro {a b : Node} (l : List Step) (hl : ∀ s ∈ l, s.handler = true) (h : Sim a b) :
    Sim (runMacro a l) (runMacro b l) := by
  induction l generalizing a b with
  | nil => exact h
  | cons s l ih =>
    simp only [runMacro]
    refine ih (fun s hs => hl s (List.mem_cons_of_mem _ hs)) ?_
    rw [h.wal]
    exact sim_runSteps _ (expand_no_commit b.wal s (hl s List.mem_cons_self)) h

/-- the block number only shows up in the exit task, never in a step -/
theorem regSteps_blk (me blk blk' : Nat) (v : View) (e : Event) : (regSteps me blk v e).1 = (regSteps me blk' v e).1 := by
  cases e with
  | validatorExited owner pk ops =>
    simp only [regSteps]
    cases findShare v.shares pk with
    | none => rfl
    | some sh =>
      dsimp only
      cases owner != sh.owner with
      | true => rfl
      | false =>
        cases belongs v.self sh with
        | false => rfl
        | true => cases sh.bmeta <;> rfl
  | _ => rfl

/-- the committed operators are read by OperatorAdded only, and only through `hasOp` -/
theorem regSteps_cops (me blk : Nat) (v : View) (c : List OperatorRec) (e : Event)
    (h : ∀ id o p, e = Event.operatorAdded id o p → hasOp c id = hasOp v.cops id) :
    regSteps me blk { v with cops := c } e = regSteps me blk v e := by
  cases e with
  | operatorAdded id owner pk =>
    have := h id owner pk rfl
    simp only [regSteps, this]
  | _ => rfl

theorem sim_applyEvent (me blk blk' : Nat) {a b : Node} (e : Event) (h : Sim a b)
    (hc : ∀ id o p, e = Event.operatorAdded id o p → hasOp a.reg.db.ops id = hasOp b.reg.db.ops id) :
    Sim (applyEvent me blk a e).1 (applyEvent me blk' b e).1 := by
  have hv : viewOf a.reg = { viewOf b.reg with cops := a.reg.db.ops } := by
    simp [viewOf, h.shares, h.self, h.tops, h.trec]
  have hst : (regSteps me blk (viewOf a.reg) e).1 = (regSteps me blk' (viewOf b.reg) e).1 := by
    rw [hv, regSteps_cops me blk (viewOf b.reg) a.reg.db.ops e hc, regSteps_blk me blk blk']
  simp only [applyEvent]
  rw [hst]
  exact sim_runMacro _ (regSteps_handler me blk' _ e) h

-- likewise marker write and commit: `forget (runSteps a [.putMarker m, .commit])` unfolds to `forget a`
theorem sim_commit {a b : Node} (m : Nat) (h : Sim a b) : Sim (runSteps a [.putMarker m, .commit]) b :=
  sim_iff_forget.2 (sim_iff_forget.1 h :)

/-- Every successful run ends in the state of the batching-free reference run over the flattened events (up to the
    marker), provided operator ids are fresh and non-zero as the contract guarantees. -/
theorem run_sim_ideal (me : Nat) (n : Node) (bs : List Block) (hb : n.reg.txn = n.reg.db) (hself : SelfInv me [] n.reg)
    (hwf : OpAddsWF (flatten bs)) (hok : (run me n bs).2 = true) :
    Sim (run me n bs).1 (idealRun me n (flatten bs)) ∧ SelfInv me (flatten bs) (run me n bs).1.reg ∧
      (run me n bs).1.reg.txn = (run me n bs).1.reg.db := by
  have := run_induction me
    (fun evs x => x.reg.txn = x.reg.db ∧ (OpAddsWF evs → Sim x (idealRun me n evs) ∧ SelfInv me evs x.reg))
    (fun evs x => OpAddsWF evs → Sim x (idealRun me n evs) ∧ SelfInv me evs x.reg)
    (by intro evs x h hw; rw [beginTxn_eq x h.1]; exact h.2 hw)
    (by
      intro evs x blk e h _ hw
      obtain ⟨hsim, hinv⟩ := h hw.prefix
      refine ⟨?_, by rw [applyEvent_reg]; exact (regEvent_effect me blk x.reg e).selfInv hinv hw⟩
      have : idealRun me n (evs ++ [e]) = idealEvent me (idealRun me n evs) e := by
        simp [idealRun, List.foldl_append]
      rw [this]
      refine sim_norm_right (sim_applyEvent me blk 0 e (sim_norm_right hsim) ?_)
      -- the one read on which the two runs differ: is the id among the committed operators? For a fresh id the
      -- database says what the transaction says, and the transactions agree
      intro id o p he
      subst he
      rw [hinv.has_db hw.fresh.1, hsim.tops]
      rfl)
    (by
      intro evs x m h
      refine ⟨rfl, fun hw => ?_⟩
      obtain ⟨hsim, hinv⟩ := h hw
      refine ⟨sim_commit m hsim, ?_⟩
      rw [commit_reg]
      exact commitReg_selfInv m hinv)
    bs n
    ⟨hb, fun _ => ⟨sim_iff_forget.2 rfl, hself⟩⟩ hok
  obtain ⟨htxn, h⟩ := this
  exact ⟨(h hwf).1, (h hwf).2, htxn⟩

/-- number of the last block of a batching -/
def lastNumber : List Block → Option Nat
  | [] => none
  | [b] => some b.number
  | _ :: b :: bs => lastNumber (b :: bs)

theorem lastNumber_cons_or (b : Block) (bs : List Block) (x : Option Nat) :
    (lastNumber (b :: bs)).or x = (lastNumber bs).or (some b.number) := by
  induction bs generalizing b x with
  | nil => rfl
  | cons c cs ih => exact (ih c x).trans (ih c _).symm

theorem run_marker (me : Nat) (n : Node) (bs : List Block) (hok : (run me n bs).2 = true) :
    (run me n bs).1.reg.db.marker = (lastNumber bs).or n.reg.db.marker := by
  revert hok
  fun_induction run me n bs with
  | case1 n => exact fun _ => rfl
  | case2 n b bs r hs ih =>
    intro hok
    -- a processed block ends with its number as the marker
    rw [ih hok, lastNumber_cons_or, (applyBlock_ok_eq me n b hs).2.2]; rfl
  | case3 n b bs r hs => exact nofun

/-- between blocks a node is what `forget` keeps of it, with the transaction also as the database, plus the marker -/
theorem eq_of_forget {x : Node} (hx : x.reg.txn = x.reg.db) :
    x = { forget x with reg := { (forget x).reg with
            db := { (forget x).reg.txn with marker := x.reg.db.marker },
            txn := { (forget x).reg.txn with marker := x.reg.db.marker } } } := by
  obtain ⟨⟨db, txn, shares, self⟩, wal, hist⟩ := x
  cases (hx : txn = db)
  rfl

theorem node_eq_of_sim {x x' y : Node} (h : Sim x y) (h' : Sim x' y) (hx : x.reg.txn = x.reg.db) (hx' : x'.reg.txn = x'.reg.db)
    (hm : x.reg.db.marker = x'.reg.db.marker) : x = x' := by
  rw [eq_of_forget hx, eq_of_forget hx', sim_iff_forget.1 h, sim_iff_forget.1 h', hm]

/-- block numbers strictly increase, starting above `m` -/
def Increasing : Nat → List Block → Prop
  | _, [] => True
  | m, b :: bs => m < b.number ∧ Increasing b.number bs

theorem regEvents_no_panic (me blk : Nat) (r : RegMem) (es : List Event) (h : Event.noTopics ∉ es) :
    (regEvents me blk r es).2 = false := by
  induction es generalizing r with
  | nil => rfl
  | cons e es ih =>
    simp only [List.mem_cons, not_or] at h
    simp only [regEvents, regOutcome_no_panic me blk r (Ne.symm h.1), Bool.false_eq_true, ↓reduceIte]
    exact ih _ h.2

theorem run_completes (me : Nat) (n : Node) (bs : List Block) (hinc : Increasing (n.reg.db.marker.getD 0) bs)
    (hnt : Event.noTopics ∉ flatten bs) : (run me n bs).2 = true := by
  induction bs generalizing n with
  | nil => rfl
  | cons b bs ih =>
    obtain ⟨hm, hrest⟩ := hinc
    have hnt1 : Event.noTopics ∉ b.events := fun h => hnt (List.mem_append_left (flatten bs) h)
    have hnt2 : Event.noTopics ∉ flatten bs := fun h => hnt (List.mem_append_right b.events h)
    have hb := applyBlock_reg me n b
    have hst : (regBlock me n.reg b).2 = .ok ∧ (regBlock me n.reg b).1.db.marker = some b.number := by
      -- the block is above the marker, so it is not refused; no event panics, so it is committed
      rw [regBlock, decide_eq_false (Nat.not_le.2 hm), if_neg Bool.false_ne_true]
      dsimp only
      rw [regEvents_no_panic me b.number _ b.events hnt1, if_neg Bool.false_ne_true]
      exact ⟨rfl, rfl⟩
    simp only [run]
    rw [hb.2, hst.1]
    dsimp only
    apply ih _ _ hnt2
    rw [hb.1, hst.2]
    exact hrest

end Ssv.Registry
