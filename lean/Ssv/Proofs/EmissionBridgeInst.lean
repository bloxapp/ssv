/-
What the instance functions of the node model (`processMsg`, `uponRoundTimeout`, `start`)
hand to `Instance.Broadcast`, and what `Controller.broadcastDecided` sends: an exact case list (`Emit`), the structural
clauses per case, and `HonestInst` / `HonestDecided` for every output, from a pre-state that satisfies the instance
invariant (`InstInv`, round ≥ 1, commit container without justification fields).

The one place where a hypothesis about TIMING enters is the justified proposal of `uponRoundChange`: the node checks the
justification (and its own leadership) for the round of the TRIGGERING round-change, but creates the proposal with
`Round = State.Round` and the round-changes of `State.Round`. `RcQuorumInRound` — "a round-change quorum for round r
never completes while `State.Round < r`" — is exactly what makes the two coincide.
-/
import Ssv.Proofs.EmissionBridge
import Ssv.Proofs.QbftNodeStep
set_option linter.unusedSimpArgs false
set_option linter.unusedVariables false

namespace Ssv.Emission
open Ssv Ssv.Qbft Ssv.Qbft.B

theorem mem_bcasts (l : List Out) (x : Msg) : x ∈ bcasts l ↔ Out.bcast x ∈ l := by
  induction l with
  | nil => simp [bcasts]
  | cons o rest ih => cases o <;> simp [bcasts, ih]

theorem forRound_round {c : Container} {r : Nat} {j : Msg} (h : j ∈ forRound c r) : j.round = r := by
  have := (List.mem_filter.1 h).2
  simpa using this

section Instance
variable (cfg : Cfg) (s : State)

/-- a message the node signs itself is honest once the clauses that depend on its type hold -/
theorem honestInst_ownMsg (t h r root dr : Nat) (rcj : List Lvl1) (pj : List Base) (fd : Nat)
    (ht : t ≤ tRoundChange) (hr : 1 ≤ r) (hroot : fd ≠ 0 → hashData fd = root) (hpj : pj ≠ [] → t = tProposal)
    (hrcj : rcj ≠ [] → t = tProposal ∨ t = tRoundChange)
    (hprop : t = tProposal → cfg.proposer h r = some cfg.own ∧ isProposalJustification cfg h rcj pj h r fd = .ok ()) :
    HonestInst cfg (ownMsg cfg t h r root dr rcj pj fd) :=
  ⟨rfl, rfl, ht, hr, rfl, hroot, hpj, hrcj, fun e => (hprop e).1, fun e => (hprop e).2⟩

theorem honestInst_plain (t h r root : Nat) (ht : t ≤ tRoundChange) (hne : t ≠ tProposal) (hr : 1 ≤ r) :
    HonestInst cfg (ownMsg cfg t h r root noRound [] [] 0) :=
  honestInst_ownMsg cfg t h r root noRound [] [] 0 ht hr (fun h => absurd rfl h) (fun h => absurd rfl h)
    (fun h => absurd rfl h) (fun e => absurd e hne)

theorem honestInst_createRoundChange (R : Nat) (hR : 1 ≤ R) :
    HonestInst cfg (createRoundChange cfg s R) := by
  unfold createRoundChange
  split
  · exact honestInst_ownMsg cfg _ _ _ _ _ _ _ _ (Nat.le_refl _) hR (fun _ => rfl) (fun h => absurd rfl h)
      (fun _ => Or.inr rfl) (fun e => absurd e (by decide))
  · exact honestInst_plain cfg _ _ _ _ (Nat.le_refl _) (by decide) hR

theorem honestInst_createProposal (v : Nat) (rcs : List Msg) (preps : List Lvl1)
    (hr : 1 ≤ s.round) (hl : cfg.proposer s.height s.round = some cfg.own)
    (hj : isProposalJustification cfg s.height (rcs.map Msg.toLvl1) (preps.map (·.toBase)) s.height s.round v = .ok ()) :
    HonestInst cfg (createProposal cfg s v rcs preps) :=
  honestInst_ownMsg cfg tProposal _ _ _ _ _ _ v (by decide) hr (fun _ => rfl) (fun _ => rfl) (fun _ => Or.inl rfl)
    (fun _ => ⟨hl, hj⟩)

theorem signersOfL_map_toLvl1 (l : List Msg) : signersOfL (l.map Msg.toLvl1) = signersOf l := by
  induction l with
  | nil => rfl
  | cons a rest ih =>
    simp only [signersOfL, signersOf, List.map_cons, List.flatMap_cons] at ih ⊢
    rw [ih]
    rfl

theorem getRoundChangeJustification_spec :
    getRoundChangeJustification cfg s = [] ∨
    (cfg.hasQuorum (signersOf (getRoundChangeJustification cfg s)) = true ∧
     ∀ pm ∈ getRoundChangeJustification cfg s, pm ∈ s.prepare ∧ pm.round = s.lastPreparedRound ∧
       validSignedPrepare cfg pm.toBase s.height s.lastPreparedRound (hashData s.lastPreparedValue) = .ok ()) := by
  generalize hj : getRoundChangeJustification cfg s = J
  unfold getRoundChangeJustification at hj
  by_cases h0 : (s.lastPreparedValue == 0) = true
  · rw [if_pos h0] at hj; exact Or.inl hj.symm
  rw [if_neg h0] at hj
  simp only at hj
  by_cases hq : (!cfg.hasQuorum (signersOf (List.filter
      (fun m => (validSignedPrepare cfg m.toBase s.height s.lastPreparedRound (hashData s.lastPreparedValue)).isOk)
      (forRound s.prepare s.lastPreparedRound)))) = true
  · rw [if_pos hq] at hj; exact Or.inl hj.symm
  rw [if_neg hq] at hj
  subst hj
  refine Or.inr ⟨by simpa using hq, ?_⟩
  intro pm hpm
  have h1 := List.mem_filter.1 hpm
  have h2 := List.mem_filter.1 h1.1
  refine ⟨h2.1, by simpa using h2.2, ?_⟩
  have h3 := h1.2
  cases hv : validSignedPrepare cfg pm.toBase s.height s.lastPreparedRound (hashData s.lastPreparedValue) with
  | ok u => rfl
  | error e => rw [hv] at h3; cases h3

/-- CLAUSE (round change): type, round, height, single own signer, no prepare-justification field; it carries prepared
    data (prepared round, full data, root = hash(full data)) exactly when the instance is locked
    (`LastPreparedRound ≠ NoRound` and a prepared value), and then its justification is empty or a quorum of prepares for
    (LastPreparedRound, LastPreparedValue); otherwise: no prepared round, no full data, the zero root, no justification -/
theorem createRoundChange_clause (R : Nat) :
    (createRoundChange cfg s R).type = tRoundChange ∧ (createRoundChange cfg s R).round = R ∧
    (createRoundChange cfg s R).height = s.height ∧ (createRoundChange cfg s R).signers = [cfg.own] ∧
    (createRoundChange cfg s R).prepJust = [] ∧
    (((s.lastPreparedRound ≠ noRound ∧ s.lastPreparedValue ≠ 0) ∧
        (createRoundChange cfg s R).dataRound = s.lastPreparedRound ∧
        (createRoundChange cfg s R).fullData = s.lastPreparedValue ∧
        (createRoundChange cfg s R).root = hashData s.lastPreparedValue ∧
        ((createRoundChange cfg s R).rcJust = [] ∨
         (cfg.hasQuorum (signersOfL (createRoundChange cfg s R).rcJust) = true ∧
          ∀ pm ∈ (createRoundChange cfg s R).rcJust,
            validSignedPrepare cfg pm.toBase s.height s.lastPreparedRound (hashData s.lastPreparedValue) = .ok ()))) ∨
     (¬ (s.lastPreparedRound ≠ noRound ∧ s.lastPreparedValue ≠ 0) ∧
        (createRoundChange cfg s R).dataRound = noRound ∧ (createRoundChange cfg s R).fullData = 0 ∧
        (createRoundChange cfg s R).root = zeroRoot ∧ (createRoundChange cfg s R).rcJust = [])) := by
  generalize hx : createRoundChange cfg s R = x
  unfold createRoundChange at hx
  split at hx <;> rename_i hc <;> simp only [Bool.and_eq_true, bne_iff_ne, ne_eq] at hc <;> subst hx
  · refine ⟨rfl, rfl, rfl, rfl, rfl, Or.inl ⟨hc, rfl, rfl, rfl, ?_⟩⟩
    show (getRoundChangeJustification cfg s).map Msg.toLvl1 = [] ∨ _
    rcases getRoundChangeJustification_spec cfg s with h | ⟨hq, hall⟩
    · left; rw [h]; rfl
    · right
      refine ⟨?_, ?_⟩
      · show cfg.hasQuorum (signersOfL ((getRoundChangeJustification cfg s).map Msg.toLvl1)) = true
        rw [signersOfL_map_toLvl1]; exact hq
      · intro pm hpm
        have hpm' : pm ∈ (getRoundChangeJustification cfg s).map Msg.toLvl1 := hpm
        obtain ⟨y, hy, rfl⟩ := List.mem_map.1 hpm'
        obtain ⟨_hmem, _hround, hvalid⟩ := hall y hy
        exact hvalid
  · exact ⟨rfl, rfl, rfl, rfl, rfl, Or.inr ⟨hc, rfl, rfl, rfl, rfl⟩⟩

theorem isProposalJustificationForLeadingRound_ok (j : Msg) (rcs : List Msg) (v newRound : Nat)
    (h : isProposalJustificationForLeadingRound cfg s j rcs v newRound = .ok ()) :
    isProposalJustification cfg s.height (rcs.map Msg.toLvl1) (j.rcJust.map (·.toBase)) s.height j.round v = .ok () ∧
    cfg.proposer s.height j.round = some cfg.own ∧
    ((s.accepted = none ∧ s.round = newRound) ∨ s.round < newRound) := by
  unfold isProposalJustificationForLeadingRound at h
  simp only [bind_eq_ok, wrap_eq_ok] at h
  obtain ⟨_, h1, h2⟩ := h
  refine ⟨h1, ?_⟩
  split at h2
  · cases h2
  · rename_i leader hl
    simp only [bind_eq_ok, rejectIf_eq_ok] at h2
    obtain ⟨_, h3, h4⟩ := h2
    have hle : leader = cfg.own := by simpa using h3
    refine ⟨by rw [hl, hle], ?_⟩
    simp only [Bool.and_eq_false_iff, Bool.not_eq_false', Bool.and_eq_true, Option.isNone_iff_eq_none,
      beq_iff_eq, decide_eq_true_eq] at h4
    rcases h4 with ⟨a, b⟩ | c
    · exact Or.inl ⟨a, b⟩
    · exact Or.inr c

theorem uponPrepare_bcast_before (m x : Msg) (hx : x ∈ bcasts (uponPrepare cfg s m).outs) :
    cfg.hasQuorum (signersOf (forRound s.prepare s.round)) = false := by
  cases hb : cfg.hasQuorum (signersOf (forRound s.prepare s.round)) with
  | false => rfl
  | true =>
    unfold uponPrepare at hx
    simp only [hb, if_true] at hx
    split at hx <;> cases hx

/-- what `Instance.ProcessMsg(m)` from state `s` may hand to `Broadcast` -/
inductive Emit (cfg : Cfg) (s : State) (m : Msg) (x : Msg) : Prop
  /-- a prepare for the proposal `m` that has just been accepted -/
  | prepare (hv : isValidProposal cfg s m = .ok ()) (hx : x = createPrepare cfg s m.round (hashData m.fullData))
  /-- a commit for the accepted proposal `p`, on the step where the prepare quorum of the current round is FIRST reached -/
  | commit (p : Msg) (hacc : s.accepted = some p)
      (hb : cfg.hasQuorum (signersOf (forRound s.prepare s.round)) = false) (hx : x = createCommit cfg s p.root)
  /-- a round change for a higher round (f+1 round changes) -/
  | roundChange (R : Nat) (hR : s.round < R) (hx : x = createRoundChange cfg s R)
  /-- a proposal on a justified round-change quorum -/
  | proposal (j : Msg) (v : Nat) (ht : m.type = tRoundChange) (hbv : baseMsgValidation cfg s m = .ok ())
      (hx : x = createProposal cfg (storeRc s m) v
              (forRound (addFirst s.roundChange m).1 s.round) j.rcJust)
      (hj : j ∈ forRound (addFirst s.roundChange m).1 m.round)
      (hq : cfg.hasQuorum (signersOf (forRound (addFirst s.roundChange m).1 m.round)) = true)
      (hjust : isProposalJustificationForLeadingRound cfg (storeRc s m) j
          (forRound (addFirst s.roundChange m).1 m.round) v m.round = .ok ())

theorem processMsg_emit (m x : Msg) (hx : x ∈ bcasts (processMsg cfg s m).outs) :
    Emit cfg s m x := by
  revert hx
  refine processMsg_cases cfg s m (P := fun st => x ∈ bcasts st.outs → Emit cfg s m x) ?_ ?_ ?_ ?_ ?_
  · intro f hx
    rw [failStep_outs] at hx; cases hx
  · intro hbv ht hx
    rcases uponProposal_spec cfg s m with ⟨_, b, _⟩ | ⟨_, _, b | b, _⟩ <;> rw [b] at hx
    · cases hx
    · cases hx
    · exact .prepare (baseMsgValidation_proposal cfg s m () ht hbv) (List.mem_singleton.1 hx)
  · intro hbv ht hx
    obtain ⟨p, hacc, _⟩ := baseMsgValidation_prepare cfg s m () ht hbv
    have hbf := uponPrepare_bcast_before cfg s m x hx
    rcases uponPrepare_spec cfg s m p hacc with ⟨_, b, _⟩ | ⟨_, b, _⟩ | ⟨_, _, b | b, _⟩ <;> rw [b] at hx
    · cases hx
    · cases hx
    · cases hx
    · exact .commit p hacc hbf (List.mem_singleton.1 hx)
  · intro hbv ht hx
    obtain ⟨p, hacc, _⟩ := baseMsgValidation_commit cfg s m () ht hbv
    rcases uponCommit_spec cfg s m p hacc with ⟨_, b, _⟩ | ⟨_, b, _⟩ | ⟨agg, _, _, _, b, _⟩ <;> rw [b] at hx <;> cases hx
  · intro hbv ht hx
    cases uponRoundChange_cases cfg s m with
    | dup _ h2 | late _ _ h2 | panic _ _ h2 | stay _ _ h2 => rw [h2] at hx; cases hx
    | propose j v hj _ h2 =>
      rcases h2 with h2 | h2 <;> rw [h2] at hx
      · cases hx
      · obtain ⟨hq, hmem, hjust⟩ := (hasReceived_spec cfg _ m).found j v hj
        exact .proposal j v ht hbv (List.mem_singleton.1 hx) hmem hq hjust
    | jump _ hR _ h2 =>
      rcases h2 with h2 | h2 <;> rw [h2] at hx
      · cases hx
      · exact .roundChange _ hR (List.mem_singleton.1 hx)

theorem emit_signer {cfg : Cfg} {s : State} {m x : Msg} (he : Emit cfg s m x) : x.signers = [cfg.own] := by
  cases he with
  | prepare hv hx => subst hx; rfl
  | commit p hacc hb hx => subst hx; rfl
  | roundChange R hR hx => subst hx; exact createRoundChange_signers cfg s R
  | proposal j v htype hbv hx hj hq hjust => subst hx; rfl

/-- the type of an emitted message tells which case of `Emit` it is -/
structure EmitByType (cfg : Cfg) (s : State) (m x : Msg) : Prop where
  prepare : x.type = tPrepare →
    isValidProposal cfg s m = .ok () ∧ x = createPrepare cfg s m.round (hashData m.fullData)
  commit : x.type = tCommit → ∃ p, s.accepted = some p ∧
    cfg.hasQuorum (signersOf (forRound s.prepare s.round)) = false ∧ x = createCommit cfg s p.root
  roundChange : x.type = tRoundChange → ∃ R, s.round < R ∧ x = createRoundChange cfg s R
  proposal : x.type = tProposal → ∃ (j : Msg) (v : Nat),
    x = createProposal cfg (storeRc s m) v (forRound (addFirst s.roundChange m).1 s.round) j.rcJust

theorem emit_byType {cfg : Cfg} {s : State} {m x : Msg} (he : Emit cfg s m x) : EmitByType cfg s m x := by
  -- the four message types are distinct numerals
  have clash : ∀ {a b : Nat} {C : Prop}, (a == b) = false → a = b → C := fun hne e => absurd e (ne_of_beq_false hne)
  cases he with
  | prepare hv hx => subst hx; exact ⟨fun _ => ⟨hv, rfl⟩, clash rfl, clash rfl, clash rfl⟩
  | commit p hacc hb hx => subst hx; exact ⟨clash rfl, fun _ => ⟨p, hacc, hb, rfl⟩, clash rfl, clash rfl⟩
  | roundChange R hR hx =>
    subst hx
    have ht := (createRoundChange_type cfg s R).symm
    exact ⟨fun h => clash rfl (ht.trans h), fun h => clash rfl (ht.trans h), fun _ => ⟨R, hR, rfl⟩,
      fun h => clash rfl (ht.trans h)⟩
  | proposal j v htype hbv hx hj hq hjust => subst hx; exact ⟨clash rfl, clash rfl, clash rfl, fun _ => ⟨j, v, rfl⟩⟩

end Instance

/-- TIMING (DESIGN §7.10): when a (valid) round-change `m` completes a round-change quorum for its round, that round is
    not a FUTURE round of the instance — "messages arrive within the round". Stated on the step (pre-state `s`,
    delivered `m`); past-round and invalid round-changes are dropped by `BaseMsgValidation` and are not constrained. -/
def RcQuorumInRound (cfg : Cfg) (s : State) (m : Msg) : Prop :=
  m.type = tRoundChange → baseMsgValidation cfg s m = .ok () →
    cfg.hasQuorum (signersOf (forRound (addFirst s.roundChange m).1 m.round)) = true → m.round ≤ s.round

section Honest
variable (cfg : Cfg) (s : State)

theorem honestInst_of_emit (m x : Msg) (hr : 1 ≤ s.round) (ht : RcQuorumInRound cfg s m)
    (he : Emit cfg s m x) : HonestInst cfg x := by
  cases he with
  | prepare hv hx =>
    rw [hx]
    refine honestInst_plain cfg tPrepare _ _ _ (by decide) (by decide) ?_
    rcases isValidProposal_state cfg s m () hv with ⟨_, h⟩ | h
    · exact h ▸ hr
    · exact Nat.le_trans hr (Nat.le_of_lt h)
  | commit p hacc hb hx => rw [hx]; exact honestInst_plain cfg tCommit _ _ _ (by decide) (by decide) hr
  | roundChange R hR hx => rw [hx]; exact honestInst_createRoundChange cfg s R (Nat.le_trans hr (Nat.le_of_lt hR))
  | proposal j v htype hbv hx hj hq hjust =>
    obtain ⟨h1, h2, h3⟩ := isProposalJustificationForLeadingRound_ok cfg _ j _ v m.round hjust
    have hle := ht htype hbv hq
    -- the check ran for the round of `m`, the proposal is built for `State.Round`: timing makes them the same
    have hround : m.round = s.round := by
      rcases h3 with ⟨_, h⟩ | h
      · exact h.symm
      · exact absurd (Nat.lt_of_lt_of_le h hle) (Nat.lt_irrefl _)
    have hjr : j.round = s.round := by rw [forRound_round hj, hround]
    rw [hx]
    apply honestInst_createProposal
    · exact hr
    · show cfg.proposer s.height s.round = some cfg.own
      rw [← hjr]; exact h2
    · show isProposalJustification cfg s.height ((forRound (addFirst s.roundChange m).1 s.round).map Msg.toLvl1)
        (j.rcJust.map (·.toBase)) s.height s.round v = .ok ()
      rw [← hround]
      rw [forRound_round hj] at h1
      exact h1

theorem uponRoundTimeout_cases :
    uponRoundTimeout cfg s = ⟨s, [], .err [.stoppedTimeouts]⟩ ∨
    uponRoundTimeout cfg s = ⟨{ s with round := s.round + 1, accepted := none },
      [.bcast (createRoundChange cfg s (s.round + 1)), .timer s.height (s.round + 1)], .ok s.decided s.decidedValue none⟩ := by
  cases hcp : canProcess cfg s with
  | true => exact Or.inr (uponRoundTimeout_progress cfg s hcp)
  | false => exact Or.inl (uponRoundTimeout_stopped hcp)

theorem uponRoundTimeout_bcast (x : Msg) (hx : x ∈ bcasts (uponRoundTimeout cfg s).outs) :
    x = createRoundChange cfg s (s.round + 1) := by
  rcases uponRoundTimeout_cases cfg s with e | e <;> rw [e] at hx
  · cases hx
  · exact List.mem_singleton.1 hx

theorem start_bcast (v h : Nat) (x : Msg) (hx : x ∈ bcasts (start cfg s v h).outs) :
    x = createProposal cfg { s with started := true, startValue := v, round := firstRound, height := h } v [] [] ∧
    cfg.proposer h firstRound = some cfg.own := by
  unfold start at hx
  cases hs : s.started with
  | true => rw [hs] at hx; cases hx
  | false =>
    rw [hs] at hx
    simp only [Bool.false_eq_true, if_false] at hx
    cases hl : cfg.proposer h firstRound with
    | none => rw [hl] at hx; cases hx
    | some leader =>
      rw [hl] at hx
      simp only at hx
      by_cases hown : (leader == cfg.own) = true
      · rw [if_pos hown] at hx
        have hown' : leader = cfg.own := by simpa using hown
        split at hx
        · rename_i o ho
          have hb := broadcast_bcasts _ _ _ _ ho
          rw [okStep, bcasts_append, hb] at hx
          exact ⟨List.mem_singleton.1 hx, by rw [hown']⟩
        · cases hx
      · rw [if_neg hown] at hx; cases hx

theorem honestInst_start (v h : Nat) (hv : cfg.valOk v = true) (x : Msg)
    (hx : x ∈ bcasts (start cfg s v h).outs) : HonestInst cfg x := by
  obtain ⟨h1, h2⟩ := start_bcast cfg s v h x hx
  rw [h1]
  apply honestInst_createProposal
  · show 1 ≤ firstRound; decide
  · exact h2
  · show isProposalJustification cfg h [] [] h firstRound v = .ok ()
    unfold isProposalJustification
    simp [hv, rejectIf, pure, Except.pure, bind, Except.bind]

end Honest

/-- the commit container carries no justification fields and only decodable messages (what the peer's own validator
    lets through: `ErrUnexpected…Justifications`, `ErrMalformed…Justifications` are reject rules) -/
def CommitsPlain (s : State) : Prop := ∀ x ∈ s.commit, x.malformed = false ∧ x.rcJust = [] ∧ x.prepJust = []

/-- GATE: the delivered message passed the node's own message validation as far as the rule that matters for what the
    node copies into its own broadcasts: a commit / decided message carries no justification fields
    (`ErrUnexpectedRoundChangeJustifications`, `ErrUnexpectedPrepareJustifications` are reject rules of the validator) -/
def Gated (m : Msg) : Prop := m.type = tCommit → m.rcJust = [] ∧ m.prepJust = []

section Decided
variable (cfg : Cfg) (s : State)

/-- the aggregate is a copy of the FIRST message (`msgs[0].DeepCopy()`) with the sorted signers of all -/
theorem aggregateCommitMsgs_frame (msgs : List Msg) (fd : Nat) (agg : Msg) (h : aggregateCommitMsgs msgs fd = .ok agg) :
    ∃ m rest, msgs = m :: rest ∧ agg.signers = sortNat (signersOf msgs) ∧ agg.round = m.round ∧
      agg.rcJust = m.rcJust ∧ agg.prepJust = m.prepJust ∧ agg.malformed = m.malformed := by
  obtain ⟨m, rest, rfl, hs, _, _, hro, _⟩ := aggregateCommitMsgs_spec _ _ _ h
  refine ⟨m, rest, rfl, hs, hro, ?_⟩
  unfold aggregateCommitMsgs at h
  simp only [bind_eq_ok, pure_eq_ok] at h
  obtain ⟨r, hr, rfl⟩ := h
  obtain ⟨so, md, rfl, _⟩ := aggregateLoop_spec _ rest r hr
  exact ⟨rfl, rfl, rfl⟩

theorem insertSorted_sorted (a : Nat) (l : List Nat) (h : l.Pairwise (· ≤ ·)) : (insertSorted a l).Pairwise (· ≤ ·) := by
  induction l with
  | nil => simp [insertSorted]
  | cons b rest ih =>
    unfold insertSorted
    rw [List.pairwise_cons] at h
    split
    · rename_i hab
      refine List.pairwise_cons.2 ⟨?_, List.pairwise_cons.2 h⟩
      intro y hy
      rcases List.mem_cons.1 hy with rfl | hy
      · exact hab
      · exact Nat.le_trans hab (h.1 y hy)
    · rename_i hab
      refine List.pairwise_cons.2 ⟨?_, ih h.2⟩
      intro y hy
      have := (insertSorted_perm a rest).mem_iff.1 hy
      rcases List.mem_cons.1 this with rfl | hy'
      · exact Nat.le_of_lt (Nat.lt_of_not_le hab)
      · exact h.1 y hy'

theorem sortNat_sorted (l : List Nat) : (sortNat l).Pairwise (· ≤ ·) := by
  induction l with
  | nil => simp [sortNat]
  | cons a rest ih => exact insertSorted_sorted a _ ih

/-- `sort.Slice(ret.Signers, <)` on distinct signers: strictly increasing -/
theorem sortNat_strict (l : List Nat) (h : l.Nodup) : (sortNat l).Pairwise (· < ·) := by
  have h1 := sortNat_sorted l
  have h2 : (sortNat l).Nodup := (sortNat_perm l).nodup_iff.2 h
  have h3 : (sortNat l).Pairwise (fun a b => a ≤ b ∧ a ≠ b) := h1.and h2
  exact h3.imp (fun hab => Nat.lt_of_le_of_ne hab.1 hab.2)

theorem signedValidate_malformed (b : Base) (h : signedValidate b = .ok ()) : b.malformed = false := by
  obtain ⟨_, _, _, _, (hm : b.malformed = false), _⟩ := signedValidate_ok b () h
  exact hm

theorem validateCommit_malformed (m : Base) (h r : Nat) (p : Msg) (hv : validateCommit cfg m h r p = .ok ()) :
    m.malformed = false := by
  unfold validateCommit baseCommitValidation at hv
  simp only [bind_eq_ok, wrap_eq_ok] at hv
  obtain ⟨_, ⟨_, _, _, _, _, hsv, _⟩, _⟩ := hv
  exact signedValidate_malformed m hsv

/-- the aggregate `ProcessMsg` returns (which `Controller.ProcessMsg` hands to `broadcastDecided`) is an honest decided
    message: valid certificate, SORTED signers, round = current round ≥ 1, no justification fields -/
theorem honestDecided_of_processMsg (m d : Msg) (b : Bool) (v : Nat)
    (hinv : InstInv cfg s) (hid : m.ident = cfg.ident) (hr : 1 ≤ s.round) (hpl : CommitsPlain s) (hg : Gated m)
    (h : (processMsg cfg s m).res = .ok b v (some d)) : HonestDecided cfg d ∧ d.round = s.round ∧ d.height = s.height := by
  obtain ⟨_hinst, _hheight, hdecision⟩ := processMsg_inv cfg s m hinv hid
  have hcert := hdecision b v d h
  have hspec := processMsg_spec cfg s m
  cases hspec with
  | noop _ _ h3 | prop _ _ _ _ h3 | prep _ _ _ _ _ h3 | prepQ _ _ _ _ _ _ h3 | com _ _ _ _ _ h3 | rc _ _ _ h3
  | jump _ _ _ _ _ h3 => exact absurd h (h3 _ _ _)
  | comQ p agg hacc hv hq hagg h1 h2 h3 =>
    rw [h3] at h
    simp only [Outcome.ok.injEq, Option.some.injEq] at h
    obtain ⟨_, _, rfl⟩ := h
    obtain ⟨ht, hso, hc, hn, h0, hrd, hroot, hh, _⟩ := validateCommit_ok cfg m.toBase s.height s.round p () hv
    have hmal : m.malformed = false := validateCommit_malformed cfg m.toBase _ _ p hv
    have hcont : ∀ x ∈ s.commit ++ [m], (x.malformed = false ∧ x.rcJust = [] ∧ x.prepJust = []) ∧ x.signers.Nodup := by
      intro x hx
      rcases List.mem_append.1 hx with hx | hx
      · exact ⟨hpl x hx, (hinv.commits x hx).1.nodup⟩
      · simp at hx; subst hx
        exact ⟨⟨hmal, hg ht⟩, hn⟩
    have hlus := longestUniqueSigners_spec (fun x => x.malformed = false ∧ x.rcJust = [] ∧ x.prepJust = [])
      (s.commit ++ [m]) m.round m.root hcont
    simp only at hlus
    obtain ⟨hsg, hnd, hms⟩ := hlus
    obtain ⟨m0, rest, hmsgs, hs, hro, f1, f2, f3⟩ := aggregateCommitMsgs_frame _ _ _ hagg
    obtain ⟨⟨hmal0, hjust0⟩, hround0, _hroot0⟩ := hms m0 (hmsgs ▸ List.mem_cons_self)
    have hround : agg.round = s.round := by rw [hro, hround0]; exact hrd
    refine ⟨⟨hcert.cert, ?_, hround ▸ hr, by rw [f3]; exact hmal0, by rw [f1, f2]; exact hjust0⟩, hround, hcert.height⟩
    rw [hs, ← hsg]
    exact sortNat_strict _ hnd

theorem isProposalJustification_quorum (sh : Nat) (rcs : List Lvl1) (ps : List Base) (h r fd : Nat)
    (hj : isProposalJustification cfg sh rcs ps h r fd = .ok ()) (hr : r ≠ firstRound) :
    cfg.hasQuorum (signersOfL rcs) = true ∧ firstFail (fun rc => validRoundChangeForData cfg sh rc h r fd) rcs = .ok () := by
  unfold isProposalJustification at hj
  simp only [bind_eq_ok, rejectIf_eq_ok] at hj
  obtain ⟨_, _, h2⟩ := hj
  have e : (r == firstRound) = false := by simpa using hr
  simp only [e, Bool.false_eq_true, if_false, bind_eq_ok, rejectIf_eq_ok, wrap_eq_ok] at h2
  obtain ⟨_, h3, _, h4, _⟩ := h2
  exact ⟨by simpa using h4, h3⟩

end Decided

end Ssv.Emission
