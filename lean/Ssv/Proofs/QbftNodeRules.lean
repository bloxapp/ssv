/-
C01 Layer B, part 6 — the log invariant under a node transition, and the commit quorums behind a decided message and
behind a local decision.
-/
import Ssv.Proofs.QbftMultiAuth
import Mathlib.Data.Finset.Max

namespace Ssv.Qbft.B
open Ssv.Qbft

/-- everything a node transition hands to `Broadcast` is a message of that (correct) operator for the height, and the
    trace (extended by the transition's events) reflects it -/
theorem log_step {P : Params} {T : List (Ev (Op P))} {A : Msg → Prop} (i : Op P) (hi : P.honest i = true)
    {os os' : Option State} {bs : List Msg} {evs : List (Ev (Op P))}
    (hst : NStep (P.cfg i) P.height A i os os' bs evs) (hinv : NodeInvO P T i os) :
    ∀ x ∈ bs, LogOK P (T ++ evs) x := by
  intro x hx
  -- an own proposal for the height: no event is asked for
  have hprop : ∀ y : Msg, y.type = tProposal → y.signers = [(P.cfg i).own] → y.height = P.height → LogOK P (T ++ evs) y :=
    fun y h1 h2 h3 => ⟨i, hi, h2, h3, fun ht => absurd (h1 ▸ ht) (by decide), fun ht => absurd (h1 ▸ ht) (by decide),
      fun ht => absurd (h1 ▸ ht) (by decide)⟩
  -- the prepare, commit or round-change `x` broadcast together with its event `e`
  have own : ∀ (s : State) (e : Ev (Op P)), NodeInv P T i s → x.signers = [opId i] → x.height = s.height → evs = [e] →
      (x.type = tPrepare → e = .P i x.round x.root) → (x.type = tCommit → e = .K i x.round x.root) →
      (x.type = tRoundChange → e = .RC i x.round x.dataRound x.root) → LogOK P (T ++ evs) x :=
    fun s e hs h1 h2 h3 hP hK hRC => by
      have hm : e ∈ T ++ evs := h3 ▸ List.mem_append_right _ (.head _)
      exact ⟨i, hi, h1, h2.trans hs.height, fun ht => hP ht ▸ hm, fun ht => hK ht ▸ hm, fun ht => hRC ht ▸ hm⟩
  cases hst with
  | idle _ h2 _ | createDecided _ _ _ _ _ _ h2 _ | adopt _ _ _ _ _ _ _ _ h2 _ | more _ _ _ _ _ _ _ _ h2 _
  | prep _ _ _ _ _ _ _ _ h2 _ | com _ _ _ _ _ _ _ _ h2 _ | comQ _ _ _ _ _ _ _ _ _ _ _ h2 _ =>
    subst h2; cases hx
  | create v _ _ h2 _ =>
    obtain ⟨ht, hsg, hh⟩ := h2 x hx
    exact hprop x ht hsg hh
  | prop s m _ h0 hv _ _ h2 h3 =>
    subst h0
    rcases h2 with rfl | rfl
    · cases hx
    · cases List.mem_singleton.1 hx
      exact own s _ hinv rfl rfl h3 (fun _ => congrArg _ (isValidProposal_ok (P.cfg i) s m () hv).hash.symm) nofun nofun
  | prepQ s m p _ h0 _ _ _ _ h2 =>
    subst h0
    rcases h2 with ⟨rfl, _⟩ | ⟨rfl, h3⟩
    · cases hx
    · cases List.mem_singleton.1 hx
      exact own s _ hinv rfl rfl h3 nofun (fun _ => rfl) nofun
  | rc s X h0 _ h2 _ =>
    subst h0
    obtain ⟨ht, hsg, hh⟩ := h2 x hx
    exact hprop x ht hsg (hh.trans (NodeInv.height hinv))
  | jump s X R h0 _ _ h2 =>
    subst h0
    rcases h2 with ⟨rfl, _⟩ | ⟨rfl, h3⟩
    · cases hx
    · cases List.mem_singleton.1 hx
      refine own s _ hinv (createRoundChange_signers _ _ _) (createRoundChange_height _ _ _) h3 (fun ht => ?_) (fun ht => ?_)
        (fun _ => by rw [createRoundChange_round])
      · rw [createRoundChange_type] at ht; exact absurd ht (by decide)
      · rw [createRoundChange_type] at ht; exact absurd ht (by decide)

theorem kq_of_cert {P : Params} (hP : P.Valid) {T evs : List (Ev (Op P))} {m : Msg} (cf : CertFacts P T m) {k : Nat}
    (hk : T.length ≤ k) : QAbs.KQ (ctxT P hP (T ++ evs)) k m.round m.root := by
  obtain ⟨_, hc, hK⟩ := cf.ok
  obtain ⟨S, hS, hm⟩ := quorum_set P m.signers P.quorum hc cf.quorum
  rw [kernel_quorum P hP] at hS
  exact kq_of_mem hk S hS (fun j hj hh => hK j hh (hm j hj))

/-- a local commit quorum is an authentic commit quorum for the accepted proposal's value -/
theorem kq_of_local {P : Params} (hP : P.Valid) {T evs : List (Ev (Op P))}
    (i : Op P) (s : State) (hinv : NodeInv P T i s) (m p agg : Msg) (ha : M.AuthT P T m) (hacc : s.accepted = some p)
    (hv : validateCommit (P.cfg i) m.toBase s.height s.round p = .ok ())
    (hq : (P.cfg i).quorum ≤ (longestUniqueSigners (s.commit ++ [m]) m.round m.root).1.length)
    (hagg : aggregateCommitMsgs (longestUniqueSigners (s.commit ++ [m]) m.round m.root).2 p.fullData = .ok agg)
    {k : Nat} (hk : T.length ≤ k) : QAbs.KQ (ctxT P hP (T ++ evs)) k agg.round agg.fullData := by
  obtain ⟨hid, hbase, _⟩ := ha
  obtain ⟨hmok, _, hroot⟩ := M.commitOK_of_validateCommit i m _ _ p hinv.height hv hid hbase
  -- the commits that are aggregated: stored ones and `m`, all for (m.round, m.root), their signers pairwise distinct
  have hcc : ∀ x ∈ s.commit ++ [m], CommitOK P T x ∧ x.signers.Nodup := by
    intro x hx
    rcases List.mem_append.1 hx with hx | hx
    · exact ⟨hinv.commits x hx, (hinv.commits x hx).1⟩
    · cases List.mem_singleton.1 hx; exact ⟨hmok, hmok.1⟩
  obtain ⟨hsg, hnd, hms⟩ := longestUniqueSigners_spec (CommitOK P T) (s.commit ++ [m]) m.round m.root hcc
  -- the aggregate carries the round of the first of them and the accepted proposal's data, whose hash is `m.root`
  obtain ⟨m0, rest, hmsgs, _, _, _, hro, _, _, hfd, _⟩ := aggregateCommitMsgs_spec _ _ _ hagg
  have hround : agg.round = m.round := by
    obtain ⟨_, hr0, _⟩ := hms m0 (hmsgs ▸ List.mem_cons_self)
    rw [hro]; exact hr0
  have hval : agg.fullData = m.root := by
    rw [hfd, ← hroot]; exact (hinv.propGood p (hinv.acc p hacc).1).hash
  rw [hround, hval]
  have hq' : P.quorum ≤ uniqueCount (signersOf (longestUniqueSigners (s.commit ++ [m]) m.round m.root).2) := by
    rw [← hsg, uniqueCount_of_nodup _ hnd]; exact hq
  obtain ⟨S, hS, hQ⟩ := quorum_members hP (fun x : Msg => x.signers) _ hq' (fun j => P.honest j = true → Ev.K j m.round m.root ∈ T)
    (fun x hx sg hxs => by
      obtain ⟨⟨_, hc, hK⟩, hxr, hxroot⟩ := hms x hx
      exact ⟨hc sg hxs, fun j hj hh => hxr ▸ hxroot ▸ hK j hh (hj ▸ hxs)⟩)
  exact kq_of_mem hk S hS hQ

end Ssv.Qbft.B
