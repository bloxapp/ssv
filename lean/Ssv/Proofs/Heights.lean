/-
Engine `heights` (C15): the instance container (`find`, `ins`, `addNew`, `replaceInst`), `TopOk`, and compaction
(`trim`). Core Lean only.
-/
import Ssv.Proofs.HeightsLongest
import Ssv.Common.Lemmas

namespace Ssv.Heights

theorem cap_eq : cap = 2 := rfl

theorem find_nil (h : Nat) : find [] h = none := rfl

section
variable {l : List Inst} {h : Nat} {i x : Inst}

theorem find_cons (x : Inst) (xs : List Inst) (h : Nat) :
    find (x :: xs) h = if x.height = h then some x else find xs h :=
  find?_key_cons Inst.height x xs h

theorem find_some_height (hf : find l h = some i) : i.height = h := (find?_key_some Inst.height hf).2

theorem find_some_mem (hf : find l h = some i) : i ∈ l := (find?_key_some Inst.height hf).1

theorem find_self (hf : find l h = some i) : find l i.height = some i := by
  rw [find_some_height hf]; exact hf

theorem find_none_iff : find l h = none ↔ ∀ i ∈ l, i.height ≠ h := by
  simp [find]

theorem mem_ins : x ∈ ins i l ↔ x = i ∨ x ∈ l := by
  induction l with
  | nil => simp [ins]
  | cons y ys ih =>
    unfold ins
    split
    · simp
    · simp [ih, or_left_comm]

theorem mem_addNew (hx : x ∈ addNew l i) : x = i ∨ x ∈ l := by
  unfold addNew at hx
  exact mem_ins.mp (List.mem_of_mem_take hx)

theorem ins_of_lt (hl : ∀ x ∈ l, x.height < i.height) : ins i l = i :: l := by
  cases l with
  | nil => rfl
  | cons y ys =>
    have := hl y (by simp)
    simp [ins, this]

theorem addNew_of_lt (hl : ∀ x ∈ l, x.height < i.height) :
    addNew l i = i :: l.take 1 := by
  unfold addNew
  rw [ins_of_lt hl, cap_eq]
  rfl

end

theorem find_isSome_iff {l : List Inst} {k : Nat} : (find l k).isSome = true ↔ ∃ i ∈ l, i.height = k := by
  simp [find]

theorem addNew_nil (i : Inst) : addNew [] i = [i] := rfl

theorem addNew_cons_ge {i x : Inst} {xs : List Inst} (hx : ¬ x.height < i.height) :
    addNew (x :: xs) i = x :: (ins i xs).take 1 := by
  unfold addNew
  rw [cap_eq]
  simp [ins, hx]

theorem replaceInst_cons_same {i' x : Inst} {xs : List Inst} (h : x.height = i'.height) :
    replaceInst i' (x :: xs) = i' :: xs := by
  simp [replaceInst, h]

theorem replaceInst_cons_other {i' x : Inst} {xs : List Inst} (h : x.height ≠ i'.height) :
    replaceInst i' (x :: xs) = x :: replaceInst i' xs := by
  simp [replaceInst, h]

theorem replaceInst_of_none {i' : Inst} {l : List Inst} (h : find l i'.height = none) : replaceInst i' l = l := by
  induction l with
  | nil => rfl
  | cons x xs ih =>
    have hx : x.height ≠ i'.height := (find_none_iff.mp h) x (by simp)
    rw [replaceInst_cons_other hx, ih]
    rw [find_cons] at h
    simpa [hx] using h

theorem mem_replaceInst {i' x : Inst} {l : List Inst} (hx : x ∈ replaceInst i' l) : x = i' ∨ x ∈ l := by
  induction l with
  | nil => cases hx
  | cons y ys ih =>
    unfold replaceInst at hx
    split at hx
    · exact (List.mem_cons.mp hx).imp id (List.mem_cons_of_mem _)
    · rcases List.mem_cons.mp hx with h | h
      · exact Or.inr (h ▸ List.mem_cons_self)
      · exact (ih h).imp id (List.mem_cons_of_mem _)

section
variable {h k n : Nat} {l : List Inst} {i i' x y : Inst}

theorem find_replaceInst_same (hf : find l h = some i) (hi' : i'.height = h) :
    find (replaceInst i' l) h = some i' := by
  induction l with
  | nil => cases hf
  | cons x xs ih =>
    rw [find_cons] at hf
    by_cases hx : x.height = h
    · rw [replaceInst_cons_same (hx.trans hi'.symm), find_cons, if_pos hi']
    · rw [if_neg hx] at hf
      rw [replaceInst_cons_other (fun e => hx (e.trans hi')), find_cons, if_neg hx, ih hf]

theorem find_replaceInst_other (hi' : i'.height ≠ h) :
    find (replaceInst i' l) h = find l h := by
  induction l with
  | nil => rfl
  | cons x xs ih =>
    by_cases hx : x.height = i'.height
    · rw [replaceInst_cons_same hx, find_cons, find_cons, if_neg hi', if_neg (hx ▸ hi')]
    · rw [replaceInst_cons_other hx, find_cons, find_cons, ih]

theorem find_replaceInst_isSome (i' : Inst) (l : List Inst) (k : Nat) :
    (find (replaceInst i' l) k).isSome = (find l k).isSome := by
  by_cases hk : k = i'.height
  · subst hk
    cases hf : find l i'.height with
    | none => rw [replaceInst_of_none hf, hf]
    | some i => rw [find_replaceInst_same hf rfl]; rfl
  · rw [find_replaceInst_other (by omega)]

theorem find_ins_other (hx : x.height ≠ k) : find (ins x l) k = find l k := by
  induction l with
  | nil => simp [ins, find_cons, hx, find_nil]
  | cons y ys ih =>
    unfold ins
    split
    · rw [find_cons]; simp [hx]
    · rw [find_cons, find_cons, ih]

theorem find_take (h : find (l.take n) k = some y) : find l k = some y := by
  induction l generalizing n with
  | nil => simp [find_nil] at h
  | cons x xs ih =>
    cases n with
    | zero => simp [find_nil] at h
    | succ n =>
      rw [List.take_succ_cons, find_cons] at h
      rw [find_cons]
      split
      · rename_i hx; simpa [hx] using h
      · rename_i hx; simp only [hx, if_false] at h; exact ih h

theorem find_addNew_other (hx : x.height ≠ k)
    (h : find (addNew l x) k = some y) : find l k = some y := by
  unfold addNew at h
  rw [← find_ins_other hx]
  exact find_take h

theorem find_ins_self (hl : find l x.height = none) : find (ins x l) x.height = some x := by
  induction l with
  | nil => simp [ins, find_cons]
  | cons y ys ih =>
    have hy : y.height ≠ x.height := (find_none_iff.mp hl) y (by simp)
    rw [find_cons] at hl
    simp only [hy, if_false] at hl
    unfold ins
    split
    · rw [find_cons]; simp
    · rw [find_cons]; simp only [hy, if_false]; exact ih hl

theorem find_addNew_self (hl : find l x.height = none)
    (h : find (addNew l x) x.height = some y) : y = x := by
  unfold addNew at h
  have := find_take h
  rw [find_ins_self hl] at this
  cases this; rfl

end

/-- everything is at or below the controller height `c`, and only the head may be AT it -/
def TopOk (c : Nat) : List Inst → Prop
  | [] => True
  | x :: xs => x.height ≤ c ∧ ∀ i ∈ xs, i.height < c

theorem TopOk.le {c : Nat} {l : List Inst} (h : TopOk c l) : ∀ i ∈ l, i.height ≤ c := by
  cases l with
  | nil => intro i hi; simp at hi
  | cons x xs =>
    intro i hi
    rcases List.mem_cons.mp hi with rfl | hi
    · exact h.1
    · exact Nat.le_of_lt (h.2 i hi)

theorem TopOk.mono {c c' : Nat} {l : List Inst} (h : TopOk c l) (hc : c ≤ c') : TopOk c' l := by
  cases l with
  | nil => trivial
  | cons x xs => exact ⟨Nat.le_trans h.1 hc, fun i hi => Nat.lt_of_lt_of_le (h.2 i hi) hc⟩

theorem TopOk.push {l : List Inst} (i : Inst) (hi : ∀ x ∈ l, x.height < i.height) (n : Nat) :
    TopOk i.height (i :: l.take n) :=
  ⟨Nat.le_refl _, fun x hx => hi x (List.mem_of_mem_take hx)⟩

theorem TopOk.find_head {c : Nat} {l : List Inst} (h : TopOk c l) {i : Inst} (hf : find l c = some i) :
    ∃ rest, l = i :: rest := by
  cases l with
  | nil => simp [find_nil] at hf
  | cons x xs =>
    rw [find_cons] at hf
    by_cases hx : x.height = c
    · simp [hx] at hf; exact ⟨xs, by rw [hf]⟩
    · simp [hx] at hf
      have h1 := find_some_height hf
      have h2 := h.2 i (find_some_mem hf)
      omega

theorem TopOk.replace {c : Nat} {l : List Inst} (h : TopOk c l) {i' : Inst} (hi' : ∃ i ∈ l, i.height = i'.height) :
    TopOk c (replaceInst i' l) := by
  cases l with
  | nil => trivial
  | cons x xs =>
    by_cases hx : x.height = i'.height
    · rw [replaceInst_cons_same hx]
      exact ⟨hx ▸ h.1, h.2⟩
    · rw [replaceInst_cons_other hx]
      refine ⟨h.1, ?_⟩
      intro y hy
      rcases mem_replaceInst hy with rfl | hy
      · obtain ⟨i, hi, hih⟩ := hi'
        rcases List.mem_cons.mp hi with rfl | hi
        · exact absurd hih hx
        · rw [← hih]; exact h.2 i hi
      · exact h.2 y hy

/-- `replaceInst` keeps `TopOk` (it changes nothing when no instance of that height is in the container) -/
theorem TopOk.replaceInst {c : Nat} {l : List Inst} (h : TopOk c l) (i' : Inst) :
    TopOk c (Ssv.Heights.replaceInst i' l) := by
  cases hf : find l i'.height with
  | none => rw [replaceInst_of_none hf]; exact h
  | some i => exact h.replace ⟨i, find_some_mem hf, find_some_height hf⟩

section
variable {c : Nat} {l : List Inst} {x : Inst}

theorem TopOk.addNew (h : TopOk c l) (i : Inst) (hi : i.height ≤ c)
    (hne : i.height = c → ∀ x ∈ l, x.height ≠ c) : TopOk c (Ssv.Heights.addNew l i) := by
  cases l with
  | nil => exact ⟨hi, nofun⟩
  | cons x xs =>
    by_cases hx : x.height < i.height
    · -- above the head: the new instance and the old head are what is kept
      have e : Ssv.Heights.addNew (x :: xs) i = [i, x] := by unfold Ssv.Heights.addNew ins; rw [if_pos hx]; rfl
      rw [e]
      exact ⟨hi, fun y hy => List.mem_singleton.mp hy ▸ Nat.lt_of_lt_of_le hx hi⟩
    · -- the head stays; the new instance is not above it, so it is below `c` unless the head is AT `c` too
      rw [addNew_cons_ge hx]
      refine ⟨h.1, fun y hy => ?_⟩
      rcases mem_ins.mp (List.mem_of_mem_take hy) with rfl | hy'
      · have hxc : x.height ≤ c := h.1
        have hxne : y.height = c → x.height ≠ c := fun e => hne e x List.mem_cons_self
        omega
      · exact h.2 y hy'

theorem TopOk.map (h : TopOk c l) (f : Inst → Inst) (hf : ∀ x, (f x).height = x.height) :
    TopOk c (l.map f) := by
  cases l with
  | nil => trivial
  | cons x xs =>
    refine ⟨by rw [hf]; exact h.1, ?_⟩
    intro y hy
    obtain ⟨z, hz, rfl⟩ := List.mem_map.mp hy
    rw [hf]; exact h.2 z hz

end

theorem trim_height (i : Inst) : (trim i).height = i.height := rfl
theorem trim_round (i : Inst) : (trim i).round = i.round := rfl
theorem trim_decided (i : Inst) : (trim i).decided = i.decided := rfl
theorem mem_trim_commits {i : Inst} {m : Msg} : m ∈ (trim i).commits ↔ m ∈ i.commits ∧ i.round ≤ m.round := by
  simp [trim, List.mem_filter]

end Ssv.Heights
