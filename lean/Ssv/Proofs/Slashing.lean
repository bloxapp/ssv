/-
The invariant behind C04 (`Inv`: each ghost log is guarded by its stored record, `Guarded`) and its preservation by
every step of `step`; the complete case lists of a sign request (`stepSignAtt_cases`, `stepSignBlock_cases`), of a
failing record write (`writeFault_eq`) and of the wallet lock (`blockOrRun_cases`), from which the single-step
statements of C04 follow.
-/
import Ssv.Model.Slashing

namespace Ssv.Slashing

/-- every signature RELEASED by the step from `s` to `s'` (new entries of the ghost logs) is within the property's
    quantifier at its release: attestation `source < target ≤ epoch(clock)`, block `slot ≤ clock` -/
def NewOk (cfg : Cfg) (s s' : State) : Prop :=
  (∀ a ∈ s'.atts, a ∈ s.atts ∨ (a.1 < a.2 ∧ a.2 ≤ epochOf cfg s.clock)) ∧
  (∀ b ∈ s'.blocks, b ∈ s.blocks ∨ b ≤ s.clock)

instance (cfg : Cfg) (s s' : State) : Decidable (NewOk cfg s s') := by
  unfold NewOk; infer_instance

/-- the property's quantifier ("targets and block slots not beyond the clock at signing time"), asked only of
    requests that are actually SIGNED, at the moment they are signed (a request delayed behind a bump is signed when
    the bump finishes); plus `source < target` for attestations (the attester value check of ssv-spec enforces it
    before any sign request; the proof needs it across remove / re-add). -/
def SignedOk (cfg : Cfg) (s : State) (op : Op) : Prop := NewOk cfg s (step cfg s op).1

instance (cfg : Cfg) (s : State) (op : Op) : Decidable (SignedOk cfg s op) := by
  unfold SignedOk; infer_instance

/-- `P` holds at every step of the run of `ops` from `s` -/
def Along (cfg : Cfg) (P : State → Op → Prop) (s : State) : List Op → Prop
  | [] => True
  | op :: ops => P s op ∧ Along cfg P (step cfg s op).1 ops

def decAlong (cfg : Cfg) (P : State → Op → Prop) [∀ s op, Decidable (P s op)] :
    ∀ (s : State) (ops : List Op), Decidable (Along cfg P s ops)
  | _, [] => isTrue trivial
  | s, op :: ops => @instDecidableAnd _ _ _ (decAlong cfg P (step cfg s op).1 ops)

instance (cfg : Cfg) (P : State → Op → Prop) [∀ s op, Decidable (P s op)] (s : State) (ops : List Op) :
    Decidable (Along cfg P s ops) := decAlong cfg P s ops

/-- a log of released signatures guarded by a stored record: every entry is well-formed, below the record (when there
    is one), and no two entries conflict. The attestation log and the block log are the two instances. -/
structure Guarded {α : Type} (wf : α → Prop) (le conflict : α → α → Prop) (rec : Option α) (log : List α) : Prop where
  wf : ∀ a ∈ log, wf a
  dom : ∀ w, rec = some w → ∀ a ∈ log, le a w
  safe : log.Pairwise fun a b => ¬ conflict a b

section Guarded
variable {α : Type} {wf wf' : α → Prop} {le conflict : α → α → Prop} {rec rec' : Option α} {log : List α}

/-- the record may be deleted or replaced by one that is above every entry -/
theorem Guarded.record (g : Guarded wf le conflict rec log) (h : ∀ w, rec' = some w → ∀ a ∈ log, le a w) :
    Guarded wf le conflict rec' log :=
  ⟨g.wf, h, g.safe⟩

theorem Guarded.mono (g : Guarded wf le conflict rec log) (h : ∀ a, wf a → wf' a) :
    Guarded wf' le conflict rec log :=
  ⟨fun a ha => h a (g.wf a ha), g.dom, g.safe⟩

/-- releasing `x` and making it the record: `x` has to be above everything the old record `w` is above, and must not
    conflict with anything below `w` -/
theorem Guarded.release {w x : α} (g : Guarded wf le conflict (some w) log) (hwf : wf x) (hxx : le x x)
    (hle : ∀ a, le a w → le a x) (hc : ∀ a, le a w → ¬ conflict x a) :
    Guarded wf le conflict (some x) (x :: log) :=
  ⟨List.forall_mem_cons.mpr ⟨hwf, g.wf⟩,
    fun _ e => Option.some.inj e ▸ List.forall_mem_cons.mpr ⟨hxx, fun a ha => hle a (g.dom w rfl a ha)⟩,
    List.pairwise_cons.mpr ⟨fun a ha => hc a (g.dom w rfl a ha), g.safe⟩⟩

end Guarded

structure AttLe (a w : Att) : Prop where
  src : a.1 ≤ w.1
  tgt : a.2 ≤ w.2

theorem epochOf_mono (cfg : Cfg) {a b : Nat} (h : a ≤ b) : epochOf cfg a ≤ epochOf cfg b :=
  Nat.div_le_div_right h

theorem minimalAtt_dom {a : Att} {e : Nat} (h1 : a.1 < a.2) (h2 : a.2 ≤ e) : AttLe a (minimalAtt e) := by
  have ht : a.2 ≤ e + Gen.ekm_minSPAttestationEpochGap := Nat.le_add_right_of_le h2
  -- `source < target` puts the target above 0, so the `uint64` wrap of `target - 1` does not occur
  have h0 : e + Gen.ekm_minSPAttestationEpochGap ≠ 0 := Nat.ne_of_gt (Nat.lt_of_lt_of_le (Nat.zero_lt_of_lt h1) ht)
  refine ⟨?_, ht⟩
  simp only [minimalAtt, if_neg h0]
  exact Nat.le_sub_one_of_lt (Nat.lt_of_lt_of_le h1 ht)

theorem minimalProp_dom {b c : Nat} (h : b ≤ c) : b ≤ minimalProp c := Nat.le_add_right_of_le h

theorem attDecision_some {cfg : Cfg} {cur : Option Att} {c : Nat} {w : Att}
    (h : attDecision cfg cur c = some w) : w = minimalAtt (epochOf cfg c) := by
  simp only [attDecision] at h
  split at h
  · split at h
    · cases h
    · exact (Option.some.inj h).symm
  · exact (Option.some.inj h).symm

theorem propDecision_some {cur : Option Nat} {c w : Nat}
    (h : propDecision cur c = some w) : w = minimalProp c := by
  simp only [propDecision] at h
  split at h
  · split at h
    · cases h
    · exact (Option.some.inj h).symm
  · exact (Option.some.inj h).symm

/-- the proposal half of a bump (`updateHighestProposal` and its error returns); `bumpAtomic` runs it after either
    outcome of the attestation half -/
def bumpProp (c : Nat) (d : Durable) (failProp : Bool) : Durable × Out :=
  match propDecision d.prop c with
  | some p =>
    if failProp then (d, .errFault) else if p = 0 then (d, .errPropSlotZero) else ({ d with prop := some p }, .ok)
  | none => (d, .ok)

theorem bumpAtomic_eq (cfg : Cfg) (c : Nat) (d : Durable) (fa fp : Bool) :
    bumpAtomic cfg c d fa fp =
      match attDecision cfg d.att c with
      | some w => if fa then (d, .errFault) else bumpProp c { d with att := some w } fp
      | none => bumpProp c d fp := rfl

/-- the slot the bump read from the clock when it began -/
def BumpPc.c : BumpPc → Nat
  | .attRead c | .attWrite c _ | .propRead c | .propWrite c _ => c

/-- a write the bump has decided on is the minimal record of its clock reading -/
def PcOk (cfg : Cfg) : BumpPc → Prop
  | .attWrite c w => w = minimalAtt (epochOf cfg c)
  | .propWrite c w => w = minimalProp c
  | _ => True

/-- an in-flight bump at `pc`: because nothing is signed while it holds the lock, every released signature is within
    its clock reading -/
structure PcInv (cfg : Cfg) (atts : List Att) (blocks : List Nat) (pc : BumpPc) : Prop where
  ok : PcOk cfg pc
  atts : ∀ a ∈ atts, a.2 ≤ epochOf cfg pc.c
  blocks : ∀ b ∈ blocks, b ≤ pc.c

def PendOk (cfg : Cfg) (atts : List Att) (blocks : List Nat) : Option BumpPc → Prop
  | none => True
  | some pc => PcInv cfg atts blocks pc

/-- Each log is guarded by its record, and every entry is within the CURRENT clock. The second part is what lets a
    bump or a re-add write the minimal record of the clock it reads without going below a released signature. -/
structure Inv (cfg : Cfg) (s : State) : Prop where
  att : Guarded (fun a => a.1 < a.2 ∧ a.2 ≤ epochOf cfg s.clock) AttLe Slashable s.d.att s.atts
  blk : Guarded (· ≤ s.clock) (· ≤ ·) (· = ·) s.d.prop s.blocks
  pendOk : PendOk cfg s.atts s.blocks s.pend

section
variable {cfg : Cfg} {s : State}

theorem inv_init (cfg : Cfg) (c : Nat) : Inv cfg (init c) :=
  ⟨⟨nofun, nofun, .nil⟩, ⟨nofun, nofun, .nil⟩, trivial⟩

theorem inv_frame (h : Inv cfg s) (acc : Bool) (dl : Option Op) (out : Option Out) :
    Inv cfg { s with d := { s.d with account := acc }, delayed := dl, delayedOut := out } :=
  ⟨h.att, h.blk, h.pendOk⟩

/-- writing the minimal record of an epoch that bounds every released target (and moving the pc of the bump) -/
theorem inv_setAtt (h : Inv cfg s) {e : Nat} (he : ∀ a ∈ s.atts, a.2 ≤ e) {p : Option BumpPc}
    (hp : PendOk cfg s.atts s.blocks p) :
    Inv cfg { s with d := { s.d with att := some (minimalAtt e) }, pend := p } :=
  ⟨h.att.record fun _ hw a ha => Option.some.inj hw ▸ minimalAtt_dom (h.att.wf a ha).1 (he a ha), h.blk, hp⟩

theorem inv_setProp (h : Inv cfg s) {c : Nat} (hc : ∀ b ∈ s.blocks, b ≤ c) {p : Option BumpPc}
    (hp : PendOk cfg s.atts s.blocks p) :
    Inv cfg { s with d := { s.d with prop := some (minimalProp c) }, pend := p } :=
  ⟨h.att, h.blk.record fun _ hw b hb => Option.some.inj hw ▸ minimalProp_dom (hc b hb), hp⟩

theorem inv_pend (h : Inv cfg s) (pend' : Option BumpPc)
    (hpend : PendOk cfg s.atts s.blocks pend') : Inv cfg { s with pend := pend' } :=
  ⟨h.att, h.blk, hpend⟩

theorem inv_bumpProp (h : Inv cfg s) (fp : Bool) : Inv cfg { s with d := (bumpProp s.clock s.d fp).1 } := by
  unfold bumpProp
  split
  · rename_i p hp
    split
    · exact h
    · split
      · exact h
      · exact propDecision_some hp ▸ inv_setProp h h.blk.wf h.pendOk
  · exact h

/-- a whole bump: the minimal records of the CURRENT clock dominate everything released -/
theorem inv_bumpAtomic (h : Inv cfg s) (fa fp : Bool) :
    Inv cfg { s with d := (bumpAtomic cfg s.clock s.d fa fp).1 } := by
  rw [bumpAtomic_eq]
  split
  · rename_i w hw
    cases fa
    · exact inv_bumpProp (s := { s with d := { s.d with att := some w } })
        (attDecision_some hw ▸ inv_setAtt h (fun a ha => (h.att.wf a ha).2) h.pendOk) fp
    · exact h
  · exact inv_bumpProp h fp

theorem inv_add (h : Inv cfg s) (fa fp : Bool) : Inv cfg (stepAdd cfg s fa fp).1 := by
  unfold stepAdd
  split
  · exact h
  · have hb := inv_bumpAtomic h fa fp
    split <;> rename_i heq <;> rw [heq] at hb
    · exact inv_frame hb true _ _
    · exact hb

theorem inv_remove (h : Inv cfg s) (f : Option Nat) : Inv cfg (stepRemove s f).1 := by
  unfold stepRemove
  split
  · exact h
  · split
    · exact h
    · exact ⟨h.att.record (fun _ e => nomatch e), h.blk, h.pendOk⟩
    · exact ⟨h.att.record (fun _ e => nomatch e), h.blk.record (fun _ e => nomatch e), h.pendOk⟩

theorem inv_bumpBegin (h : Inv cfg s) : Inv cfg (stepBumpBegin s).1 := by
  unfold stepBumpBegin
  split
  · exact h
  · exact inv_pend h _ ⟨trivial, fun a ha => (h.att.wf a ha).2, h.blk.wf⟩

theorem inv_pcStep {pc pc' : BumpPc} (h : Inv cfg s) (hp : s.pend = some pc)
    (hc : pc'.c = pc.c) (hok : PcOk cfg pc') : Inv cfg { s with pend := some pc' } := by
  have hpc : PendOk cfg s.atts s.blocks (some pc) := hp ▸ h.pendOk
  exact inv_pend h _ ⟨hok, hc ▸ hpc.atts, hc ▸ hpc.blocks⟩

/-- a read of the in-flight bump: only its pc moves (so logs and clock, which is all `NewOk` reads of the earlier
    state, stay) -/
theorem inv_bumpRead (h : Inv cfg s) :
    Inv cfg (stepBumpRead cfg s).1 ∧ ∀ s', NewOk cfg s s' → NewOk cfg (stepBumpRead cfg s).1 s' := by
  unfold stepBumpRead
  split
  · rename_i c hp
    split
    · rename_i w hw
      exact ⟨inv_pcStep h hp rfl (attDecision_some hw), fun _ h => h⟩
    · exact ⟨inv_pcStep h hp rfl trivial, fun _ h => h⟩
  · rename_i c hp
    split
    · rename_i w hw
      exact ⟨inv_pcStep h hp rfl (propDecision_some hw), fun _ h => h⟩
    · exact ⟨inv_pend h _ trivial, fun _ h => h⟩
  · exact ⟨h, fun _ h => h⟩

/-- the bump's writes: the minimal record of ITS clock reading dominates every released signature, because none was
    released since that reading (so no hypothesis that the reading is still fresh is needed) -/
theorem inv_bumpWrite (h : Inv cfg s) :
    Inv cfg (stepBumpWrite s).1 ∧ ∀ s', NewOk cfg s s' → NewOk cfg (stepBumpWrite s).1 s' := by
  have hpo := h.pendOk
  unfold stepBumpWrite
  split
  · rename_i c w hp
    rw [hp] at hpo
    obtain rfl : w = minimalAtt (epochOf cfg c) := hpo.ok
    exact ⟨inv_setAtt h hpo.atts ⟨trivial, hpo.atts, hpo.blocks⟩, fun _ h => h⟩
  · rename_i c w hp
    rw [hp] at hpo
    obtain rfl : w = minimalProp c := hpo.ok
    split
    · exact ⟨inv_pend h _ trivial, fun _ h => h⟩
    · exact ⟨inv_setProp h hpo.blocks trivial, fun _ h => h⟩
  · exact ⟨h, fun _ h => h⟩

theorem inv_tick (h : Inv cfg s) (dt : Nat) : Inv cfg { s with clock := s.clock + dt } :=
  ⟨h.att.mono fun _ ha => ⟨ha.1, Nat.le_trans ha.2 (epochOf_mono cfg (Nat.le_add_right ..))⟩,
    h.blk.mono fun _ hb => Nat.le_add_right_of_le hb, h.pendOk⟩

/-- a request that passes the check against a record dominating every released attestation is not slashable
    with any of them -/
theorem not_slashable_of_dom {x y hs ht : Nat} {a : Att} (h : AttLe a (hs, ht))
    (hx : hs ≤ x) (hy : ht < y) : ¬ Slashable (x, y) a := by
  have hlt : a.2 < y := Nat.lt_of_le_of_lt h.tgt hy
  rintro (h' | ⟨h', _⟩ | ⟨_, h'⟩)
  · exact Nat.ne_of_gt hlt h'
  · exact Nat.not_lt.mpr (Nat.le_trans h.src hx) h'
  · exact Nat.lt_asymm hlt h'

/-- a request that passes `IsSlashableAttestation` replaces the record -/
theorem updAtt_eq {hs ht x y : Nat} (hx : hs ≤ x) (hy : ht < y) : updAtt (hs, ht) x y = (x, y) := by
  rcases Nat.lt_or_eq_of_le hx with h | h
  · simp only [updAtt, if_pos h, if_pos hy]
  · simp only [updAtt, h, Nat.lt_irrefl, if_false, if_pos hy]

/-- the two outcomes of an attestation sign request: refused with nothing changed, or every guard passed, the record
    is the request and the request is released -/
theorem stepSignAtt_cases (cfg : Cfg) (s : State) (x y : Nat) :
    (∃ r, stepSignAtt cfg s x y = (s, .refused r)) ∨
    (∃ hs ht, s.d.att = some (hs, ht) ∧ hs ≤ x ∧ ht < y ∧ s.d.account = true ∧
      y ≤ cfg.ffEpoch ∧ x ≤ cfg.ffEpoch ∧
      stepSignAtt cfg s x y =
        ({ s with d := { s.d with att := some (x, y) }, atts := (x, y) :: s.atts }, .signed)) := by
  unfold stepSignAtt
  cases hacc : s.d.account
  · exact .inl ⟨_, rfl⟩
  rw [Bool.not_true, if_neg Bool.false_ne_true]
  by_cases hy : y > cfg.ffEpoch
  · exact .inl ⟨_, if_pos hy⟩
  rw [if_neg hy]
  by_cases hx : x > cfg.ffEpoch
  · exact .inl ⟨_, if_pos hx⟩
  rw [if_neg hx]
  cases hatt : s.d.att with
  | none => exact .inl ⟨_, rfl⟩
  | some w =>
    obtain ⟨hs, ht⟩ := w
    dsimp only
    cases hc : decide (x < hs) || decide (y ≤ ht)
    · obtain ⟨h1, h2⟩ := Bool.or_eq_false_iff.mp hc
      have hx' := Nat.le_of_not_lt (of_decide_eq_false h1)
      have hy' := Nat.lt_of_not_le (of_decide_eq_false h2)
      refine .inr ⟨hs, ht, rfl, hx', hy', rfl, Nat.le_of_not_gt hy, Nat.le_of_not_gt hx, ?_⟩
      simp only [Bool.false_eq_true, if_false, updAtt_eq hx' hy']
    · exact .inl ⟨_, rfl⟩

theorem inv_signAtt (h : Inv cfg s) (hp : s.pend = none) (x y : Nat)
    (hnew : NewOk cfg s (stepSignAtt cfg s x y).1) : Inv cfg (stepSignAtt cfg s x y).1 := by
  rcases stepSignAtt_cases cfg s x y with ⟨_, heq⟩ | ⟨hs, ht, hatt, hx, hy, _, _, _, heq⟩
  · rw [heq]; exact h
  · rw [heq] at hnew ⊢
    have hwf := (hnew.1 (x, y) (List.mem_cons_self ..)).elim (h.att.wf _) id
    exact ⟨(hatt ▸ h.att).release hwf ⟨Nat.le_refl _, Nat.le_refl _⟩
        (fun _ ha => ⟨Nat.le_trans ha.src hx, Nat.le_trans ha.tgt (Nat.le_of_lt hy)⟩)
        (fun _ ha => not_slashable_of_dom ha hx hy),
      h.blk, hp ▸ trivial⟩

theorem stepSignBlock_cases (cfg : Cfg) (s : State) (slot : Nat) :
    (∃ r, stepSignBlock cfg s slot = (s, .refused r)) ∨
    (∃ hp, s.d.prop = some hp ∧ hp < slot ∧ s.d.account = true ∧ slot ≤ cfg.ffSlot ∧
      stepSignBlock cfg s slot =
        ({ s with d := { s.d with prop := some slot }, blocks := slot :: s.blocks }, .signed)) := by
  unfold stepSignBlock
  cases hacc : s.d.account
  · exact .inl ⟨_, rfl⟩
  rw [Bool.not_true, if_neg Bool.false_ne_true]
  by_cases hf : slot > cfg.ffSlot
  · exact .inl ⟨_, if_pos hf⟩
  rw [if_neg hf]
  by_cases h0 : slot = 0
  · exact .inl ⟨_, if_pos h0⟩
  rw [if_neg h0]
  cases hprop : s.d.prop with
  | none => exact .inl ⟨_, rfl⟩
  | some hp =>
    by_cases hc : slot > hp
    · exact .inr ⟨hp, rfl, hc, rfl, Nat.le_of_not_gt hf, if_pos hc⟩
    · exact .inl ⟨_, if_neg hc⟩

theorem inv_signBlock (h : Inv cfg s) (hp : s.pend = none) (slot : Nat)
    (hnew : NewOk cfg s (stepSignBlock cfg s slot).1) : Inv cfg (stepSignBlock cfg s slot).1 := by
  rcases stepSignBlock_cases cfg s slot with ⟨_, heq⟩ | ⟨hp', hprop, hc, _, _, heq⟩
  · rw [heq]; exact h
  · rw [heq] at hnew ⊢
    have hwf := (hnew.2 slot (List.mem_cons_self ..)).elim (h.blk.wf _) id
    exact ⟨h.att,
      (hprop ▸ h.blk).release hwf (Nat.le_refl _) (fun _ hb => Nat.le_trans hb (Nat.le_of_lt hc))
        (fun _ hb => Nat.ne_of_gt (Nat.lt_of_le_of_lt hb hc)),
      hp ▸ trivial⟩

/-- a failing record write turns `signed` into `refused writeFailed`; the state and every other outcome stay -/
theorem writeFault_eq (s : State) (r : State × Out) :
    (match r with
      | (_, .signed) => (s, Out.refused .writeFailed)
      | (_, o) => (s, o)) = (s, if r.2 = .signed then .refused .writeFailed else r.2) := by
  obtain ⟨_, o⟩ := r
  cases o <;> rfl

theorem writeFault_ne_signed (o : Out) : (if o = .signed then Out.refused .writeFailed else o) ≠ .signed := by
  split
  · exact Out.noConfusion
  · assumption

theorem stepSignAttFault_eq (cfg : Cfg) (s : State) (x y : Nat) :
    stepSignAttFault cfg s x y =
      (s, if (stepSignAtt cfg s x y).2 = .signed then .refused .writeFailed else (stepSignAtt cfg s x y).2) :=
  writeFault_eq s _

theorem stepSignBlockFault_eq (cfg : Cfg) (s : State) (slot : Nat) :
    stepSignBlockFault cfg s slot =
      (s, if (stepSignBlock cfg s slot).2 = .signed then .refused .writeFailed else (stepSignBlock cfg s slot).2) :=
  writeFault_eq s _

theorem inv_stepFree (h : Inv cfg s) (hp : s.pend = none) (op : Op)
    (hnew : NewOk cfg s (stepFree cfg s op).1) : Inv cfg (stepFree cfg s op).1 := by
  cases op with
  | addShare => exact inv_add h _ _
  | addFail n => cases n <;> exact inv_add h _ _
  | removeShare | removeFail _ => exact inv_remove h _
  | bump => exact inv_bumpAtomic h false false
  | signAtt x y => exact inv_signAtt h hp x y hnew
  | signBlock slot => exact inv_signBlock h hp slot hnew
  | signAttFault _ _ | signBlockFault _ =>
    simp only [stepFree, stepSignAttFault_eq, stepSignBlockFault_eq]
    exact h
  | bumpBegin | bumpRead | bumpWrite | tick _ | restart | resume => exact h

theorem inv_drain (h : Inv cfg s) (hp : s.pend = none)
    (hnew : NewOk cfg s (drain cfg s)) : Inv cfg (drain cfg s) := by
  unfold drain at hnew ⊢
  split
  · exact h
  · rename_i op hop
    rw [hop] at hnew
    exact inv_frame (inv_stepFree (s := { s with delayed := none }) (inv_frame h _ _ _) hp op hnew) _ _ _

/-- after a step `r` of the in-flight bump, which released nothing: if it has finished, the waiting request runs -/
theorem inv_finishBump {r : State × Out}
    (hr : Inv cfg r.1 ∧ ∀ s', NewOk cfg s s' → NewOk cfg r.1 s')
    (hnew : NewOk cfg s (finishBump cfg r).1) : Inv cfg (finishBump cfg r).1 := by
  unfold finishBump at hnew ⊢
  split
  · rename_i hn
    rw [if_pos hn] at hnew
    exact inv_drain hr.1 (Option.isNone_iff_eq_none.mp hn) (hr.2 _ hnew)
  · exact hr.1

theorem blockOrRun_cases (cfg : Cfg) (s : State) (op : Op) :
    (s.pend.isSome = true ∧
      (blockOrRun cfg s op = (s, .badOp) ∨ blockOrRun cfg s op = ({ s with delayed := some op }, .blocked))) ∨
    (s.pend = none ∧ blockOrRun cfg s op = stepFree cfg s op) := by
  unfold blockOrRun
  cases hp : s.pend with
  | none => exact .inr ⟨rfl, rfl⟩
  | some pc =>
    refine .inl ⟨rfl, ?_⟩
    cases s.delayed.isSome
    · exact .inr rfl
    · exact .inl rfl

theorem blockOrRun_signed {op : Op} (h : (blockOrRun cfg s op).2 = .signed) :
    s.pend = none ∧ blockOrRun cfg s op = stepFree cfg s op := by
  rcases blockOrRun_cases cfg s op with ⟨_, heq | heq⟩ | hfree
  · rw [heq] at h; cases h
  · rw [heq] at h; cases h
  · exact hfree

theorem inv_blockOrRun (h : Inv cfg s) (op : Op)
    (hnew : NewOk cfg s (blockOrRun cfg s op).1) : Inv cfg (blockOrRun cfg s op).1 := by
  rcases blockOrRun_cases cfg s op with ⟨_, heq | heq⟩ | ⟨hp, heq⟩
  · rw [heq]; exact h
  · rw [heq]; exact inv_frame h _ _ _
  · rw [heq] at hnew ⊢
    exact inv_stepFree h hp op hnew

theorem inv_step (h : Inv cfg s) (op : Op)
    (hok : SignedOk cfg s op) : Inv cfg (step cfg s op).1 := by
  unfold SignedOk at hok
  cases op with
  | tick dt => exact inv_tick h dt
  | restart =>
    simp only [step] at hok ⊢
    exact inv_drain (s := { s with pend := none }) (inv_pend h none trivial) rfl hok
  | resume =>
    simp only [step]
    split
    · exact inv_frame h _ _ _
    · exact h
  | bumpBegin => exact inv_bumpBegin h
  | bumpRead => exact inv_finishBump (inv_bumpRead h) hok
  | bumpWrite => exact inv_finishBump (inv_bumpWrite h) hok
  | addShare | addFail _ | removeShare | removeFail _ | bump | signAtt _ _ | signBlock _ | signAttFault _ _
  | signBlockFault _ => exact inv_blockOrRun h _ hok

theorem inv_run (ops : List Op) : ∀ {s : State}, Inv cfg s →
    Along cfg (SignedOk cfg) s ops → Inv cfg (run cfg s ops) := by
  induction ops with
  | nil => exact fun h _ => h
  | cons op ops ih => exact fun h hok => ih (inv_step h op hok.1) hok.2

end

end Ssv.Slashing
