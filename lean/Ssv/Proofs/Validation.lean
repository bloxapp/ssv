/-
Lemmas about the parts the message-validation model (C08, C09, C10) is built from: guard lists, the no-panic predicate,
the enum switches, Go integer wrapping and the leader index; then what a passing `check` implies, guard by guard.
Core Lean only.
-/
import Ssv.Model.Validation
import Ssv.Proofs.Kernels

namespace Ssv.Validation
open Ssv

/-! ## generated constants as rewrite rules -/

@[simp] theorem g_roleAtt : Gen.val_BNRoleAttester = 0 := rfl
@[simp] theorem g_roleAgg : Gen.val_BNRoleAggregator = 1 := rfl
@[simp] theorem g_roleProp : Gen.val_BNRoleProposer = 2 := rfl
@[simp] theorem g_roleSC : Gen.val_BNRoleSyncCommittee = 3 := rfl
@[simp] theorem g_roleSCC : Gen.val_BNRoleSyncCommitteeContribution = 4 := rfl
@[simp] theorem g_roleVR : Gen.val_BNRoleValidatorRegistration = 5 := rfl
@[simp] theorem g_roleVE : Gen.val_BNRoleVoluntaryExit = 6 := rfl
@[simp] theorem g_tProposal : Gen.val_ProposalMsgType = 0 := rfl
@[simp] theorem g_tPrepare : Gen.val_PrepareMsgType = 1 := rfl
@[simp] theorem g_tCommit : Gen.val_CommitMsgType = 2 := rfl
@[simp] theorem g_tRC : Gen.val_RoundChangeMsgType = 3 := rfl
@[simp] theorem g_noRound : Gen.val_NoRound = 0 := rfl
@[simp] theorem g_firstRound : Gen.val_FirstRound = 1 := rfl
@[simp] theorem g_firstHeight : Gen.val_FirstHeight = 0 := rfl
@[simp] theorem g_pPost : Gen.val_PostConsensusPartialSig = 0 := rfl
@[simp] theorem g_pRandao : Gen.val_RandaoPartialSig = 1 := rfl
@[simp] theorem g_pSel : Gen.val_SelectionProofPartialSig = 2 := rfl
@[simp] theorem g_pContrib : Gen.val_ContributionProofs = 3 := rfl
@[simp] theorem g_pVR : Gen.val_ValidatorRegistrationPartialSig = 4 := rfl
@[simp] theorem g_pVE : Gen.val_VoluntaryExitPartialSig = 5 := rfl
@[simp] theorem g_sigSize : Gen.val_signatureSize = 96 := rfl
@[simp] theorem g_maxDuties : Gen.val_maxDutiesPerEpoch = 2 := rfl
@[simp] theorem g_lateAllow : Gen.val_lateSlotAllowance = 2 := rfl
@[simp] theorem g_future : Gen.val_allowedRoundsInFuture = 1 := rfl
@[simp] theorem g_quickThr : Gen.val_QuickTimeoutThreshold = 8 := rfl
@[simp] theorem g_quick : Gen.val_QuickTimeout = 2000000000 := rfl
@[simp] theorem g_slow : Gen.val_SlowTimeout = 120000000000 := rfl
@[simp] theorem g_margin : Gen.val_lateMessageMargin = 3000000000 := rfl
@[simp] theorem g_tol : Gen.val_clockErrorTolerance = 50000000 := rfl
@[simp] theorem g_maxMsg : Gen.val_maxMessageSize = 8388608 := rfl
@[simp] theorem g_maxCons : Gen.val_maxConsensusMsgSize = 8388608 := rfl
@[simp] theorem g_maxPart : Gen.val_maxPartialSignatureMsgSize = 1952 := rfl

/-! ## guard lists and `rejectIf` -/

theorem firstFail_nil : firstFail [] = ok := rfl
theorem firstFail_cons_ok (cs : List Chk) : firstFail (.ok () :: cs) = firstFail cs := rfl
theorem firstFail_cons_err (e : Fail) (cs : List Chk) : firstFail (.error e :: cs) = .error e := rfl

theorem firstFail_cons (c : Chk) (cs : List Chk) :
    firstFail (c :: cs) = match c with | .ok _ => firstFail cs | .error e => .error e := by
  cases c <;> rfl

theorem firstFail_cons_ok_iff (c : Chk) (cs : List Chk) : firstFail (c :: cs) = .ok () ↔ c = .ok () ∧ firstFail cs = .ok () := by
  cases c with
  | ok u => exact ⟨fun h => ⟨rfl, h⟩, fun h => h.2⟩
  | error e => exact ⟨fun h => (by cases h), fun h => (by cases h.1)⟩

theorem firstFail_ok_iff (cs : List Chk) : firstFail cs = .ok () ↔ ∀ c ∈ cs, c = .ok () := by
  induction cs with
  | nil => exact ⟨fun _ _ h => (by cases h), fun _ => rfl⟩
  | cons c cs ih => rw [firstFail_cons_ok_iff, ih, List.forall_mem_cons]

theorem firstFail_append (as bs : List Chk) :
    firstFail (as ++ bs) = match firstFail as with | .ok _ => firstFail bs | .error e => .error e := by
  induction as with
  | nil => rfl
  | cons c cs ih =>
    cases c with
    | ok u => exact ih
    | error e => rfl

theorem firstFail_error_mem (cs : List Chk) (e : Fail) (h : firstFail cs = .error e) : Except.error e ∈ cs := by
  induction cs with
  | nil => cases h
  | cons c cs ih =>
    cases c with
    | ok u => exact List.mem_cons_of_mem _ (ih h)
    | error e' => cases h; exact List.mem_cons_self

theorem rejectIf_ok_iff (c : Bool) (t : Tag) : rejectIf c t = .ok () ↔ c = false := by
  cases c
  · exact ⟨fun _ => rfl, fun _ => rfl⟩
  · exact ⟨fun h => (by cases h), fun h => (by cases h)⟩

theorem rejectIf_decide_ok {p : Prop} [Decidable p] {t : Tag} : rejectIf (decide p) t = .ok () ↔ ¬ p :=
  (rejectIf_ok_iff _ _).trans decide_eq_false_iff_not

theorem rejectIf_not_ok {b : Bool} {t : Tag} : rejectIf (!b) t = .ok () ↔ b = true := by
  rw [rejectIf_ok_iff, Bool.not_eq_false']

theorem rejectIf_error (c : Bool) (t : Tag) (e : Fail) (h : rejectIf c t = .error e) : e = .tag t ∧ c = true := by
  cases c
  · cases h
  · cases h; exact ⟨rfl, rfl⟩

theorem blt_false_iff (a b : Nat) : Nat.blt a b = false ↔ b ≤ a := by
  rw [← Bool.not_eq_true, Nat.blt_eq]; omega

theorem ofChk_accept (c : Chk) : Outcome.ofChk c = .accept ↔ c = .ok () := by
  unfold Outcome.ofChk
  constructor
  · intro h
    split at h
    · rfl
    · split at h <;> cases h
    · cases h
  · intro h; subst h; rfl

theorem ofChk_panic (c : Chk) (s : PanicSite) (h : Outcome.ofChk c = .panic s) : c = .error (.panic s) := by
  unfold Outcome.ofChk at h
  split at h
  · cases h
  · split at h <;> cases h
  · cases h; rfl

/-! ## the no-panic predicate -/

def NoPanic (c : Chk) : Prop := ∀ s, c ≠ .error (.panic s)

def NoPanicSeq : List Chk → Prop
  | [] => True
  | c :: cs => NoPanic c ∧ (c = .ok () → NoPanicSeq cs)

theorem noPanic_ok : NoPanic ok := by intro s h; cases h
theorem noPanic_okv : NoPanic (.ok ()) := noPanic_ok
theorem noPanic_nil : NoPanic (firstFail []) := noPanic_ok
theorem noPanic_failT {t : Tag} : NoPanic (failT t) := by intro s h; cases h
theorem noPanic_tag (t : Tag) : NoPanic (.error (.tag t)) := noPanic_failT
theorem noPanic_rejectIf {c : Bool} {t : Tag} : NoPanic (rejectIf c t) := by
  cases c
  · exact noPanic_ok
  · exact noPanic_failT

theorem noPanic_cons {c : Chk} {cs : List Chk} (hc : NoPanic c) (hcs : c = .ok () → NoPanic (firstFail cs)) :
    NoPanic (firstFail (c :: cs)) := by
  cases c with
  | ok u => exact hcs rfl
  | error e => exact hc

theorem noPanic_rejectIf_cons {b : Bool} {t : Tag} {cs : List Chk} (h : b = false → NoPanic (firstFail cs)) :
    NoPanic (firstFail (rejectIf b t :: cs)) :=
  noPanic_cons noPanic_rejectIf fun hb => h ((rejectIf_ok_iff b t).mp hb)

theorem firstFail_noPanic (cs : List Chk) (h : NoPanicSeq cs) : NoPanic (firstFail cs) := by
  induction cs with
  | nil => exact noPanic_ok
  | cons c cs ih => exact noPanic_cons h.1 fun hc => ih (h.2 hc)

theorem noPanicSeq_of_all (cs : List Chk) (h : ∀ c ∈ cs, NoPanic c) : NoPanicSeq cs := by
  induction cs with
  | nil => trivial
  | cons c cs ih => exact ⟨h c List.mem_cons_self, fun _ => ih (fun c' hc' => h c' (List.mem_cons_of_mem _ hc'))⟩

theorem noPanicSeq_append (as bs : List Chk) (ha : NoPanicSeq as) (hb : (∀ c ∈ as, c = .ok ()) → NoPanicSeq bs) :
    NoPanicSeq (as ++ bs) := by
  induction as with
  | nil => exact hb (by simp)
  | cons c cs ih =>
    refine ⟨ha.1, fun hc => ih (ha.2 hc) (fun hall => hb ?_)⟩
    intro c' hc'
    rcases List.mem_cons.mp hc' with h | h
    · rw [h]; exact hc
    · exact hall c' h

/-! ## enums dominate the panicking switches -/

theorem validRole_iff (r : Nat) : validRole r = true ↔ r ≤ 6 :=
  match r with
  | 0 | 1 | 2 | 3 | 4 | 5 | 6 => ⟨fun _ => (by decide), fun _ => rfl⟩
  | k + 7 => ⟨fun h => (by cases h), fun h => (by omega)⟩

theorem validQBFT_iff (t : Nat) : validQBFTMsgType t = true ↔ t ≤ 3 :=
  match t with
  | 0 | 1 | 2 | 3 => ⟨fun _ => (by decide), fun _ => rfl⟩
  | k + 4 => ⟨fun h => (by cases h), fun h => (by omega)⟩

theorem validPartial_iff (t : Nat) : validPartialSigMsgType t = true ↔ t ≤ 5 :=
  match t with
  | 0 | 1 | 2 | 3 | 4 | 5 => ⟨fun _ => (by decide), fun _ => rfl⟩
  | k + 6 => ⟨fun h => (by cases h), fun h => (by omega)⟩

theorem le6_cases (r : Nat) (h : r ≤ 6) : r = 0 ∨ r = 1 ∨ r = 2 ∨ r = 3 ∨ r = 4 ∨ r = 5 ∨ r = 6 := by
  revert r; decide

theorem le3_cases (r : Nat) (h : r ≤ 3) : r = 0 ∨ r = 1 ∨ r = 2 ∨ r = 3 := by
  revert r; decide

theorem maxRound_of_validRole (r : Nat) (h : validRole r = true) : ∃ mx, maxRound r = .ok mx ∧ mx ≤ 12 := by
  rcases le6_cases r ((validRole_iff r).mp h) with h | h | h | h | h | h | h <;> subst h <;> exact ⟨_, rfl, by decide⟩

theorem maxRound_panics_only_unknown (r : Nat) (s : PanicSite) (h : maxRound r = .error (.panic s)) : validRole r = false := by
  cases hv : validRole r with
  | false => rfl
  | true =>
    obtain ⟨mx, hmx, _⟩ := maxRound_of_validRole r hv
    rw [hmx] at h; cases h

theorem partialTypeMatchesRole_of_validRole (t r : Nat) (h : validRole r = true) : ∃ b, partialTypeMatchesRole t r = .ok b := by
  rcases le6_cases r ((validRole_iff r).mp h) with h | h | h | h | h | h | h <;> subst h <;> exact ⟨_, rfl⟩

theorem partialTypeMatchesRole_panics_only_unknown (t r : Nat) (s : PanicSite)
    (h : partialTypeMatchesRole t r = .error (.panic s)) : validRole r = false := by
  cases hv : validRole r with
  | false => rfl
  | true =>
    obtain ⟨b, hb⟩ := partialTypeMatchesRole_of_validRole t r hv
    rw [hb] at h; cases h

theorem countsValidate_noPanic {c : Counts} {m : QMsg} {n : Nat} (h : validQBFTMsgType m.mtype = true) :
    NoPanic (countsValidate c m n) := by
  unfold countsValidate
  rcases le3_cases _ ((validQBFT_iff _).mp h) with h | h | h | h <;> rw [h]
  · exact noPanic_rejectIf
  · exact noPanic_rejectIf
  · exact noPanic_rejectIf_cons fun _ => noPanic_rejectIf_cons fun _ => noPanic_nil
  · exact noPanic_rejectIf

theorem countsRecord_ok (c : Counts) (m : QMsg) (h : validQBFTMsgType m.mtype = true) (hs : m.signers ≠ []) :
    ∃ c', countsRecord c m = .ok c' := by
  unfold countsRecord
  rcases le3_cases _ ((validQBFT_iff _).mp h) with h | h | h | h <;> rw [h]
  · exact ⟨_, rfl⟩
  · exact ⟨_, rfl⟩
  · change ∃ c', ite (m.signers.length = 1) _ _ = _
    have : 0 < m.signers.length := List.length_pos_iff.mpr hs
    by_cases h1 : m.signers.length = 1
    · exact ⟨_, if_pos h1⟩
    · exact ⟨_, (if_neg h1).trans (if_pos (by omega))⟩
  · exact ⟨_, rfl⟩

theorem isPre_or_post_of_valid (t : Nat) (h : validPartialSigMsgType t = true) :
    isPreConsensusType t = true ∨ t = 0 := by
  have := (validPartial_iff t).mp h
  clear h
  revert t
  decide

theorem countsValidatePartial_noPanic {c : Counts} {t : Nat} (h : validPartialSigMsgType t = true) :
    NoPanic (countsValidatePartial c t) := by
  unfold countsValidatePartial
  rcases isPre_or_post_of_valid t h with hp | rfl
  · rw [if_pos hp]; exact noPanic_rejectIf
  · exact noPanic_rejectIf

theorem countsRecordPartial_ok (c : Counts) (t : Nat) (h : validPartialSigMsgType t = true) :
    ∃ c', countsRecordPartial c t = .ok c' := by
  unfold countsRecordPartial
  rcases isPre_or_post_of_valid t h with hp | rfl
  · rw [if_pos hp]; exact ⟨_, rfl⟩
  · exact ⟨_, rfl⟩

/-! ## Go integer wrapping and the leader index -/

theorem wrapI64_range (x : Int) : -two63 ≤ wrapI64 x ∧ wrapI64 x < two63 := by
  unfold wrapI64 two63 two64; omega

theorem wrapI64_id (x : Int) (h0 : -two63 ≤ x) (h1 : x < two63) : wrapI64 x = x := by
  unfold wrapI64 two63 two64 at *; omega

theorem wrapU64_id (x : Int) (h0 : 0 ≤ x) (h1 : x < two64) : wrapU64 x = x :=
  Int.emod_eq_of_lt h0 h1

theorem wrapU64_range (x : Int) : 0 ≤ wrapU64 x ∧ wrapU64 x < two64 :=
  ⟨Int.emod_nonneg x (by decide), Int.emod_lt_of_pos x (by decide)⟩

theorem toInt64_eq_gen (x : Nat) (h : (x : Int) < two64) : toInt64 x = Gen.toInt64 x := by
  unfold Gen.toInt64
  split
  · exact wrapI64_id x (by unfold two63; omega) (by assumption)
  · unfold toInt64 wrapI64 two63 two64 at *; omega

/-- two int64 additions that cannot wrap -/
theorem wrapI64_add_sub_one (F r : Int) (h0 : -4611686018427387904 < F) (h1 : F < 4611686018427387904)
    (hr0 : 0 ≤ r) (hr : r < 4611686018427387904) : wrapI64 (wrapI64 (F + r) - 1) = F + r - 1 := by
  unfold wrapI64 two63 two64; omega

/-- the wrap-exact index expression of the model equals the kernel translated from the Go source
    wherever no intermediate sum leaves the int64 range: the first summand is 0 or a remainder modulo `n`,
    so it lies strictly between `-n` and `n` -/
theorem leaderIndex_eq_kernel (n h r : Nat) (hn : 0 < n) (hn' : (n : Int) < 4611686018427387904)
    (hh : (h : Int) < two64) (hr : (r : Int) < 4611686018427387904) :
    leaderIndex n h r = Gen.k_RoundRobinProposerIndex r h n := by
  have hnI : (0 : Int) < n := Int.natCast_pos.mpr hn
  have hr0 : (0 : Int) ≤ r := Int.natCast_nonneg r
  have er : Gen.toInt64 (r : Int) = r := Gen.toInt64_of_lt _ hr0 (Int.lt_trans hr (by decide))
  have e2 : toInt64 r = r := (toInt64_eq_gen r (Int.lt_trans hr (by decide))).trans er
  unfold leaderIndex Gen.k_RoundRobinProposerIndex goMod
  rw [toInt64_eq_gen h hh, e2, er]
  by_cases h0 : h = 0
  · subst h0
    exact congrArg (Int.tmod · n) (wrapI64_add_sub_one 0 r (by decide) (by decide) hr0 hr)
  · have b1 := Int.lt_tmod_of_pos (Gen.toInt64 h) hnI
    have b2 := Int.tmod_lt_of_pos (Gen.toInt64 h) hnI
    have hb : (h != Gen.val_FirstHeight) = true := bne_iff_ne.mpr h0
    have hd : decide ((h : Int) ≠ 0) = true := decide_eq_true (Int.natCast_ne_zero.mpr h0)
    simp only [hb, hd, if_true, Int.zero_add]
    exact congrArg (Int.tmod · n) (wrapI64_add_sub_one _ r (by omega) (by omega) hr0 hr)

/-- whenever validation computes it (round 1..12, slot inside the window: below 2^63) the index is a valid committee index -/
theorem leaderIndex_in_range (n h r : Nat) (hn : 0 < n) (hn' : n < 2147483648) (hh : (h : Int) < two63)
    (hr1 : 1 ≤ r) (hr2 : r ≤ 12) : 0 ≤ leaderIndex n h r ∧ leaderIndex n h r < n := by
  rw [leaderIndex_eq_kernel n h r hn (by omega) (by unfold two63 two64 at *; omega) (by omega)]
  exact Ssv.Kernels.leader_index_in_range r h n (by omega) (by omega) (by omega) (by omega) (by unfold two63 at hh; omega)

theorem roundRobinProposer_ok (com : List Nat) (h r : Nat) (hn : 0 < com.length) (hn' : com.length < 2147483648)
    (hh : (h : Int) < two63) (hr1 : 1 ≤ r) (hr2 : r ≤ 12) :
    ∃ op, roundRobinProposer com h r = .ok op ∧ op ∈ com := by
  obtain ⟨i0, i1⟩ := leaderIndex_in_range com.length h r hn hn' hh hr1 hr2
  have hlt : (leaderIndex com.length h r).toNat < com.length := (Int.toNat_lt i0).mpr i1
  unfold roundRobinProposer
  simp only [if_neg (Nat.ne_of_gt hn), if_neg (Int.not_lt.mpr i0), List.getElem?_eq_getElem hlt]
  exact ⟨_, rfl, List.getElem_mem _⟩

/-! ## what a passing `check` implies, clause by clause -/

/-- the guards of `validateSSVMessage` before decoding, individually -/
structure PreOk (i : Input) : Prop where
  nonEmpty : i.dataLen ≠ 0
  sizeOk : i.dataLen ≤ Gen.val_maxMessageSize
  domainOk : i.domainOk = true
  roleOk : validRole i.role = true
  pkOk : i.pkOk = true
  shareOk : ∃ sh, i.share = some sh ∧ sh.liquidated = false ∧ sh.hasMeta = true ∧ isAttesting sh i.wallEpoch = true

theorem preChecks_ok_spec (i : Input) (h : firstFail (preChecks i) = .ok ()) : PreOk i := by
  simp only [preChecks, firstFail_cons_ok_iff] at h
  obtain ⟨h1, h2, h3, h4, h5, h6, -⟩ := h
  refine ⟨rejectIf_decide_ok.mp h1, (blt_false_iff _ _).mp ((rejectIf_ok_iff _ _).mp h2), rejectIf_not_ok.mp h3,
    rejectIf_not_ok.mp h4, rejectIf_not_ok.mp h5, ?_⟩
  cases hs : i.share with
  | none => rw [hs] at h6; cases h6
  | some sh =>
    rw [hs] at h6
    simp only [firstFail_cons_ok_iff] at h6
    obtain ⟨l1, l2, l3, -⟩ := h6
    exact ⟨sh, rfl, (rejectIf_ok_iff _ _).mp l1, rejectIf_not_ok.mp l2, rejectIf_not_ok.mp l3⟩

/-- all twelve guards of `validateConsensusMessage`, individually -/
structure ConsensusOk (x : Ctx) (st : State) (i : Input) (sh : Share) (m : QMsg) : Prop where
  roleOk : (i.role == Gen.val_BNRoleValidatorRegistration || i.role == Gen.val_BNRoleVoluntaryExit) = false
  sigOk : signatureFormat m.sigLen m.sigZero = .ok ()
  typeOk : validQBFTMsgType m.mtype = true
  roundNonZero : (m.round == Gen.val_NoRound) = false
  maxRoundOk : ∃ mx, maxRound i.role = .ok mx ∧ m.round ≤ mx
  slotTimeOk : validateSlotTime x.cfg m.height i.role i.now = .ok ()
  signersOk : validConsensusSigners sh m = .ok ()
  roundWindowOk : roundWindow x.cfg m i.now = .ok ()
  hashOk : ∀ h, m.fullData = some h → h = m.root
  dutyOk : validateBeaconDuty x i.role m.height sh = .ok ()
  behaviorOk : ∀ s ∈ m.signers, signerBehaviorConsensus x.cfg sh i.role m (st (i.vid, i.role, s)) = .ok ()
  envOk : envSigCheck i.envSig = .ok ()

section
variable {x : Ctx} {st : State} {i : Input} {sh : Share}

theorem consensusChecks_ok_spec {m : QMsg}
    (h : firstFail (consensusChecks x st i sh m) = .ok ()) : ConsensusOk x st i sh m := by
  simp only [consensusChecks, firstFail_cons_ok_iff] at h
  obtain ⟨h1, h2, h3, h4, h5, h6, h7, h8, h9, h10, h11, h12, -⟩ := h
  refine ⟨(rejectIf_ok_iff _ _).mp h1, h2, rejectIf_not_ok.mp h3, (rejectIf_ok_iff _ _).mp h4, ?_, h6, h7, h8, ?_, h10, ?_, h12⟩
  · cases hm : maxRound i.role with
    | error e => rw [hm] at h5; cases h5
    | ok mx =>
      rw [hm] at h5
      exact ⟨mx, rfl, Nat.le_of_not_gt (rejectIf_decide_ok.mp h5)⟩
  · intro hh hfd
    have := (rejectIf_ok_iff _ _).mp h9
    rw [hfd] at this
    simpa using this
  · intro s hs
    exact (firstFail_ok_iff _).mp h11 _ (List.mem_map.mpr ⟨s, hs, rfl⟩)

/-- the seven guards of `validatePartialSignatureMessage` -/
structure PartialOk (x : Ctx) (st : State) (i : Input) (sh : Share) (m : PMsg) : Prop where
  typeOk : validPartialSigMsgType m.ptype = true
  typeRoleOk : partialTypeMatchesRole m.ptype i.role = .ok true
  notEarly : earlyMessage x.cfg m.slot i.now = false
  messagesOk : validatePartialMessages sh m = .ok ()
  behaviorOk : signerBehaviorPartial x.cfg i.role m (st (i.vid, i.role, m.signer)) = .ok ()
  sigOk : signatureFormat m.sigLen m.sigZero = .ok ()
  envOk : envSigCheck i.envSig = .ok ()

theorem partialChecks_ok_spec {m : PMsg}
    (h : firstFail (partialChecks x st i sh m) = .ok ()) : PartialOk x st i sh m := by
  simp only [partialChecks, firstFail_cons_ok_iff] at h
  obtain ⟨h1, h2, h2e, h3, h4, h5, h6, -⟩ := h
  refine ⟨rejectIf_not_ok.mp h1, ?_, (rejectIf_ok_iff _ _).mp h2e, h3, h4, h5, h6⟩
  cases hm : partialTypeMatchesRole m.ptype i.role with
  | error e => rw [hm] at h2; cases h2
  | ok b =>
    rw [hm] at h2
    rw [rejectIf_not_ok.mp h2]

/-- every guard passed: the pre-checks, then for the share found either all consensus guards or all partial-signature
    guards, each behind the size limit of its message type -/
def Passed (x : Ctx) (st : State) (i : Input) : Prop :=
  firstFail (preChecks i) = .ok () ∧ ∃ sh, i.share = some sh ∧
    ((∃ m, i.body = .consensus m ∧ i.dataLen ≤ Gen.val_maxConsensusMsgSize ∧ ConsensusOk x st i sh m) ∨
     (∃ m, i.body = .partialSig m ∧ i.dataLen ≤ Gen.val_maxPartialSignatureMsgSize ∧ PartialOk x st i sh m))

theorem check_ok_spec (h : check x st i = .ok ()) : Passed x st i := by
  unfold check at h
  split at h
  · cases h
  · cases h
  · rename_i sh hpre hsh
    refine ⟨hpre, sh, hsh, ?_⟩
    split at h
    · cases h
    · cases h
    · cases h
    · rename_i m hm
      obtain ⟨h1, h2⟩ := (firstFail_cons_ok_iff _ _).mp h
      exact Or.inl ⟨m, hm, (blt_false_iff _ _).mp ((rejectIf_ok_iff _ _).mp h1), consensusChecks_ok_spec h2⟩
    · rename_i m hm
      obtain ⟨h1, h2⟩ := (firstFail_cons_ok_iff _ _).mp h
      exact Or.inr ⟨m, hm, (blt_false_iff _ _).mp ((rejectIf_ok_iff _ _).mp h1), partialChecks_ok_spec h2⟩

end

/-! ## concrete objects shared by the examples / witnesses of the property files -/

/-- an active validator with a committee of four -/
def share4 : Share :=
  { committee := [1, 2, 3, 4], quorum := 3, liquidated := false, hasMeta := true, statusAttesting := true,
    pendingQueued := false, activationEpoch := 0, index := 123 }
/-- the Prater / test network constants -/
def praterCfg : NetCfg := { genesis := 1616508000, slotDur := 12, slotsPerEpoch := 32, epochsPerPeriod := 256, permissionlessEpoch := 0 }
def ctx0 : Ctx := { cfg := praterCfg, duties := { proposer := [], sync := [] } }
/-- a consensus message `m` for the attester role of validator 1, received at unix time `unixNow`, before the fork -/
def inputAt (m : QMsg) (unixNow : Int) : Input :=
  { vid := 1, role := 0, dataLen := 300, domainOk := true, pkOk := true, share := some share4, body := .consensus m,
    envSig := .none, now := GoTime.unix unixNow, wallEpoch := 1000 }

end Ssv.Validation
