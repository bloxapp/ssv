/-
From the instance functions to the controller entry points and to the multi-node system `SystemB`: what an enabled step
of a correct operator does to its instance of the height and where its `.bcast x` / `.bcastDecided d` outputs come
from, in terms of `Instance.Start` / `ProcessMsg` / `UponRoundTimeout`; every such output is an honest message
(`sys_emission_honest`).

Hypotheses that are NOT consequences of `Reachable`:
* `TimelyAction` — the timing assumption of the property on the delivered round-change (`RcQuorumInRound`);
* `GatedAction` / `ReachableG` — the correct operator's own message validation sits in front of its QBFT controller, so
  the commit / decided messages it stores carry no justification fields (the aggregate it later broadcasts is a copy of
  the first stored commit: `msgs[0].DeepCopy()` in `aggregateCommitMsgs`). `SystemB`'s unforgeability only covers
  (type, height, round, root, prepared round) of a signed message, not its justification fields, hence the gate.
-/
import Ssv.Proofs.EmissionBridgeInst
import Ssv.Proofs.QbftNodeSystem
set_option linter.unusedSimpArgs false
set_option linter.unusedVariables false

namespace Ssv.Emission
open Ssv Ssv.Qbft Ssv.Qbft.B

/-- no `Instance.Broadcast`, no `broadcastDecided` -/
structure Quiet (l : List Out) : Prop where
  bcast : ∀ x, Out.bcast x ∉ l
  decided : ∀ x, Out.bcastDecided x ∉ l

theorem quiet_nil : Quiet [] := ⟨fun _ => List.not_mem_nil, fun _ => List.not_mem_nil⟩

theorem outsInst_no_decided {l : List Out} (h : OutsInst l) {d : Msg} : Out.bcastDecided d ∉ l := by
  intro hd
  exact instOut_not_decision _ (h _ hd) d (Or.inl rfl)

section
variable (cfg : Cfg) (h : Nat) (c : Ctrl)

theorem ctrl_start_cases (v : Nat) (hs : Shape h c) (hcap : 1 ≤ cfg.capacity) :
    (instAt h (c.startNewInstance cfg h v).ct = instAt h c ∧ (c.startNewInstance cfg h v).outs = []) ∨
    (cfg.valOk v = true ∧ instAt h (c.startNewInstance cfg h v).ct = some (start cfg (newInstance h) v h).st ∧
      (c.startNewInstance cfg h v).outs = (start cfg (newInstance h) v h).outs) := by
  -- `start_cases` does not say that the value passed the check in its second alternative: split on the check first
  cases hv : cfg.valOk v with
  | false => left; unfold Ctrl.startNewInstance; rw [hv]; exact ⟨rfl, rfl⟩
  | true =>
    rcases start_cases cfg c h v with ⟨h1, h2⟩ | ⟨_, hnone, ho, hct⟩
    · rw [h1, h2]; exact Or.inl ⟨rfl, rfl⟩
    · refine Or.inr ⟨rfl, ?_, ho⟩
      rcases hs with hc | ⟨s, hc, hsh⟩
      swap
      · rw [instAt_of_single hc hsh] at hnone; cases hnone
      have hht : (start cfg (newInstance h) v h).st.height = h := by rw [(start_spec cfg h v).1]; rfl
      have hins : addNewInstance cfg.capacity c.insts (start cfg (newInstance h) v h).st =
          [(start cfg (newInstance h) v h).st] := by
        rw [hc]; exact take_single _ _ hcap
      rcases hct with e | e <;> rw [e, hins]
      · exact instAt_of_single rfl hht
      · exact instAt_of_single (forceStopOthers_single hht) hht

theorem ctrl_timeout_cases (r : Nat) (hs : Shape h c) :
    (instAt h (c.onTimeout cfg h r).ct = instAt h c ∧ (c.onTimeout cfg h r).outs = []) ∨
    ∃ s, instAt h c = some s ∧ instAt h (c.onTimeout cfg h r).ct = some (uponRoundTimeout cfg s).st ∧
      (c.onTimeout cfg h r).outs = (uponRoundTimeout cfg s).outs := by
  rcases onTimeout_cases cfg c h r with ⟨h1, h2⟩ | ⟨s, hi, h1, h2⟩
  · rw [h1, h2]; exact Or.inl ⟨rfl, rfl⟩
  · refine Or.inr ⟨s, hi, ?_, h2⟩
    rcases hs with hc | ⟨s', hc, hsh⟩
    · rw [instAt_of_nil hc] at hi; cases hi
    · cases (instAt_of_single hc hsh).symm.trans hi
      have hht := uponRoundTimeout_height cfg s
      refine instAt_of_single ?_ (hht.trans hsh)
      rw [h1, hc]; exact updateInstance_single hht

theorem uponExisting_run (m : Msg) (s : State) (hf : findInstance c.insts m.height = some s) :
    (uponExistingInstanceMsg cfg c m).ct.insts = updateInstance c.insts (processMsg cfg s m).st ∧
    (∀ o ∈ (uponExistingInstanceMsg cfg c m).outs, o ∈ (processMsg cfg s m).outs ∨
      ∃ d b v, o = .bcastDecided d ∧ (processMsg cfg s m).res = .ok b v (some d)) ∧
    ((processMsg cfg s m).res = .panic → (uponExistingInstanceMsg cfg c m).res = .panic) := by
  unfold uponExistingInstanceMsg
  simp only [hf]
  cases hr : (processMsg cfg s m).res with
  | panic => exact ⟨rfl, fun o ho => Or.inl ho, fun _ => rfl⟩
  | err t => exact ⟨rfl, fun o ho => Or.inl ho, fun h => nomatch h⟩
  | ok b v agg =>
    cases b with
    | false => exact ⟨rfl, fun o ho => Or.inl ho, fun h => nomatch h⟩
    | true =>
      cases agg with
      | none => exact ⟨rfl, fun o ho => Or.inl ho, fun h => nomatch h⟩
      | some d =>
        simp only [Bool.not_true, Bool.false_eq_true, if_false]
        split <;> refine ⟨rfl, fun o ho => ?_, fun h => nomatch h⟩ <;> rcases List.mem_append.1 ho with h | h
        · exact Or.inl h
        · exact Or.inr ⟨d, true, v, List.mem_singleton.1 h, rfl⟩
        · exact Or.inl h
        · exact Or.inr ⟨d, true, v, List.mem_singleton.1 h, rfl⟩

/-- `Controller.ProcessMsg`: the step is quiet and leaves the instance alone, or `UponDecided` creates a fresh instance /
    moves the round of the stored one to the decided message's round / only extends its commit container; or the stored
    instance runs `Instance.ProcessMsg` -/
theorem ctrl_deliver_cases (m : Msg) (hs : Shape h c) (hcap : 1 ≤ cfg.capacity)
    (hdec : validateDecided cfg m = .ok () → m.ident = cfg.ident → m.height = h) :
    (Quiet (c.processMsg cfg m).outs ∧
      (instAt h (c.processMsg cfg m).ct = instAt h c ∨
       (∃ s', instAt h (c.processMsg cfg m).ct = some s' ∧ s'.roundChange = []) ∨
       ∃ s s', instAt h c = some s ∧ instAt h (c.processMsg cfg m).ct = some s' ∧ s'.roundChange = s.roundChange ∧
         (s'.round = s.round ∨ (isDecidedMsg cfg m = true ∧ s'.round = m.round)))) ∨
    ∃ s, instAt h c = some s ∧ m.ident = cfg.ident ∧ instAt h (c.processMsg cfg m).ct = some (processMsg cfg s m).st ∧
      (∀ o ∈ (c.processMsg cfg m).outs, o ∈ (processMsg cfg s m).outs ∨
        ∃ d b v, o = .bcastDecided d ∧ (processMsg cfg s m).res = .ok b v (some d)) ∧
      ((processMsg cfg s m).res = .panic → (c.processMsg cfg m).res = .panic) := by
  rcases ctrlProcessMsg_cases cfg c m with ⟨h1, h2, _⟩ | ⟨hid, e, hdm, hv⟩ | ⟨hid, e, _, s, hf⟩
  · rw [h1, h2]; exact Or.inl ⟨quiet_nil, Or.inl rfl⟩
  · rw [e]
    left
    have hq : Quiet (uponDecided cfg c m).outs := by
      obtain ⟨_, houts⟩ := uponDecided_accepted cfg c m hv
      constructor <;> intro x hx <;> rcases houts _ hx with h | h <;> cases h
    refine ⟨hq, ?_⟩
    have hh := hdec hv hid
    rcases hs with hc | ⟨s, hc, hsh⟩
    · exact Or.inr (Or.inl ⟨_, instAt_of_single (uponDecided_empty cfg c m hc hcap hv).1 hh, rfl⟩)
    · have hsm : s.height = m.height := hsh.trans hh.symm
      have hi0 : instAt h c = some s := instAt_of_single hc hsh
      cases hd : s.decided with
      | false =>
        exact Or.inr (Or.inr ⟨s, _, hi0, instAt_of_single (uponDecided_undecided cfg c m s hc hsm hd hv).1 hsh, rfl,
          Or.inr ⟨hdm, rfl⟩⟩)
      | true =>
        rcases (uponDecided_decided cfg c m s hc hsm hd hv).1 with h1 | h1
        · exact Or.inl (hi0 ▸ instAt_of_single h1 hsh)
        · exact Or.inr (Or.inr ⟨s, _, hi0, instAt_of_single h1 hsh, rfl, Or.inl rfl⟩)
  · rw [e]
    -- the one stored instance is that of height `h`, so the message is for `h`
    rcases hs with hc | ⟨s', hc, hsh⟩
    · rw [instAt_of_nil hc] at hf; cases hf
    · have hmem := (findInstance_some hf).1
      rw [hc] at hmem
      obtain rfl := List.mem_singleton.1 hmem
      obtain ⟨h1, h2, h3⟩ := uponExisting_run cfg c m s hf
      have hht := (processMsg_spec cfg s m).height
      rw [hc, updateInstance_single hht] at h1
      exact Or.inr ⟨s, instAt_of_single hc hsh, hid, instAt_of_single h1 (hht.trans hsh), h2, h3⟩

end

theorem cfgWF_of_params (P : Params) (hP : P.Valid) (i : Op P) : CfgWF (P.cfg i) where
  own := by
    show opId i ∈ (List.range P.n).map (· + 1)
    exact List.mem_map.2 ⟨i.val, List.mem_range.2 i.isLt, rfl⟩
  nozero := by
    show 0 ∉ (List.range P.n).map (· + 1)
    intro h
    obtain ⟨k, _, hk⟩ := List.mem_map.1 h
    exact Nat.succ_ne_zero k hk
  proposer := rfl
  quorum := by
    show 1 ≤ P.quorum
    rw [kernel_quorum P hP]; exact Nat.le_add_left 1 _

def actor {P : Params} : Action P → Op P
  | .start i _ => i
  | .deliver i _ => i
  | .timeout i _ => i

/-- everything the acting operator emits in `step σ a` -/
def stepOuts {P : Params} (σ : Sys P) : Action P → List Out
  | .start i v => ((σ.ctrl i).startNewInstance (P.cfg i) P.height v).outs
  | .deliver i m => ((σ.ctrl i).processMsg (P.cfg i) m).outs
  | .timeout i r => ((σ.ctrl i).onTimeout (P.cfg i) P.height r).outs

theorem step_log {P : Params} (σ : Sys P) (a : Action P) : (step σ a).log = σ.log ++ bcasts (stepOuts σ a) := by
  cases a <;> rfl

def stepCtrl {P : Params} (σ : Sys P) : Action P → Ctrl
  | .start i v => ((σ.ctrl i).startNewInstance (P.cfg i) P.height v).ct
  | .deliver i m => ((σ.ctrl i).processMsg (P.cfg i) m).ct
  | .timeout i r => ((σ.ctrl i).onTimeout (P.cfg i) P.height r).ct

theorem step_ctrl {P : Params} (σ : Sys P) (a : Action P) (j : Op P) :
    (step σ a).ctrl j = if j = actor a then stepCtrl σ a else σ.ctrl j := by
  cases a <;> rfl

/-- a step changes the controller of the acting operator only -/
theorem step_ctrl_all {P : Params} {Q : Op P → Ctrl → Prop} {σ : Sys P} {a : Action P} (ih : ∀ j, Q j (σ.ctrl j))
    (hact : Q (actor a) (stepCtrl σ a)) (j : Op P) : Q j ((step σ a).ctrl j) := by
  rw [step_ctrl]
  split
  · rename_i hj; exact hj ▸ hact
  · exact ih j

/-- the certificate invariant of C02 holds for every controller of a reachable state -/
theorem ctrlInv_of_reachable {P : Params} {σ : Sys P} (h : Reachable σ) : ∀ i, CtrlInv (P.cfg i) (σ.ctrl i) := by
  induction h with
  | init => intro i x hx; cases hx
  | step a _ hen ih =>
    refine step_ctrl_all ih ?_
    cases a with
    | start i v => exact (ctrl_start_inv _ _ _ _ (ih i)).inv
    | deliver i m => exact (ctrl_processMsg_inv _ _ _ (ih i)).inv
    | timeout i r => exact (ctrl_onTimeout_inv _ _ _ _ (ih i)).inv

/-- TIMING: a delivered (valid) round-change that completes the round-change quorum of its round is not for a future
    round of the receiving instance -/
def TimelyAction {P : Params} (σ : Sys P) : Action P → Prop
  | .deliver i m => ∀ s, instAt P.height (σ.ctrl i) = some s → RcQuorumInRound (P.cfg i) s m
  | _ => True

/-- GATE: the delivered message passed the operator's own message validation (no justification fields on a
    commit / decided message) -/
def GatedAction {P : Params} : Action P → Prop
  | .deliver _ m => Gated m
  | _ => True

/-- reachability through gated deliveries -/
inductive ReachableG {P : Params} : Sys P → Prop
  | init : ReachableG (Sys.init P)
  | step {σ : Sys P} (a : Action P) : ReachableG σ → enabled σ a = true → GatedAction a → ReachableG (step σ a)

theorem ReachableG.reachable {P : Params} {σ : Sys P} (h : ReachableG σ) : Reachable σ := by
  induction h with
  | init => exact Reachable.init
  | step a _ hen _ ih => exact Reachable.step a ih hen

section
variable {P : Params} {σ : Sys P}

def PlainO : Option State → Prop
  | none => True
  | some s => CommitsPlain s

theorem commitsPlain_append {s : State} {m : Msg} (hs : CommitsPlain s) (hm : m.malformed = false ∧ m.rcJust = [] ∧ m.prepJust = [])
    {s' : State} (hc : s'.commit = s.commit ++ [m]) : CommitsPlain s' := by
  intro x hx
  rw [hc] at hx
  rcases List.mem_append.1 hx with hx | hx
  · exact hs x hx
  · simp at hx; subst hx; exact hm

theorem plain_of_decided (cfg : Cfg) (m : Msg) (hv : validateDecided cfg m = .ok ()) (hg : Gated m) :
    m.malformed = false ∧ m.rcJust = [] ∧ m.prepJust = [] := by
  obtain ⟨htype, _⟩ := validateDecided_ok cfg m () hv
  refine ⟨?_, hg htype⟩
  unfold validateDecided at hv
  simp only [bind_eq_ok, rejectIf_eq_ok, wrap_eq_ok] at hv
  obtain ⟨_, _, _, h, _⟩ := hv
  exact signedValidate_malformed m.toBase h

theorem plain_of_commit (cfg : Cfg) (m : Msg) (h r : Nat) (p : Msg) (hv : validateCommit cfg m.toBase h r p = .ok ())
    (hg : Gated m) : m.malformed = false ∧ m.rcJust = [] ∧ m.prepJust = [] := by
  obtain ⟨htype, _⟩ := validateCommit_ok cfg m.toBase h r p () hv
  exact ⟨validateCommit_malformed cfg m.toBase h r p hv, hg htype⟩

theorem plainO_nstep {N : Type} {cfg : Cfg} {h : Nat} {A : Msg → Prop} (hA : ∀ m, A m → Gated m) {i : N}
    {os os' : Option State} {bs : List Msg} {evs : List (Ev N)} (hst : NStep cfg h A i os os' bs evs) (hp : PlainO os) :
    PlainO os' := by
  cases hst with
  | idle h1 => rw [h1]; exact hp
  | create v h0 h1 => rw [h1]; intro x hx; simp [newInstance] at hx
  | createDecided m ha h0 hv hh h1 =>
    rw [h1]
    intro x hx
    simp at hx
    subst hx
    exact plain_of_decided cfg x hv (hA x ha)
  | adopt s m ha h0 _ hv _ h1 | more s m ha h0 _ hv _ h1 =>
    subst h0 h1
    exact commitsPlain_append (s := s) hp (plain_of_decided cfg m hv (hA m ha)) rfl
  | com s m p ha h0 _ hv h1 | comQ s m p _ ha h0 _ hv _ _ h1 =>
    subst h0 h1
    exact commitsPlain_append (s := s) hp (plain_of_commit cfg m _ _ p hv (hA m ha)) rfl
  | prop _ _ _ h0 _ _ h1 | prep _ _ _ _ h0 _ _ h1 | prepQ _ _ _ _ h0 _ _ _ h1 | rc _ _ h0 h1 | jump _ _ _ h0 _ h1 =>
    subst h0 h1; exact hp

theorem enabled_deliver {i : Op P} {m : Msg} (hen : enabled σ (.deliver i m) = true) :
    P.honest i = true ∧ authentic P σ.log m = true := by
  simpa [enabled] using hen

/-- a valid decided message that may be delivered (unforgeability) is for the height of the system -/
theorem decided_height (hP : P.Valid) (hinv : Inv P hP σ) (i : Op P) (m : Msg)
    (hen : enabled σ (.deliver i m) = true) (hv : validateDecided (P.cfg i) m = .ok ()) (hid : m.ident = (P.cfg i).ident) :
    m.height = P.height := by
  obtain ⟨_, hauth⟩ := enabled_deliver hen
  exact (cert_facts hP hinv.log i m hv hauth hid).height

/-- every enabled action is a node transition of its actor, with the new controller and the outputs named; `B` is any
    further fact known of a delivered message -/
theorem step_nstepE (hP : P.Valid) (σ : Sys P) (hinv : Inv P hP σ) (a : Action P)
    (hen : enabled σ a = true) (B : Msg → Prop) (hB : ∀ i m, a = .deliver i m → B m) :
    ∃ evs : List (Ev (Op P)), P.honest (actor a) = true ∧
      step σ a = σ.update (actor a) (stepCtrl σ a) (stepOuts σ a) evs ∧
      NStep (P.cfg (actor a)) P.height (fun m => (authentic P σ.log m = true ∧ m.ident = ownIdent) ∧ B m) (actor a)
        (instAt P.height (σ.ctrl (actor a))) (instAt P.height (stepCtrl σ a)) (bcasts (stepOuts σ a)) evs := by
  cases a with
  | start i v => exact ⟨_, hen, rfl, (ctrl_start_node (P.cfg i) P.height _ i (σ.ctrl i) v (hinv.shape i) (capacity_pos P i)).2⟩
  | timeout i r => exact ⟨_, hen, rfl, (ctrl_onTimeout_node (P.cfg i) P.height _ i (σ.ctrl i) r (hinv.shape i)).2⟩
  | deliver i m =>
    obtain ⟨hhon, hauth⟩ := enabled_deliver hen
    exact ⟨_, hhon, rfl, (ctrl_processMsg_node (P.cfg i) P.height _ i (σ.ctrl i) m (hinv.shape i) (capacity_pos P i)
      (fun hid => ⟨⟨hauth, hid⟩, hB i m rfl⟩) (decided_height hP hinv i m hen)).2⟩

theorem plain_of_reachableG (hP : P.Valid) (h : ReachableG σ) :
    ∀ i, PlainO (instAt P.height (σ.ctrl i)) := by
  induction h with
  | init =>
    intro i
    rw [show instAt P.height ((Sys.init P).ctrl i) = none from instAt_of_nil rfl]
    trivial
  | step a hr hen hg ih =>
    rename_i σ0
    obtain ⟨evs, _, _, hst⟩ := step_nstepE hP σ0 (inv_of_reachable hP hr.reachable) a hen Gated
      (fun i m e => by subst e; exact hg)
    exact step_ctrl_all (Q := fun j c => PlainO (instAt P.height c)) ih (plainO_nstep (fun m ⟨_, hg⟩ => hg) hst (ih _))

theorem step_bcast_cases (hP : P.Valid) (hinv : Inv P hP σ) (a : Action P)
    (hen : enabled σ a = true) (x : Msg) (hx : Out.bcast x ∈ stepOuts σ a) :
    (∃ i v, a = .start i v ∧ (P.cfg i).valOk v = true ∧
      x ∈ bcasts (start (P.cfg i) (newInstance P.height) v P.height).outs) ∨
    (∃ i m s, a = .deliver i m ∧ instAt P.height (σ.ctrl i) = some s ∧ Emit (P.cfg i) s m x) ∨
    (∃ i r s, a = .timeout i r ∧ instAt P.height (σ.ctrl i) = some s ∧ x = createRoundChange (P.cfg i) s (s.round + 1)) := by
  cases a with
  | start i v =>
    have hx : Out.bcast x ∈ ((σ.ctrl i).startNewInstance (P.cfg i) P.height v).outs := hx
    rcases ctrl_start_cases (P.cfg i) P.height (σ.ctrl i) v (hinv.shape i) (capacity_pos P i) with ⟨_, ho⟩ | ⟨hv, _, ho⟩ <;>
      rw [ho] at hx
    · cases hx
    · exact Or.inl ⟨i, v, rfl, hv, (mem_bcasts _ _).2 hx⟩
  | deliver i m =>
    rcases ctrl_deliver_cases (P.cfg i) P.height (σ.ctrl i) m (hinv.shape i) (capacity_pos P i)
        (decided_height hP hinv i m hen) with ⟨hq, _⟩ | ⟨s, hi, _, _, ho, _⟩
    · exact absurd hx (hq.bcast x)
    · rcases ho _ hx with hb | ⟨d, b, v, h, _⟩
      · exact Or.inr (Or.inl ⟨i, m, s, rfl, hi, processMsg_emit _ _ _ _ ((mem_bcasts _ _).2 hb)⟩)
      · cases h
  | timeout i r =>
    have hx : Out.bcast x ∈ ((σ.ctrl i).onTimeout (P.cfg i) P.height r).outs := hx
    rcases ctrl_timeout_cases (P.cfg i) P.height (σ.ctrl i) r (hinv.shape i) with ⟨_, ho⟩ | ⟨s, hi, _, ho⟩ <;> rw [ho] at hx
    · cases hx
    · exact Or.inr (Or.inr ⟨i, r, s, rfl, hi, uponRoundTimeout_bcast _ s x ((mem_bcasts _ _).2 hx)⟩)

theorem sys_bcast_honest (hP : P.Valid) (hr : Reachable σ) (a : Action P)
    (hen : enabled σ a = true) (ht : TimelyAction σ a) (x : Msg) (hx : Out.bcast x ∈ stepOuts σ a) :
    HonestInst (P.cfg (actor a)) x := by
  have hinv := inv_of_reachable hP hr
  rcases step_bcast_cases hP hinv a hen x hx with ⟨i, v, rfl, hv, hb⟩ | ⟨i, m, s, rfl, hi, he⟩ | ⟨i, r, s, rfl, _, rfl⟩
  · exact honestInst_start _ _ _ _ hv x hb
  · have hn : NodeInv P σ.trace i s := by
      obtain ⟨hhon, _⟩ := enabled_deliver hen
      have := hinv.node i hhon
      rwa [hi] at this
    exact honestInst_of_emit _ s m x hn.round (ht s hi) he
  · exact honestInst_createRoundChange _ s _ (Nat.le_add_left 1 _)

theorem sys_decided_honest (hP : P.Valid) (hr : ReachableG σ) (a : Action P)
    (hen : enabled σ a = true) (hg : GatedAction a) (d : Msg) (hd : Out.bcastDecided d ∈ stepOuts σ a) :
    HonestDecided (P.cfg (actor a)) d := by
  have hinv := inv_of_reachable hP hr.reachable
  cases a with
  | start i v =>
    have hd : Out.bcastDecided d ∈ ((σ.ctrl i).startNewInstance (P.cfg i) P.height v).outs := hd
    rcases ctrl_start_cases (P.cfg i) P.height (σ.ctrl i) v (hinv.shape i) (capacity_pos P i) with ⟨_, ho⟩ | ⟨_, _, ho⟩ <;>
      rw [ho] at hd
    · cases hd
    · exact absurd hd (outsInst_no_decided (outsInst_start _ _ _ _))
  | timeout i r =>
    have hd : Out.bcastDecided d ∈ ((σ.ctrl i).onTimeout (P.cfg i) P.height r).outs := hd
    rcases ctrl_timeout_cases (P.cfg i) P.height (σ.ctrl i) r (hinv.shape i) with ⟨_, ho⟩ | ⟨s, _, _, ho⟩ <;> rw [ho] at hd
    · cases hd
    · exact absurd hd (outsInst_no_decided (outsInst_uponRoundTimeout _ _))
  | deliver i m =>
    rcases ctrl_deliver_cases (P.cfg i) P.height (σ.ctrl i) m (hinv.shape i) (capacity_pos P i)
        (decided_height hP hinv i m hen) with ⟨hq, _⟩ | ⟨s, hi, hid, _, ho, _⟩
    · exact absurd hd (hq.decided d)
    · rcases ho _ hd with hb | ⟨d', b, v, h, hres⟩
      · exact absurd hb (outsInst_no_decided (outsInst_processMsg _ s m))
      · injection h with h
        subst h
        have hn : NodeInv P σ.trace i s := by
          obtain ⟨hhon, _⟩ := enabled_deliver hen
          have := hinv.node i hhon
          rwa [hi] at this
        have hpl : CommitsPlain s := by
          have := plain_of_reachableG hP hr i
          rwa [hi] at this
        obtain ⟨hd, _hround, _hheight⟩ := honestDecided_of_processMsg _ s m d b v
          (ctrlInv_of_reachable hr.reachable i s (findInstance_some hi).1) hid hn.round hpl hg hres
        exact hd

/-- every consensus message a correct operator emits in a gated, timely step satisfies the emission predicate the
    validation model's "never rejected" theorem asks for -/
theorem sys_emission_honest (hP : P.Valid) (hr : ReachableG σ) (a : Action P)
    (hen : enabled σ a = true) (hg : GatedAction a) (ht : TimelyAction σ a) (x : Msg)
    (hx : Out.bcast x ∈ stepOuts σ a ∨ Out.bcastDecided x ∈ stepOuts σ a) (sh : Validation.Share)
    (hsh : ShareMatches (P.cfg (actor a)) sh) (i : Validation.Input) (w : Wire) (he : EnvelopeOk i w) :
    Validation.HonestConsensus i sh (toValidationMsg (P.cfg (actor a)) w x) := by
  have hwf := cfgWF_of_params P hP (actor a)
  rcases hx with hx | hx
  · exact honestConsensus_of_inst _ hwf x (sys_bcast_honest hP hr.reachable a hen ht x hx) sh hsh i w he
  · exact honestConsensus_of_decided _ hwf x (sys_decided_honest hP hr a hen hg x hx) sh hsh i w he

end

end Ssv.Emission
