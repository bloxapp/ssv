/-
C07 clause (c) — the wedge invariant `W` is preserved by every enabled step whose delivery is `quiet`.
-/
import Ssv.Proofs.QbftWedge

namespace Ssv.Qbft.B.Wedge
open Ssv.Qbft Ssv.Qbft.B

theorem three_of_three (l : List Nat) (hnd : l.Nodup) (hsub : ∀ x ∈ l, x = 1 ∨ x = 2 ∨ x = 3) (hlen : 3 ≤ l.length) :
    1 ∈ l ∧ 2 ∈ l := by
  -- a duplicate-free sublist of `[1, 2, 3]` that is as long is a permutation of it
  have hs : l ⊆ [1, 2, 3] := fun x hx => by simpa only [List.mem_cons, List.not_mem_nil, or_false] using hsub x hx
  have hp : [1, 2, 3] ⊆ l := ((List.subperm_of_subset hnd hs).perm_of_length_le hlen).symm.subset
  exact ⟨hp List.mem_cons_self, hp (List.mem_cons_of_mem _ List.mem_cons_self)⟩

theorem committee_cases (s : Nat) (h : s ∈ wP.committee) (h4 : s ≠ 4) : s = 1 ∨ s = 2 ∨ s = 3 := by
  have h' : s ∈ [1, 2, 3, 4] := h
  simpa [h4] using h'

theorem uniq_three (l : List Nat) (hsub : ∀ x ∈ l, x = 1 ∨ x = 2 ∨ x = 3) (hq : 3 ≤ uniqueCount l) : 1 ∈ l ∧ 2 ∈ l := by
  have := three_of_three (uniq l) (uniq_nodup l) (fun x hx => hsub x ((uniq_mem l x).1 hx)) hq
  exact ⟨(uniq_mem l 1).1 this.1, (uniq_mem l 2).1 this.2⟩

/-- no decided message validates: operators 1 and 2 committed in different rounds, operator 4 signs no commit -/
theorem no_decided {log : List Msg} (hlog : WLog log) (i : Op wP) (m : Msg) (ha : authentic wP log m = true)
    (hid : m.ident = ownIdent) (hq : quiet m = true) : validateDecided (wP.cfg i) m ≠ .ok () := by
  intro hv
  obtain ⟨ht, hqu, hnd, _, hso, hc, _⟩ := validateDecided_ok _ m () hv
  have h4 : 4 ∉ m.signers := fun h4 => (quiet_use m.toBase (quiet_iff.1 hq).1 hso h4).1 ht
  have hsub : ∀ x ∈ m.signers, x = 1 ∨ x = 2 ∨ x = 3 :=
    fun x hx => committee_cases x (hc x hx) (fun e => h4 (e ▸ hx))
  have hlen : 3 ≤ m.signers.length := hqu
  obtain ⟨h1, h2⟩ := three_of_three m.signers hnd hsub hlen
  obtain ⟨m1, hm1, s1, t1, _, r1, _, _⟩ := backed_get (authentic_base ha) hso hid 1 h1 (by decide)
  obtain ⟨m2, hm2, s2, t2, _, r2, _, _⟩ := backed_get (authentic_base ha) hso hid 2 h2 (by decide)
  have e1 : m1.round = 1 := (hlog m1 hm1 0 (by decide) s1).2 (by rw [t1]; exact ht)
  have e2 : m2.round = 2 := (hlog m2 hm2 1 (by decide) s2).2 (by rw [t2]; exact ht)
  exact absurd ((e1.symm.trans (r1.trans r2.symm)).trans e2) (by decide)

/-- no proposal validates at a node in round ≥ 3: its round-change quorum must contain operators 1 and 2, whose round-changes
    are prepared for different values -/
theorem no_proposal {log : List Msg} (hlog : WLog log) (i : Op wP) (s : State) (hr : 3 ≤ s.round) (m : Msg)
    (ha : authentic wP log m = true) (hq : quiet m = true) : isValidProposal (wP.cfg i) s m ≠ .ok () := by
  intro hv
  have hst := isValidProposal_state _ s m () hv
  have hmr : 3 ≤ m.round := by
    rcases hst with ⟨_, e⟩ | e
    · rw [e]; exact hr
    · exact Nat.le_trans hr (Nat.le_of_lt e)
  obtain ⟨_, hjust⟩ := isValidProposal_just _ s m () hv
  obtain ⟨hrcs, hqrc⟩ := just_facts _ _ _ _ _ _ _ () hjust (Nat.ne_of_gt (Nat.lt_of_lt_of_le (by decide : firstRound < 3) hmr))
  have hqrc' : 3 ≤ uniqueCount (signersOfL m.rcJust) := (hasQuorum_iff _ _).1 hqrc
  have hauth := authentic_rc ha
  have hqall := (quiet_iff.1 hq).2
  have hV : ∀ rc ∈ m.rcJust, RcValid (wP.cfg i) s.height rc m.round m.fullData :=
    fun rc hin => validRC_facts _ _ rc _ _ _ () (hrcs rc hin)
  have hsub : ∀ x ∈ signersOfL m.rcJust, x = 1 ∨ x = 2 ∨ x = 3 := by
    intro x hx
    obtain ⟨rc, hin, hxs⟩ := List.mem_flatMap.1 hx
    have V := hV rc hin
    obtain ⟨sg, e1, e2⟩ := V.signer
    rw [e1] at hxs
    cases List.mem_singleton.1 hxs
    refine committee_cases x e2 ?_
    intro e4
    have h4 : 4 ∈ rc.toBase.signers := by rw [e1, e4]; simp
    exact (quiet_use rc.toBase (hqall rc hin) V.sigOk h4).2 ⟨V.type, by rw [V.round]; exact hmr⟩
  obtain ⟨h1, h2⟩ := uniq_three _ hsub hqrc'
  -- the round-change of operator `k+1` is prepared for that operator's locked value
  have key : ∀ k : Op wP, wP.honest k = true → opId k ∈ signersOfL m.rcJust → m.fullData = (lockOf k).2 := by
    intro k hk hin
    obtain ⟨rc, hrcin, hxs⟩ := List.mem_flatMap.1 hin
    have V := hV rc hrcin
    obtain ⟨m', hm', s', t', _, r', ro', d'⟩ :=
      backed_get (hauth rc hrcin).1 V.sigOk V.ident (opId k) hxs ((honestId_iff wP k).2 hk)
    have hrr : m'.round = m.round := by rw [r']; exact V.round
    have hl := (hlog m' hm' k hk s').1 (by rw [t']; exact V.type) (by rw [hrr]; exact hmr)
    have hdr : rc.dataRound = (lockOf k).1 := by rw [← hl.1]; exact d'.symm
    have hroot : rc.root = (lockOf k).2 := by rw [← hl.2]; exact ro'.symm
    obtain ⟨_, hfd, _⟩ := V.prepared (by rw [hdr]; exact (lockOf_ne_zero k).1)
    rw [hfd, hroot]
  have e1 : m.fullData = 5 := key 0 (by decide) h1
  have e2 : m.fullData = 6 := key 1 (by decide) h2
  exact absurd (e1.symm.trans e2) (by decide)

theorem createRoundChange_root (cfg : Cfg) (s : State) (r : Nat) (h1 : s.lastPreparedRound ≠ 0) (h2 : s.lastPreparedValue ≠ 0) :
    (createRoundChange cfg s r).root = s.lastPreparedValue := by
  have e : noRound = 0 := rfl
  unfold createRoundChange
  have hb : (s.lastPreparedRound != noRound && s.lastPreparedValue != 0) = true := by simp [e, h1, h2]
  rw [if_pos hb]; rfl

/-- what a correct operator may add to the log without leaving the wedge -/
structure GoodNew (i : Op wP) (x : Msg) : Prop where
  signer : x.signers = [opId i]
  rc : x.type = tRoundChange → 3 ≤ x.round → x.dataRound = (lockOf i).1 ∧ x.root = (lockOf i).2
  notCommit : x.type ≠ tCommit

theorem w_update (σ : Sys wP) (hw : W σ) (i : Op wP) (hi : wP.honest i = true) (c' : Ctrl) (outs : List Out)
    (evs : List (Ev (Op wP))) (hsh : Shape 0 c') (s' : State) (hs' : instAt 0 c' = some s') (hn : WNode i s')
    (hbs : ∀ x ∈ bcasts outs, GoodNew i x) (hev : ∀ e ∈ evs, ∀ j r v, e ≠ Ev.D j r v) : W (σ.update i c' outs evs) := by
  have hctrl : ∀ j, (σ.update i c' outs evs).ctrl j = if j = i then c' else σ.ctrl j := fun _ => rfl
  refine ⟨fun j => ?_, fun j hj => ?_, ?_, ?_⟩
  · rw [hctrl]
    split
    · exact hsh
    · exact hw.shape j
  · rw [hctrl]
    split
    · rename_i hji
      subst hji
      exact ⟨s', hs', hn⟩
    · exact hw.node j hj
  · intro m' hm' j hj hs
    rcases List.mem_append.1 (show m' ∈ σ.log ++ bcasts outs from hm') with h | h
    · exact hw.log m' h j hj hs
    · have g := hbs m' h
      rw [g.signer] at hs
      cases opId_inj (List.cons.inj hs).1
      exact ⟨g.rc, fun ht => absurd ht g.notCommit⟩
  · intro e he
    rcases List.mem_append.1 (show e ∈ σ.trace ++ evs from he) with h | h
    · exact hw.noD e h
    · exact hev e h

/-- what is known of a message delivered in a quiet continuation -/
structure QAuth (σ : Sys wP) (m : Msg) : Prop where
  auth : authentic wP σ.log m = true
  ident : m.ident = ownIdent
  isQuiet : quiet m = true

/-- a node transition of a wedged operator is a no-op, a round-change container update, or a jump to a higher round -/
theorem w_nstep (σ : Sys wP) (hw : W σ) (i : Op wP) (hi : wP.honest i = true) (c' : Ctrl) (outs : List Out)
    (evs : List (Ev (Op wP))) (hsh : Shape 0 c')
    (hst : NStep (wP.cfg i) 0 (QAuth σ) i
      (instAt 0 (σ.ctrl i)) (instAt 0 c') (bcasts outs) evs) : W (σ.update i c' outs evs) := by
  obtain ⟨s, hs, hn⟩ := hw.node i hi
  have hlr : s.lastPreparedRound ≠ 0 := by rw [hn.lpr]; exact (lockOf_ne_zero i).1
  have hlv : s.lastPreparedValue ≠ 0 := by rw [hn.lpv]; exact (lockOf_ne_zero i).2
  rw [hs] at hst
  cases hst with
  | idle h1 h2 h3 =>
    refine w_update σ hw i hi c' outs evs hsh s h1 hn ?_ ?_
    · rw [h2]; intro x hx; simp at hx
    · rw [h3]; intro e he; simp at he
  | create v h0 h1 h2 h3 | createDecided m ha h0 hv hh h1 h2 h3 => cases h0
  | adopt s0 m ha h0 hd hv hh h1 h2 h3 | more s0 m ha h0 hd hv hh h1 h2 h3 =>
    exact absurd hv (no_decided hw.log i m ha.auth ha.ident ha.isQuiet)
  | prop s0 m ha h0 hv hnew h1 h2 h3 =>
    cases h0
    exact absurd hv (no_proposal hw.log i s hn.round m ha.auth ha.isQuiet)
  | prep s0 m p ha h0 hacc hv h1 h2 h3 | prepQ s0 m p ha h0 hacc hv hq h1 h2 | com s0 m p ha h0 hacc hv h1 h2 h3
  | comQ s0 m p agg ha h0 hacc hv hq hagg h1 h2 h3 =>
    -- these need an accepted proposal
    cases h0
    cases hn.acc.symm.trans hacc
  | rc s0 X h0 h1 h2 h3 =>
    cases h0
    refine w_update σ hw i hi c' outs evs hsh _ h1 ⟨hn.acc, hn.undecided, hn.round, hn.lpr, hn.lpv⟩ ?_ ?_
    · intro x hx
      obtain ⟨t1, t2, _⟩ := h2 x hx
      refine ⟨t2, fun ht => ?_, fun ht => ?_⟩
      · rw [t1] at ht; exact absurd ht (by decide)
      · rw [t1] at ht; exact absurd ht (by decide)
    · rw [h3]; intro e he; simp at he
  | jump s0 X R h0 hR h1 h2 =>
    cases h0
    refine w_update σ hw i hi c' outs evs hsh _ h1 ⟨rfl, hn.undecided, Nat.le_trans hn.round (Nat.le_of_lt hR), hn.lpr, hn.lpv⟩ ?_ ?_
    · intro x hx
      rcases h2 with ⟨hb, _⟩ | ⟨hb, _⟩
      · rw [hb] at hx; simp at hx
      · rw [hb] at hx; simp at hx; subst hx
        refine ⟨createRoundChange_signers _ _ _, fun _ _ => ⟨?_, ?_⟩, ?_⟩
        · rw [createRoundChange_dataRound, if_pos ⟨hlr, hlv⟩]; exact hn.lpr
        · rw [createRoundChange_root _ _ _ hlr hlv]; exact hn.lpv
        · rw [createRoundChange_type]; decide
    · intro e he j r v
      rcases h2 with ⟨_, hb⟩ | ⟨_, hb⟩
      · rw [hb] at he; simp at he
      · rw [hb] at he; simp at he; rw [he]; intro x; cases x

theorem w_step (σ : Sys wP) (hw : W σ) (a : Action wP) (hen : enabled σ a = true) (hq : quietA a = true) : W (step σ a) := by
  cases a with
  | start i v =>
    have hi : wP.honest i = true := hen
    obtain ⟨h1, h2⟩ := ctrl_start_node (wP.cfg i) 0 (QAuth σ) i (σ.ctrl i) v
      (hw.shape i) (capacity_pos wP i)
    exact w_nstep σ hw i hi _ _ _ h1 h2
  | deliver i m =>
    have hen' : wP.honest i = true ∧ authentic wP σ.log m = true := by
      simpa [enabled] using hen
    have hq' : quiet m = true := hq
    obtain ⟨h1, h2⟩ := ctrl_processMsg_node (wP.cfg i) 0 (QAuth σ) i (σ.ctrl i) m
      (hw.shape i) (capacity_pos wP i) (fun hid => ⟨hen'.2, hid, hq'⟩)
      (fun hv hid => absurd hv (no_decided hw.log i m hen'.2 hid hq'))
    exact w_nstep σ hw i hen'.1 _ _ _ h1 h2
  | timeout i r =>
    have hi : wP.honest i = true := hen
    obtain ⟨h1, h2⟩ := ctrl_onTimeout_node (wP.cfg i) 0 (QAuth σ) i (σ.ctrl i) r
      (hw.shape i)
    exact w_nstep σ hw i hi _ _ _ h1 h2

theorem w_of_qreach {σ0 σ : Sys wP} (h0 : W σ0) (h : QReach σ0 σ) : W σ := by
  induction h with
  | refl => exact h0
  | step a _ hen hq ih => exact w_step _ ih a hen hq

theorem reachable_of_qreach {σ0 σ : Sys wP} (h0 : Reachable σ0) (h : QReach σ0 σ) : Reachable σ := by
  induction h with
  | refl => exact h0
  | step a _ hen _ ih => exact Reachable.step a ih hen

end Ssv.Qbft.B.Wedge
