/-
C01 Layer B — concrete reachable states of the 4-operator system (non-vacuity witnesses), evaluated by the kernel.
* `exSys`: operators 1,2,3 correct, operator 4 Byzantine and silent, height 3 (round-1 leader = operator 4). The correct
  operators time out, the round-2 leader (operator 1) collects the round-change quorum and proposes its start value 5,
  everybody prepares and commits, operators 1 and 2 decide 5 — two decisions after a round change.
* `cutSys`: `CutoffRound = 2`; operator 1 accepts a (justified) round-2 proposal of the Byzantine round-2 leader but its
  prepare is refused by `Instance.Broadcast` (round = cut-off): a `P` event without a prepare on the network.
-/
import Ssv.Proofs.QbftNodeSystem

namespace Ssv.Qbft.B
open Ssv.Qbft

/-- schedule items: an explicit action, or "deliver the k-th logged broadcast to operator i" -/
inductive Item (P : Params) where
  | act (a : Action P)
  | fwd (i : Op P) (k : Nat)

def runItems {P : Params} (σ : Sys P) : List (Item P) → Option (Sys P)
  | [] => some σ
  | .act a :: rest => if enabled σ a then runItems (step σ a) rest else none
  | .fwd i k :: rest =>
    match σ.log[k]? with
    | some m => if enabled σ (.deliver i m) then runItems (step σ (.deliver i m)) rest else none
    | none => none

theorem reachable_runItems {P : Params} {σ σ' : Sys P} (l : List (Item P)) (h : Reachable σ)
    (hr : runItems σ l = some σ') : Reachable σ' := by
  induction l generalizing σ with
  | nil => cases hr; exact h
  | cons it rest ih =>
    cases it with
    | act a =>
      simp only [runItems] at hr
      split at hr
      · exact ih (.step a h ‹_›) hr
      · cases hr
    | fwd i k =>
      simp only [runItems] at hr
      split at hr
      · split at hr
        · exact ih (.step _ h ‹_›) hr
        · cases hr
      · cases hr

def exP : Params := { f := 1, height := 3, cutoff := 15, valCheck := fun _ => true, byz := [3] }

theorem exP_valid : exP.Valid := ⟨by decide, by decide⟩

def exSched : List (Item exP) :=
  [.act (.start 0 5), .act (.start 1 6), .act (.start 2 7),
   .act (.timeout 0 1), .act (.timeout 1 1), .act (.timeout 2 1),
   .fwd 0 0, .fwd 0 1, .fwd 0 2,
   .fwd 0 3, .fwd 1 3, .fwd 2 3,
   .fwd 0 4, .fwd 0 5, .fwd 0 6, .fwd 1 4, .fwd 1 5, .fwd 1 6, .fwd 2 4, .fwd 2 5, .fwd 2 6,
   .fwd 0 7, .fwd 0 8, .fwd 0 9, .fwd 1 7, .fwd 1 8, .fwd 1 9]

/-- the schedule is enabled to its end; the trace of its final state and what the instances of operators 1 and 2 hold.
    The one kernel evaluation of the run; the facts about `exSys` below are read off it. -/
theorem ex_run :
    (runItems (Sys.init exP) exSched).map (fun σ => decide (σ.trace =
        [.RC 0 2 0 1, .RC 1 2 0 1, .RC 2 2 0 1, .P 0 2 5, .P 1 2 5, .P 2 2 5, .K 0 2 5, .K 1 2 5, .K 2 2 5,
         .D 0 2 5, .D 1 2 5] ∧
        (instAt exP.height (σ.ctrl 0)).map (fun s => (s.decided, s.decidedValue, s.round)) = some (true, 5, 2) ∧
        (instAt exP.height (σ.ctrl 1)).map (fun s => (s.decided, s.decidedValue, s.round)) = some (true, 5, 2))) =
      some true := by
  decide +kernel

theorem ex_isSome : (runItems (Sys.init exP) exSched).isSome = true :=
  Option.isSome_map.symm.trans (Option.isSome_of_eq_some ex_run)

def exSys : Sys exP := (runItems (Sys.init exP) exSched).get ex_isSome

theorem ex_reachable : Reachable exSys :=
  reachable_runItems exSched Reachable.init (by simp [exSys])

theorem ex_trace : exSys.trace =
    [.RC 0 2 0 1, .RC 1 2 0 1, .RC 2 2 0 1, .P 0 2 5, .P 1 2 5, .P 2 2 5, .K 0 2 5, .K 1 2 5, .K 2 2 5,
     .D 0 2 5, .D 1 2 5] := by
  obtain ⟨σ, h, hd⟩ := Option.map_eq_some_iff.1 ex_run
  rw [show exSys = σ from Option.get_of_eq_some _ h]
  exact (of_decide_eq_true hd).1

theorem ex_states :
    (instAt exP.height (exSys.ctrl 0)).map (fun s => (s.decided, s.decidedValue, s.round)) = some (true, 5, 2) ∧
    (instAt exP.height (exSys.ctrl 1)).map (fun s => (s.decided, s.decidedValue, s.round)) = some (true, 5, 2) := by
  obtain ⟨σ, h, hd⟩ := Option.map_eq_some_iff.1 ex_run
  rw [show exSys = σ from Option.get_of_eq_some _ h]
  exact (of_decide_eq_true hd).2

def cutP : Params := { f := 1, height := 2, cutoff := 2, valCheck := fun _ => true, byz := [3] }

def cutRc (s : Nat) : Lvl1 :=
  { type := tRoundChange, height := 2, round := 2, ident := 1, root := 1, dataRound := 0, signers := [s], sigOk := true,
    malformed := false, mid := 0, just := [] }

/-- round-2 proposal of the Byzantine round-2 leader (operator 4), justified by the round-changes of operators 2, 3, 4 -/
def cutProposal : Msg :=
  { type := tProposal, height := 2, round := 2, ident := 1, root := 9, dataRound := 0, signers := [4], sigOk := true,
    malformed := false, mid := 0, rcJust := [cutRc 2, cutRc 3, cutRc 4], prepJust := [], fullData := 9 }

def cutSched : List (Item cutP) :=
  [.act (.start 0 5), .act (.start 1 6), .act (.start 2 7), .act (.timeout 1 1), .act (.timeout 2 1),
   .act (.deliver 0 cutProposal)]

theorem cut_run :
    (runItems (Sys.init cutP) cutSched).map (fun σ => (σ.trace, σ.log.all (fun m => m.type != tPrepare))) =
      some ([.RC 1 2 0 1, .RC 2 2 0 1, .P 0 2 9], true) := by
  decide +kernel

theorem cut_isSome : (runItems (Sys.init cutP) cutSched).isSome = true :=
  Option.isSome_map.symm.trans (Option.isSome_of_eq_some cut_run)

def cutSys : Sys cutP := (runItems (Sys.init cutP) cutSched).get cut_isSome

theorem cut_reachable : Reachable cutSys :=
  reachable_runItems cutSched Reachable.init (by simp [cutSys])

theorem cut_facts :
    cutSys.trace = [.RC 1 2 0 1, .RC 2 2 0 1, .P 0 2 9] ∧ cutSys.log.all (fun m => m.type != tPrepare) = true := by
  obtain ⟨σ, h, hd⟩ := Option.map_eq_some_iff.1 cut_run
  rw [show cutSys = σ from Option.get_of_eq_some _ h]
  exact Prod.mk.inj hd

end Ssv.Qbft.B
