/-
The translation from the QBFT node model's messages to the validation model's decoded
consensus message, and the proof that the STRUCTURAL facts the node establishes about its own broadcasts
(`HonestInst` for instance messages, `HonestDecided` for aggregated decided messages) imply the abstract emission
predicate `Validation.HonestConsensus` that `C10_emitted_not_rejected` consumes.

What stays outside both models and is therefore an explicit hypothesis (`EnvelopeOk`): the encoded size of the SSV
message, the role / public key of the message id, the operator-signature envelope, and the BLS signature BYTES
(96 bytes, not all zero) — the QBFT model only carries the verification result `sigOk`.

The validation model treats `instance.IsProposalJustification(...) == nil` as an abstract Boolean (`QMsg.justOk`).
`toValidationMsg` DEFINES it, for a message of the node model, as the node model's own `isProposalJustification`
evaluated the way the validator calls it (`IsProposalJustification`: state height := message height, state identifier :=
message identifier, value check := always nil): `justBridge`. This is the bridge hypothesis  `justOk msg = (Qbft.isProposalJustification …).isOk`.
(For the empty value id 0 the node model's `valOk` is false by a modelling convention while the validator's check
is nil; emitted proposals never carry the empty value, so the two coincide on every emitted message.)
-/
import Ssv.Proofs.ValidationHonest
import Ssv.Proofs.QbftCert
set_option linter.unusedSimpArgs false
set_option linter.unusedVariables false

namespace Ssv.Emission
open Ssv

/-- the signature bytes of the encoded message (outside the QBFT model) -/
structure Wire where
  sigLen : Nat
  sigZero : Bool

/-- the configuration / state `validateJustifications` builds for `IsProposalJustification`: same committee / quorum,
    value check `func(data []byte) error { return nil }`, `state.ID` := the identifier of the MESSAGE under validation
    (repo fix e1612ceed: embedded justifications must carry that identifier) -/
def validatorCfg (cfg : Qbft.Cfg) (ident : Nat) : Qbft.Cfg := { cfg with valCheck := fun _ => true, ident := ident }

/-- BRIDGE: the abstract Boolean `justOk` of the validation model, for a message of the node model, is the node
    model's `isProposalJustification` as `IsProposalJustification(config, share, rcj, pj, height, round, fullData)`
    evaluates it (`state.Height := height`, `state.ID := identifier of the message`) -/
def justBridge (cfg : Qbft.Cfg) (m : Qbft.Msg) : Bool :=
  (Qbft.isProposalJustification (validatorCfg cfg m.ident) m.height m.rcJust m.prepJust m.height m.round m.fullData).isOk

/-- a broadcast of the node (`.bcast m` / `.bcastDecided m`) as the peer's validator decodes it:
    type, height (= slot), round, signers, root, full data (absent iff empty; present = id of its hash, `hashData`),
    justification shape (lengths; decodability = the model's `malformed` flag), `justOk` = `justBridge` -/
def toValidationMsg (cfg : Qbft.Cfg) (w : Wire) (m : Qbft.Msg) : Validation.QMsg :=
  { mtype := m.type, height := m.height, round := m.round, root := m.root,
    fullData := if m.fullData = 0 then none else some (Qbft.hashData m.fullData),
    signers := m.signers, sigLen := w.sigLen, sigZero := w.sigZero,
    pjMalformed := m.malformed, pjLen := m.prepJust.length,
    rcjMalformed := m.malformed, rcjLen := m.rcJust.length,
    justOk := justBridge cfg m }

/-- both are the representative of `x` modulo 2^64 in [-2^63, 2^63) -/
theorem toInt64_eq (x : Nat) : Qbft.toInt64 x = Validation.wrapI64 (x : Int) := by
  unfold Qbft.toInt64 Validation.wrapI64
  have hy : x % Qbft.two64 < Qbft.two64 := Nat.mod_lt _ (by decide)
  rw [← Int.emod_add_emod (x : Int), show (x : Int) % Validation.two64 = ((x % Qbft.two64 : Nat) : Int) from rfl]
  generalize x % Qbft.two64 = y at hy ⊢
  simp only
  by_cases h : y < Qbft.two63
  · rw [if_pos h]
    simp only [Validation.two63, Validation.two64, Qbft.two64, Qbft.two63] at hy h ⊢
    rw [Int.emod_eq_of_lt (by omega) (by omega), Int.add_sub_cancel]
  · rw [if_neg h]
    simp only [Validation.two63, Validation.two64, Qbft.two64, Qbft.two63] at hy h ⊢
    rw [← Int.sub_emod_right, Int.emod_eq_of_lt (by omega) (by omega)]
    omega

theorem wrap64_eq (i : Int) : Qbft.wrap64 i = Validation.wrapI64 i := by
  unfold Qbft.wrap64
  rw [toInt64_eq, Int.toNat_of_nonneg (Int.emod_nonneg _ (by decide))]
  unfold Validation.wrapI64
  rw [show ((Qbft.two64 : Nat) : Int) = Validation.two64 from rfl, Int.emod_add_emod]

theorem proposerIndex_eq (n h r : Nat) : Qbft.proposerIndex n h r = Validation.leaderIndex n h r := by
  unfold Qbft.proposerIndex Validation.leaderIndex Validation.toInt64 Validation.goMod
  simp only [wrap64_eq, toInt64_eq]
  have e1 : Validation.wrapI64 ((Qbft.firstRound : Nat) : Int) = (Gen.val_FirstRound : Int) := by decide
  have e2 : Qbft.firstHeight = Gen.val_FirstHeight := rfl
  rw [e1, e2]

/-- the node's `ProposerF` (`Qbft.roundRobinProposer`) and the validator's leader computation return the same operator -/
theorem proposer_agree (c : List Nat) (h r l : Nat) (hq : Qbft.roundRobinProposer c h r = some l) :
    Validation.roundRobinProposer c h r = .ok l := by
  unfold Qbft.roundRobinProposer at hq
  unfold Validation.roundRobinProposer
  split at hq
  · cases hq
  · rename_i hne
    have hlen : ¬ (c.length = 0) := by
      intro h0
      apply hne
      simp [List.length_eq_zero_iff.mp h0]
    simp only [hlen, if_false]
    rw [proposerIndex_eq] at hq
    simp only at hq
    split at hq
    · cases hq
    · rename_i hneg
      simp only [hneg, if_false]
      rw [hq]

/-- side conditions on the node's configuration: it is a committee member, operator ids are non-zero, the proposer
    function is the round-robin one (the node's `ProposerF`), quorum ≥ 1 -/
structure CfgWF (cfg : Qbft.Cfg) : Prop where
  own : cfg.own ∈ cfg.committee
  nozero : 0 ∉ cfg.committee
  proposer : cfg.proposer = Qbft.roundRobinProposer cfg.committee
  quorum : 1 ≤ cfg.quorum

/-- an instance message (`Instance.Broadcast`) of a correct operator -/
structure HonestInst (cfg : Qbft.Cfg) (x : Qbft.Msg) : Prop where
  signer : x.signers = [cfg.own]
  ident : x.ident = cfg.ident
  type : x.type ≤ Qbft.tRoundChange
  round : 1 ≤ x.round
  wellFormed : x.malformed = false
  root : x.fullData ≠ 0 → Qbft.hashData x.fullData = x.root
  prepJustOnlyProposal : x.prepJust ≠ [] → x.type = Qbft.tProposal
  rcJustOnlyProposalRC : x.rcJust ≠ [] → x.type = Qbft.tProposal ∨ x.type = Qbft.tRoundChange
  leader : x.type = Qbft.tProposal → cfg.proposer x.height x.round = some cfg.own
  justified : x.type = Qbft.tProposal →
    Qbft.isProposalJustification cfg x.height x.rcJust x.prepJust x.height x.round x.fullData = .ok ()

/-- an aggregated decided message (`Controller.broadcastDecided`) of a correct operator: a valid certificate (commit type,
    distinct non-zero committee signers, at least a quorum, root = hash(full data)) whose signers are SORTED, of a
    round ≥ 1, without justification fields -/
structure HonestDecided (cfg : Qbft.Cfg) (d : Qbft.Msg) : Prop where
  cert : Qbft.ValidCert cfg d
  sorted : d.signers.Pairwise (· < ·)
  round : 1 ≤ d.round
  wellFormed : d.malformed = false
  noJust : d.rcJust = [] ∧ d.prepJust = []

/-- the peer's share describes the same committee -/
structure ShareMatches (cfg : Qbft.Cfg) (sh : Validation.Share) : Prop where
  committee : sh.committee = cfg.committee
  quorum : sh.quorum = cfg.quorum

/-- everything about the transported message that neither model describes (runner / network layer) -/
structure EnvelopeOk (i : Validation.Input) (w : Wire) : Prop where
  size : i.dataLen ≤ Gen.val_maxConsensusMsgSize
  role : Validation.validRole i.role = true
  consensusRole : (i.role == Gen.val_BNRoleValidatorRegistration || i.role == Gen.val_BNRoleVoluntaryExit) = false
  key : i.pkOk = true
  sig : w.sigLen = Gen.val_signatureSize ∧ w.sigZero = false
  env : i.envSig = .none ∨ i.envSig = .valid

section
variable (cfg : Qbft.Cfg)

theorem isProposalJustification_validator (sh : Nat) (rcs : List Qbft.Lvl1) (ps : List Qbft.Base)
    (h r fd : Nat) (hv : cfg.valOk fd = true) :
    Qbft.isProposalJustification (validatorCfg cfg cfg.ident) sh rcs ps h r fd =
      Qbft.isProposalJustification cfg sh rcs ps h r fd := by
  have h1 : (validatorCfg cfg cfg.ident).valOk fd = true := by
    have hv' := hv
    unfold Qbft.Cfg.valOk at hv' ⊢
    simp only [Bool.and_eq_true] at hv'
    simp [validatorCfg, hv'.1]
  unfold Qbft.isProposalJustification
  rw [h1, hv]
  rfl

theorem justBridge_of_justified (x : Qbft.Msg) (hi : x.ident = cfg.ident)
    (h : Qbft.isProposalJustification cfg x.height x.rcJust x.prepJust x.height x.round x.fullData = .ok ()) :
    justBridge cfg x = true := by
  unfold justBridge
  rw [hi, isProposalJustification_validator cfg _ _ _ _ _ _ (Qbft.isProposalJustification_value _ _ _ _ _ _ _ _ h), h]
  rfl

theorem validateJustifications_of (w : Wire) (x : Qbft.Msg) (hm : x.malformed = false)
    (hpj : x.prepJust ≠ [] → x.type = Qbft.tProposal)
    (hrcj : x.rcJust ≠ [] → x.type = Qbft.tProposal ∨ x.type = Qbft.tRoundChange)
    (hj : x.type = Qbft.tProposal → justBridge cfg x = true) :
    Validation.validateJustifications (toValidationMsg cfg w x) = .ok () := by
  unfold Validation.validateJustifications
  apply (Validation.firstFail_ok_iff _).mpr
  intro c hc
  simp only [List.mem_cons, List.mem_nil_iff, or_false] at hc
  rcases hc with h | h | h | h | h <;> subst h <;> apply (Validation.rejectIf_ok_iff _ _).mpr
  · exact hm
  · show (decide (x.prepJust.length ≠ 0) && (x.type != Gen.val_ProposalMsgType)) = false
    cases hp : x.prepJust with
    | nil => rfl
    | cons a l => rw [hpj (hp ▸ List.cons_ne_nil a l)]; rfl
  · exact hm
  · show (decide (x.rcJust.length ≠ 0) && (x.type != Gen.val_ProposalMsgType) && (x.type != Gen.val_RoundChangeMsgType)) = false
    cases hp : x.rcJust with
    | nil => rfl
    | cons a l => rcases hrcj (hp ▸ List.cons_ne_nil a l) with h | h <;> rw [h] <;> rfl
  · show (decide (x.type == Gen.val_ProposalMsgType) && !justBridge cfg x) = false
    by_cases hp : x.type = Qbft.tProposal
    · rw [hj hp]; exact Bool.and_false _
    · rw [show (x.type == Gen.val_ProposalMsgType) = false from beq_false_of_ne hp]; rfl

theorem toValidationMsg_root (w : Wire) (x : Qbft.Msg)
    (hx : x.fullData ≠ 0 → Qbft.hashData x.fullData = x.root) (h : Nat)
    (hh : (toValidationMsg cfg w x).fullData = some h) : h = (toValidationMsg cfg w x).root := by
  have hh' : (if x.fullData = 0 then none else some (Qbft.hashData x.fullData)) = some h := hh
  split at hh'
  · cases hh'
  · rename_i hne
    injection hh' with hh'
    exact hh' ▸ hx hne

theorem honestConsensus_of_inst (hc : CfgWF cfg) (x : Qbft.Msg) (hx : HonestInst cfg x)
    (sh : Validation.Share) (hsh : ShareMatches cfg sh) (i : Validation.Input) (w : Wire) (he : EnvelopeOk i w) :
    Validation.HonestConsensus i sh (toValidationMsg cfg w x) where
  size := he.size
  role := he.role
  consensusRole := he.consensusRole
  key := he.key
  sig := he.sig
  mtype := (Validation.validQBFT_iff _).mpr hx.type
  round := hx.round
  signers := by
    left
    refine ⟨cfg.own, hx.signer, fun h => hc.nozero (h ▸ hc.own), by rw [hsh.committee]; exact hc.own, ?_⟩
    intro hp
    have hp' : x.type = Qbft.tProposal := hp
    have hl := hx.leader hp'
    rw [hc.proposer] at hl
    show Validation.roundRobinProposer sh.committee x.height x.round = .ok cfg.own
    rw [hsh.committee]
    exact proposer_agree _ _ _ _ hl
  root := toValidationMsg_root cfg w x hx.root
  just := validateJustifications_of cfg w x hx.wellFormed hx.prepJustOnlyProposal hx.rcJustOnlyProposalRC
    (fun hp => justBridge_of_justified cfg x hx.ident (hx.justified hp))
  env := he.env

theorem honestConsensus_of_decided (hc : CfgWF cfg) (d : Qbft.Msg) (hd : HonestDecided cfg d)
    (sh : Validation.Share) (hsh : ShareMatches cfg sh) (i : Validation.Input) (w : Wire) (he : EnvelopeOk i w) :
    Validation.HonestConsensus i sh (toValidationMsg cfg w d) where
  size := he.size
  role := he.role
  consensusRole := he.consensusRole
  key := he.key
  sig := he.sig
  mtype := (Validation.validQBFT_iff _).mpr (by show d.type ≤ 3; rw [hd.cert.isCommit]; decide)
  round := hd.round
  signers := by
    have hmem : ∀ s ∈ d.signers, s ≠ 0 ∧ s ∈ sh.committee := by
      intro s hs
      refine ⟨fun h0 => hd.cert.nozero (h0 ▸ hs), ?_⟩
      rw [hsh.committee]; exact hd.cert.committee s hs
    have hq : cfg.quorum ≤ d.signers.length := hd.cert.quorum
    have hq1 := hc.quorum
    by_cases h1 : d.signers.length = 1
    · obtain ⟨a, ha⟩ := List.length_eq_one_iff.mp h1
      have hm := hmem a (ha ▸ List.mem_singleton_self a)
      left
      refine ⟨a, ha, hm.1, hm.2, ?_⟩
      intro hp
      have hp' : d.type = Gen.val_ProposalMsgType := hp
      rw [hd.cert.isCommit] at hp'
      exact absurd hp' (by decide)
    · right
      refine ⟨hd.cert.isCommit, Nat.lt_of_le_of_ne (Nat.le_trans hq1 hq) (Ne.symm h1), by rw [hsh.quorum]; exact hq, ?_, hd.sorted, hmem⟩
      show d.signers.length ≤ sh.committee.length
      rw [hsh.committee]
      exact List.Nodup.length_le_of_subset hd.cert.nodup (fun s hs => hd.cert.committee s hs)
  root := toValidationMsg_root cfg w d (fun _ => hd.cert.hash)
  just := validateJustifications_of cfg w d hd.wellFormed (by intro h; exact absurd hd.noJust.2 h)
    (by intro h; exact absurd hd.noJust.1 h)
    (by intro hp; rw [hd.cert.isCommit] at hp; exact absurd hp (by decide))
  env := he.env

end

end Ssv.Emission
