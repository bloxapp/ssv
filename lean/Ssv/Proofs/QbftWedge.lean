/-
C07 clause (c) — the mixed-locks wedge as a state of the executable multi-node system `SystemB` (n = 4, f = 1, height 0):
operator 1 locked on (round 1, value 5), operators 2 and 3 on (round 2, value 6), all undecided in round 3 with no accepted
proposal; and the invariant `W` of that state. `quiet` restricts the fourth member: no commit and no round-change for a
round ≥ 3 (it may sign proposals and prepares, and its old round-changes are replayable).
-/
import Ssv.Proofs.QbftNodeExample

namespace Ssv.Qbft.B.Wedge
open Ssv.Qbft Ssv.Qbft.B

def wP : Params := { f := 1, height := 0, cutoff := 15, valCheck := fun _ => true, byz := [3] }

theorem wP_valid : wP.Valid := ⟨by decide, by decide⟩

/-- a message signed by the Byzantine operator 4 -/
def byzM (t r root : Nat) : Msg :=
  { type := t, height := 0, round := r, ident := 1, root := root, dataRound := 0, signers := [4], sigOk := true,
    malformed := false, mid := 0, rcJust := [], prepJust := [], fullData := 0 }

/-- the schedule of DESIGN §8-10 / `c07Wedge`: operator 1 alone sees the round-1 prepare quorum for 5; operators 2 and 3, with
    operator 4's round-change and prepare, prepare 6 in round 2; then everybody times out into round 3 -/
def wSched : List (Item wP) :=
  [.act (.start 0 5), .act (.start 1 6), .act (.start 2 6),
   .fwd 0 0, .fwd 1 0, .fwd 2 0,
   .fwd 0 1, .fwd 0 2, .fwd 0 3,
   .act (.timeout 1 1), .act (.timeout 2 1),
   .act (.deliver 1 (byzM tRoundChange 2 zeroRoot)), .act (.deliver 2 (byzM tRoundChange 2 zeroRoot)),
   .fwd 1 5, .fwd 1 6, .fwd 2 5, .fwd 2 6,
   .fwd 1 7, .fwd 2 7,
   .act (.deliver 1 (byzM tPrepare 2 6)), .act (.deliver 2 (byzM tPrepare 2 6)),
   .fwd 1 8, .fwd 1 9, .fwd 2 8, .fwd 2 9,
   .fwd 1 10, .fwd 1 11, .fwd 2 10, .fwd 2 11,
   .act (.timeout 0 1), .act (.timeout 0 2), .act (.timeout 1 2), .act (.timeout 2 2)]

/-- operator 4 has not validly signed this part, or the part is neither a commit nor a round-change for a round ≥ 3 -/
def quietBase (b : Base) : Bool :=
  !b.sigOk || !b.signers.contains 4 || (b.type != tCommit && !(b.type == tRoundChange && decide (3 ≤ b.round)))

theorem quiet_use (b : Base) (hq : quietBase b = true) (hs : b.sigOk = true) (h4 : 4 ∈ b.signers) :
    b.type ≠ tCommit ∧ ¬ (b.type = tRoundChange ∧ 3 ≤ b.round) := by
  -- with a valid signature of operator 4, only the last disjunct of `quietBase` is left
  unfold quietBase at hq
  simp only [hs, Bool.not_true, Bool.false_or, Bool.or_eq_true, Bool.not_eq_true', Bool.and_eq_true, bne_iff_ne, ne_eq,
    Bool.and_eq_false_iff, beq_eq_false_iff_ne, List.contains_eq_mem, decide_eq_false_iff_not] at hq
  rcases hq with hq | ⟨h1, h2⟩
  · exact absurd h4 (by simpa using hq)
  · refine ⟨h1, ?_⟩
    rintro ⟨a, b'⟩
    rcases h2 with h2 | h2
    · exact h2 a
    · exact h2 b'

/-- the delivered message and its round-change justifications respect the restriction -/
def quiet (m : Msg) : Bool := quietBase m.toBase && m.rcJust.all (fun rc => quietBase rc.toBase)

theorem quiet_iff {m : Msg} :
    quiet m = true ↔ quietBase m.toBase = true ∧ ∀ rc ∈ m.rcJust, quietBase rc.toBase = true := by
  unfold quiet; rw [Bool.and_eq_true, List.all_eq_true]

def quietA : Action wP → Bool
  | .deliver _ m => quiet m
  | _ => true

/-- the decided message for (round 2, value 6) that needs operator 4's commit signature -/
def unwedgeCert : Msg :=
  { type := tCommit, height := 0, round := 2, ident := 1, root := 6, dataRound := 0, signers := [2, 3, 4], sigOk := true,
    malformed := false, mid := 0, rcJust := [], prepJust := [], fullData := 6 }

def lockOf (i : Op wP) : Nat × Nat := if i = 0 then (1, 5) else (2, 6)

theorem lockOf_ne_zero (i : Op wP) : (lockOf i).1 ≠ 0 ∧ (lockOf i).2 ≠ 0 := by
  unfold lockOf; split <;> exact ⟨by decide, by decide⟩

structure WNode (i : Op wP) (s : State) : Prop where
  acc : s.accepted = none
  undecided : s.decided = false
  round : 3 ≤ s.round
  lpr : s.lastPreparedRound = (lockOf i).1
  lpv : s.lastPreparedValue = (lockOf i).2

/-- what the log holds of the correct operators: their round-changes for rounds ≥ 3 carry their lock, and their commits are of
    their lock's round (so operators 1 and 2 never appear in one commit quorum, nor in one justification of a proposal) -/
def WLog (log : List Msg) : Prop :=
  ∀ m' ∈ log, ∀ i : Op wP, wP.honest i = true → m'.signers = [opId i] →
    (m'.type = tRoundChange → 3 ≤ m'.round → m'.dataRound = (lockOf i).1 ∧ m'.root = (lockOf i).2) ∧
    (m'.type = tCommit → m'.round = (lockOf i).1)

instance (log : List Msg) : Decidable (WLog log) := by unfold WLog; infer_instance

structure W (σ : Sys wP) : Prop where
  shape : ∀ i, Shape 0 (σ.ctrl i)
  node : ∀ i, wP.honest i = true → ∃ s, instAt 0 (σ.ctrl i) = some s ∧ WNode i s
  log : WLog σ.log
  noD : ∀ e ∈ σ.trace, ∀ i r v, e ≠ Ev.D i r v

def noDB (T : List (Ev (Op wP))) : Bool := T.all (fun e => match e with | .D _ _ _ => false | _ => true)

theorem noDB_sound (T : List (Ev (Op wP))) (h : noDB T = true) : ∀ e ∈ T, ∀ i r v, e ≠ Ev.D i r v := by
  intro e he i r v heq
  have := List.all_eq_true.1 h e he
  rw [heq] at this
  simp at this

/-- what is read off the final state of the schedule -/
structure WFacts (σ : Sys wP) : Prop where
  /-- the correct operators are in round 3, undecided, without accepted proposal and locked as said -/
  summary : [(0 : Op wP), 1, 2].map (fun i => (instAt 0 (σ.ctrl i)).map (fun s =>
      (s.round, s.decided, s.accepted.isNone, s.lastPreparedRound, s.lastPreparedValue))) =
    [some (3, false, true, 1, 5), some (3, false, true, 2, 6), some (3, false, true, 2, 6)]
  shapes : ∀ i, (σ.ctrl i).insts.map (·.height) ∈ [[], [0]]
  log : WLog σ.log
  noD : noDB σ.trace = true
  /-- the decided message signed by 2, 3, 4 is deliverable, not `quiet`, and decides -/
  certEnabled : enabled σ (.deliver 0 unwedgeCert) = true
  certNotQuiet : quiet unwedgeCert = false
  certDecides : (instAt 0 ((step σ (.deliver 0 unwedgeCert)).ctrl 0)).map (fun s => (s.decided, s.decidedValue)) =
    some (true, 6)
  timeoutLog : (step σ (.timeout 0 3)).log.length ≠ σ.log.length

instance (σ : Sys wP) : Decidable (WFacts σ) :=
  decidable_of_iff (_ ∧ _ ∧ _ ∧ _ ∧ _ ∧ _ ∧ _ ∧ _)
    ⟨fun ⟨a, b, c, d, e, f, g, h⟩ => ⟨a, b, c, d, e, f, g, h⟩,
     fun h => ⟨h.summary, h.shapes, h.log, h.noD, h.certEnabled, h.certNotQuiet, h.certDecides, h.timeoutLog⟩⟩

/-- the schedule is evaluated once: it runs through, and `WFacts` holds of its final state -/
theorem w_run : (runItems (Sys.init wP) wSched).map (fun σ => decide (WFacts σ)) = some true := by
  decide +kernel

theorem w_isSome : (runItems (Sys.init wP) wSched).isSome = true := by
  obtain ⟨σ, hσ, _⟩ := Option.map_eq_some_iff.1 w_run
  rw [hσ]; rfl

def wSys : Sys wP := (runItems (Sys.init wP) wSched).get w_isSome

theorem w_reachable : Reachable wSys := reachable_runItems wSched Reachable.init (by simp [wSys])

/-- `WFacts` is handed on for an opaque `σ`: a statement about `wSys` itself, compared with another one, makes Lean unfold
    `wSys`, that is, run the schedule again -/
theorem w_facts : ∃ σ, wSys = σ ∧ WFacts σ := by
  obtain ⟨σ, hσ, hp⟩ := Option.map_eq_some_iff.1 w_run
  exact ⟨σ, by simp only [wSys, hσ, Option.get_some], of_decide_eq_true hp⟩

theorem w_timeout_log : (step wSys (.timeout 0 3)).log.length ≠ wSys.log.length := by
  obtain ⟨σ, e, hf⟩ := w_facts
  rw [e]; exact hf.timeoutLog

/-- states reachable from `σ0` by enabled steps whose deliveries are `quiet` -/
inductive QReach (σ0 : Sys wP) : Sys wP → Prop
  | refl : QReach σ0 σ0
  | step {σ : Sys wP} (a : Action wP) : QReach σ0 σ → enabled σ a = true → quietA a = true → QReach σ0 (step σ a)

theorem honest_cases (i : Op wP) (h : wP.honest i = true) : i = 0 ∨ i = 1 ∨ i = 2 := by
  revert h; revert i; decide

theorem shape_of_heights {c : Ctrl} (h : c.insts.map (·.height) ∈ [[], [0]]) : Shape 0 c := by
  match hc : c.insts, h with
  | [], _ => exact Or.inl hc
  | [s], h => exact Or.inr ⟨s, hc, by simpa using h⟩
  | _ :: _ :: _, h => simp at h

theorem wnode_of_summary {i : Op wP} {c : Ctrl} {r a b : Nat}
    (h : (instAt 0 c).map (fun s => (s.round, s.decided, s.accepted.isNone, s.lastPreparedRound, s.lastPreparedValue)) =
      some (r, false, true, a, b)) (hr : 3 ≤ r) (hl : lockOf i = (a, b)) : ∃ s, instAt 0 c = some s ∧ WNode i s := by
  obtain ⟨s, hs, e⟩ := Option.map_eq_some_iff.1 h
  simp only [Prod.mk.injEq, Option.isNone_iff_eq_none] at e
  obtain ⟨e1, e2, e3, e4, e5⟩ := e
  exact ⟨s, hs, e3, e2, by rw [e1]; exact hr, by rw [e4, hl], by rw [e5, hl]⟩

theorem w_wedge : W wSys := by
  obtain ⟨σ, e, hf⟩ := w_facts
  rw [e]
  have hsum := hf.summary
  simp only [List.map_cons, List.map_nil, List.cons.injEq, and_true] at hsum
  obtain ⟨hsum0, hsum1, hsum2⟩ := hsum
  refine ⟨fun i => shape_of_heights (hf.shapes i), ?_, hf.log, noDB_sound _ hf.noD⟩
  intro i hi
  rcases honest_cases i hi with rfl | rfl | rfl
  · exact wnode_of_summary hsum0 (Nat.le_refl _) rfl
  · exact wnode_of_summary hsum1 (Nat.le_refl _) rfl
  · exact wnode_of_summary hsum2 (Nat.le_refl _) rfl

end Ssv.Qbft.B.Wedge
