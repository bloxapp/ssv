/-
C01 Layer B, part 7 — what proposal validation establishes about the justification, and the preservation of the rules
H0–H7 by a transition of one correct node (H2: a commit needs an authentic prepare quorum, or a stale accepted proposal
after a regress; H3: justified proposals).
-/
import Ssv.Proofs.QbftNodeRules

namespace Ssv.Qbft.B
open Ssv.Qbft

theorem isValidProposal_just (cfg : Cfg) (s : State) (m : Msg) (u : Unit) (h : isValidProposal cfg s m = .ok u) :
    m.fullData = m.root ∧
    isProposalJustification cfg s.height m.rcJust m.prepJust s.height m.round m.fullData = .ok () :=
  (isValidProposal_facts cfg s m u h).2

structure RcValid (cfg : Cfg) (sh : Nat) (rc : Lvl1) (r fd : Nat) : Prop where
  type : rc.type = tRoundChange
  round : rc.round = r
  ident : rc.ident = cfg.ident
  sigOk : rc.sigOk = true
  signer : ∃ sg, rc.signers = [sg] ∧ sg ∈ cfg.committee
  prepared : rc.dataRound ≠ 0 →
    (∀ pm ∈ rc.just, pm.ident = cfg.ident ∧ validSignedPrepare cfg pm sh rc.dataRound rc.root = .ok ()) ∧ fd = rc.root ∧
    cfg.hasQuorum (signersOfB rc.just) = true ∧ rc.dataRound ≤ r

theorem validRC_facts (cfg : Cfg) (sh : Nat) (rc : Lvl1) (h r fd : Nat) (u : Unit)
    (hv : validRoundChangeForData cfg sh rc h r fd = .ok u) : RcValid cfg sh rc r fd := by
  unfold validRoundChangeForData at hv
  simp only [bind_eq_ok, rejectIf_eq_ok, wrap_eq_ok] at hv
  obtain ⟨_, htype, _, _, _, hround, _, hident, _, hone, _, hsig, _, _, hprep⟩ := hv
  have ht : rc.type = tRoundChange := by simpa using htype
  have hsig' : cfg.verifySig rc.toBase = true := by simpa using hsig
  obtain ⟨hso, hc⟩ := verifySig_true cfg rc.toBase hsig'
  obtain ⟨sg, hsg⟩ := List.length_eq_one_iff.1 (by simpa using hone)
  refine ⟨ht, by simpa using hround, by simpa using hident, hso, ⟨sg, hsg, hc sg (by rw [hsg]; simp)⟩, ?_⟩
  intro hne
  have hp : rc.toBase.rcPrepared = true := by
    unfold Base.rcPrepared
    have e : noRound = 0 := rfl
    simp [ht, e, hne]
  simp only [hp, if_true, bind_eq_ok, rejectIf_eq_ok, wrap_eq_ok] at hprep
  obtain ⟨_, hjust, _, hhash, _, hquorum, hle⟩ := hprep
  refine ⟨?_, by simpa [hashData] using hhash, by simpa using hquorum, by simpa using hle⟩
  intro pm hpm
  have := firstFail_ok _ _ _ hjust pm hpm
  simp only [bind_eq_ok, rejectIf_eq_ok] at this
  obtain ⟨_, a, b⟩ := this
  exact ⟨by simpa using a, b⟩

theorem hasQuorum_iff (cfg : Cfg) (l : List Nat) : cfg.hasQuorum l = true ↔ cfg.quorum ≤ uniqueCount l := by
  unfold Cfg.hasQuorum; simp

theorem validRC_height (cfg : Cfg) (sh : Nat) (rc : Lvl1) (h r fd : Nat) (u : Unit)
    (hv : validRoundChangeForData cfg sh rc h r fd = .ok u) : rc.height = h := by
  unfold validRoundChangeForData at hv
  simp only [bind_eq_ok, rejectIf_eq_ok, wrap_eq_ok] at hv
  obtain ⟨_, _, _, hheight, _⟩ := hv
  simpa using hheight

/-- H2 for the commit a correct node sends on a local prepare quorum: the prepares counted are all for the accepted
    proposal's root, so their correct signers accepted it; or the accepted proposal is of a higher round than the current
    one, after a decided message lowered the round -/
theorem commit_backed {P : Params} {hP : P.Valid} {T evs : List (Ev (Op P))} {i : Op P} {s : State} {m p : Msg} {k : Nat}
    (hinv : NodeInv P T i s) (ha : M.AuthT P T m) (hacc : s.accepted = some p)
    (hv : validSignedPrepare (P.cfg i) m.toBase s.height s.round p.root = .ok ())
    (hq : (P.cfg i).hasQuorum (signersOf (forRound (s.prepare ++ [m]) s.round)) = true) (hk : T.length ≤ k) :
    QAbs.PQ (ctxT P hP (T ++ evs)) k s.round p.root ∨
      ((∃ g rc, g < k ∧ QAbs.At (ctxT P hP (T ++ evs)) g (.G i rc) ∧ rc ≤ s.round) ∧
        ∃ r2, s.round < r2 ∧ QAbs.Before (ctxT P hP (T ++ evs)) k (.P i r2 p.root)) := by
  obtain ⟨hpin, hgh⟩ := hinv.acc p hacc
  by_cases hstale : s.round < p.round
  · right
    obtain ⟨rc, hG⟩ := hgh (Nat.ne_of_gt hstale)
    obtain ⟨g, hg⟩ := List.getElem?_of_mem hG
    exact ⟨⟨g, rc, Nat.lt_of_lt_of_le (getElem?_lt hg) hk, at_iff.2 (getElem?_append_old hg), (hinv.gRound rc hG).1⟩,
      p.round, hstale, before_of_mem (e := .P i p.round p.root) (hinv.propEv p hpin) hk⟩
  · left
    obtain ⟨hid, hbase, _⟩ := ha
    obtain ⟨hmok, hmr, hmroot⟩ := M.prepOK_of_valid i m _ _ _ hinv.height hv hid hbase
    have hbucket : ∀ x ∈ forRound (s.prepare ++ [m]) s.round, PrepOK P T x ∧ x.round = s.round ∧ x.root = p.root := by
      intro x hx
      obtain ⟨hx1, hx2⟩ := List.mem_filter.1 hx
      have hxr : x.round = s.round := beq_iff_eq.1 hx2
      rcases List.mem_append.1 hx1 with hx1 | hx1
      · exact ⟨(hinv.prep x hx1).1, hxr, hinv.prep_root hacc hstale hx1 hxr⟩
      · cases List.mem_singleton.1 hx1
        exact ⟨hmok, hmr, hmroot⟩
    obtain ⟨S, hS, hQ⟩ := quorum_members hP (fun x : Msg => x.signers) _ ((hasQuorum_iff _ _).1 hq)
      (fun j => P.honest j = true → Ev.P j s.round p.root ∈ T)
      (fun x hx sg hxs => by
        obtain ⟨⟨sg', h1, h2, h3⟩, hxr, hxroot⟩ := hbucket x hx
        cases List.mem_singleton.1 (h1 ▸ hxs)
        exact ⟨h2, fun j hj hh => hxr ▸ hxroot ▸ h3 j hh hj⟩)
    exact pq_of_mem hk S hS hQ

/-- what a validated round-change of a justification carries when it and its inner prepares are authentic: one committee
    signer; a lock not above the round which, if set, has a prepare quorum and fixes the value; the round-change event of
    its correct signer -/
theorem rc_carries {P : Params} {hP : P.Valid} {T evs : List (Ev (Op P))} {i : Op P} {rc : Lvl1} {sh r fd k : Nat}
    (hv : validRoundChangeForData (P.cfg i) sh rc sh r fd = .ok ()) (hsh : sh = P.height)
    (hb : M.BackedT P T rc.toBase) (hbj : ∀ pm ∈ rc.just, M.BackedT P T pm) (hk : T.length ≤ k) :
    (∃ sg, rc.signers = [sg] ∧ sg ∈ P.committee) ∧ rc.dataRound ≤ r ∧
    (0 < rc.dataRound → QAbs.PQ (ctxT P hP (T ++ evs)) k rc.dataRound rc.root ∧ fd = rc.root) ∧
    (∀ j, P.honest j = true → opId j ∈ rc.signers → Ev.RC j r rc.dataRound rc.root ∈ T) := by
  have V := validRC_facts _ _ rc _ _ _ () hv
  refine ⟨V.signer, ?_, ?_, ?_⟩
  · by_cases h0 : rc.dataRound = 0
    · exact h0 ▸ Nat.zero_le _
    · obtain ⟨_, _, _, hle⟩ := V.prepared h0
      exact hle
  · intro hpos
    obtain ⟨hpms, hfd, hqp, _⟩ := V.prepared (Nat.ne_of_gt hpos)
    refine ⟨?_, hfd⟩
    obtain ⟨S', hS', hQ'⟩ := quorum_members hP (fun pm : Base => pm.signers) _ ((hasQuorum_iff _ _).1 hqp)
      (fun j => P.honest j = true → Ev.P j rc.dataRound rc.root ∈ T)
      (fun pm hpmin sg hs => by
        obtain ⟨hident, hvalid⟩ := hpms pm hpmin
        obtain ⟨htype, hheight, hround, hroot, hsig, sg', e1, e2⟩ := validSignedPrepare_ok _ _ _ _ _ _ hvalid
        refine ⟨?_, fun j hj hh => ?_⟩
        · cases List.mem_singleton.1 (e1 ▸ hs); exact e2
        · obtain ⟨hP, _, _⟩ := hbj pm hpmin (hheight.trans hsh) hident hsig j hh (hj ▸ hs)
          exact hround ▸ hroot ▸ hP htype)
    exact pq_of_mem hk S' hS' hQ'
  · intro j hh hmem
    obtain ⟨_, _, hRC⟩ := hb ((validRC_height _ _ rc _ _ _ () hv).trans hsh) V.ident V.sigOk j hh hmem
    exact (show rc.toBase.round = r from V.round) ▸ hRC V.type

/-- H3 for a proposal a correct node accepts for a round above the first: the validated, authentic justification holds a
    quorum of round-changes; `S` is the set of their signers, `d j` the lock of one round-change `j` signed, and the value
    of the highest lock is the proposed one -/
theorem proposal_justified {P : Params} {hP : P.Valid} {T evs : List (Ev (Op P))} {i : Op P} {s : State} {m : Msg} {k : Nat}
    (hsh : s.height = P.height) (ha : M.AuthT P T m) (hv : isValidProposal (P.cfg i) s m = .ok ()) (hr1 : 1 < m.round)
    (hk : T.length ≤ k) :
    ∃ S d, QAbs.RCQ (ctxT P hP (T ++ evs)) k m.round S d ∧
      ((∀ j ∈ S, (d j).1 = 0) ∨ ∃ js ∈ S, (∀ j ∈ S, (d j).1 ≤ (d js).1) ∧ 0 < (d js).1 ∧ (d js).2 = m.root) := by
  classical
  obtain ⟨hroot, hjust⟩ := isValidProposal_just _ s m () hv
  have hrne : m.round ≠ firstRound := fun h => by
    rw [h] at hr1; exact absurd hr1 (by decide)
  obtain ⟨hrcs, hqrc⟩ := just_facts _ _ _ _ _ _ _ () hjust hrne
  obtain ⟨_, _, hauth⟩ := ha
  have hrc := fun rc hin =>
    rc_carries (hP := hP) (evs := evs) (hrcs rc hin) hsh (hauth rc hin).1 (hauth rc hin).2 hk
  obtain ⟨S, hS, hm⟩ := quorum_members hP (fun rc : Lvl1 => rc.signers) _ ((hasQuorum_iff _ _).1 hqrc)
    (fun j => ∃ rc, rc ∈ m.rcJust ∧ opId j ∈ rc.signers)
    (fun rc hin sg hs => by
      obtain ⟨sg', e1, e2⟩ := (hrc rc hin).1
      exact ⟨by cases List.mem_singleton.1 (e1 ▸ hs); exact e2, fun j hj => ⟨rc, hin, hj ▸ hs⟩⟩)
  -- every member of the quorum set reports the lock of one round-change it signed
  let d : Op P → Nat × Nat := fun j =>
    if hx : ∃ rc, rc ∈ m.rcJust ∧ opId j ∈ rc.signers then ((Classical.choose hx).dataRound, (Classical.choose hx).root)
    else (0, 0)
  have hd : ∀ j ∈ S, ∃ rc, rc ∈ m.rcJust ∧ opId j ∈ rc.signers ∧ d j = (rc.dataRound, rc.root) := fun j hj =>
    ⟨Classical.choose (hm j hj), (Classical.choose_spec (hm j hj)).1, (Classical.choose_spec (hm j hj)).2,
      dif_pos (hm j hj)⟩
  refine ⟨S, d, ⟨hS, ?_⟩, ?_⟩
  · intro j hj
    obtain ⟨rc, hin, hmem, hdj⟩ := hd j hj
    obtain ⟨_, hB, hC, hD⟩ := hrc rc hin
    rw [hdj]
    exact ⟨hB, fun hpos => (hC hpos).1, fun hbb =>
      before_of_mem (e := .RC j m.round rc.dataRound rc.root) (hD j ((honest_iff P hP _ j).1 hbb) hmem) hk⟩
  · have hne : S.Nonempty := Finset.card_pos.1 (Nat.lt_of_lt_of_le (Nat.succ_pos _) hS)
    obtain ⟨js, hjs, hmax⟩ := Finset.exists_max_image S (fun j => (d j).1) hne
    by_cases hz : (d js).1 = 0
    · exact .inl fun j hj => Nat.eq_zero_of_le_zero (hz ▸ hmax j hj)
    · refine .inr ⟨js, hjs, hmax, Nat.pos_of_ne_zero hz, ?_⟩
      obtain ⟨rc, hin, _, hdj⟩ := hd js hjs
      obtain ⟨_, _, hC, _⟩ := hrc rc hin
      rw [hdj] at hz ⊢
      exact (hC (Nat.pos_of_ne_zero hz)).2.symm.trans hroot

/-- the rules after a transition of one correct node at the height, for any predicate `A` on delivered messages that yields
    authenticity at the height. In each rule an event of the old trace is covered by the rule of the old trace, a new event by
    where it comes from (`NStep.origin`) and the node invariant before the step (H2: `commit_backed`, H3:
    `proposal_justified`); for H1, by the invariant of the new state. `os'` is read through `hpost` only, that is only when
    the transition emits a `P` event -/
theorem step_rules {P : Params} {hP : P.Valid} {T : List (Ev (Op P))} {A : Msg → Prop} {i : Op P}
    {os os' : Option State} {bs : List Msg} {evs : List (Ev (Op P))} (hA : ∀ m, A m → M.AuthT P T m)
    (hst : NStep (P.cfg i) P.height A i os os' bs evs) (hpre0 : ∀ s, os = some s → NodeInv P T i s)
    (R : QAbs.Rules (ctxT P hP T))
    (hpost : (∃ r v, Ev.P i r v ∈ evs) → ∀ s', os' = some s' → NodeInv P (T ++ evs) i s') :
    QAbs.Rules (ctxT P hP (T ++ evs)) where
  H1 := by
    intro i' r v v' k k' hb h h'
    have key : ∀ {kk vv}, QAbs.At (ctxT P hP (T ++ evs)) kk (.P i' r vv) →
        QAbs.At (ctxT P hP T) kk (.P i' r vv) ∨ (i' = i ∧ Ev.P i' r vv ∈ evs ∧ ∃ s', os' = some s') := by
      intro kk vv hh
      rcases at_cases (e := .P i' r vv) hh with ⟨_, hold⟩ | ⟨_, hnew⟩
      · exact Or.inl hold
      · have hm := getElem?_mem' hnew
        refine Or.inr ⟨(hst.origin hm).1, hm, ?_⟩
        cases hs' : os' with
        | some s' => exact ⟨s', rfl⟩
        | none =>
          obtain ⟨_, _, hevs⟩ := M.nstep_none hst hs'
          rw [hevs] at hm; cases hm
    have viaPost : ∀ {vv}, (i' = i ∧ Ev.P i' r vv ∈ evs ∧ ∃ s', os' = some s') → v = v' := by
      rintro vv ⟨rfl, hin, s', hs'⟩
      have hs := hpost ⟨r, vv, hin⟩ s' hs'
      obtain ⟨q, hq, hqr, hqv⟩ := hs.evProp r v (getElem?_mem' (at_P.1 h))
      obtain ⟨q', hq', hqr', hqv'⟩ := hs.evProp r v' (getElem?_mem' (at_P.1 h'))
      rw [← hqv, ← hqv']
      exact hs.propUniq q hq q' hq' (by rw [hqr, hqr'])
    rcases key h with h1 | h1
    · rcases key h' with h2 | h2
      · exact R.H1 i' r v v' k k' hb h1 h2
      · exact viaPost h2
    · exact viaPost h1
  H0 := by
    intro i' r v k hb h
    rcases at_cases (e := .K i' r v) h with ⟨_, hold⟩ | ⟨_, hnew⟩
    · exact R.H0 i' r v k hb hold
    · obtain ⟨rfl, _, s, m, p, h0, _, _, _, _, hr, _⟩ := hst.origin (e := .K i' r v) (getElem?_mem' hnew)
      have hpre := hpre0 s h0
      rw [hr]
      exact NodeInv.round hpre
  H2 := by
    intro i' r v k hb h
    rcases at_cases (e := .K i' r v) h with ⟨_, hold⟩ | ⟨hk, hnew⟩
    · rcases R.H2 i' r v k hb hold with hpq | ⟨⟨g, rc, h1, h2, h3⟩, r2, h4, hbf⟩
      · exact Or.inl (pq_ext hpq)
      · exact Or.inr ⟨⟨g, rc, h1, at_ext h2, h3⟩, r2, h4, before_ext hbf⟩
    · obtain ⟨rfl, _, s, m, p, h0, ha, hacc, hv, hq, hr, hvv⟩ := hst.origin (e := .K i' r v) (getElem?_mem' hnew)
      rw [hr, hvv]
      exact commit_backed (hpre0 s h0) (hA m ha) hacc hv hq hk
  H3 := by
    intro i' r v k hb h hr1
    rcases at_cases (e := .P i' r v) h with ⟨_, hold⟩ | ⟨hk, hnew⟩
    · obtain ⟨S, d, hrcq, hcase⟩ := R.H3 i' r v k hb hold hr1
      exact ⟨S, d, rcq_ext hrcq, hcase⟩
    · obtain ⟨rfl, _, s, m, h0, ha, hv, hr, hvv⟩ := hst.origin (e := .P i' r v) (getElem?_mem' hnew)
      rw [hr, hvv]
      exact proposal_justified (hpre0 s h0).height (hA m ha) hv (hr ▸ hr1) hk
  H4 := by
    intro i' r v r' pr pv k1 k2 hb hK hRC hlt hrr hyp
    rcases at_cases (e := .RC i' r' pr pv) hRC with ⟨hk2, hold⟩ | ⟨hk2, hnew⟩
    · exact R.H4 i' r v r' pr pv k1 k2 hb (at_old hK (Nat.lt_trans hlt hk2)) hold hlt hrr
        (fun g rc h1 h2 hG => hyp g rc h1 h2 (at_ext hG))
    · obtain ⟨rfl, hevs, s, h0, _, hpr⟩ := hst.origin (e := .RC i' r' pr pv) (getElem?_mem' hnew)
      have hpre := hpre0 s h0
      -- the step's only event is the round-change: it sits at the end, the commit lies in the old trace
      rw [hevs] at hRC hK
      have hk2' : k2 = T.length :=
        ((getElem?_append_single (at_RC.1 hRC)).resolve_left (fun h => absurd (getElem?_lt h) (Nat.not_lt.2 hk2))).1
      have hKold := (getElem?_append_single (at_K.1 hK)).resolve_right (fun h => nomatch h.2)
      have hr1 : 1 ≤ r := R.H0 i' r v k1 hb (at_iff.2 hKold)
      have hl := (NodeInv.kLock hpre k1 r v hKold (fun g rc h1 hG =>
        hyp g rc h1 (hk2' ▸ getElem?_lt hG) (at_iff.2 (getElem?_append_old hG)))).2
      have hne : s.lastPreparedRound ≠ 0 := Nat.ne_of_gt (Nat.lt_of_lt_of_le hr1 hl)
      rw [hpr, createRoundChange_dataRound, if_pos ⟨hne, NodeInv.lock hpre hne⟩]
      exact hl
  H5 := by
    intro i' r v r' pr pv k1 k2 hb hRC hK hlt hrr
    rcases at_cases (e := .K i' r v) hK with ⟨hk2, hold⟩ | ⟨hk2, hnew⟩
    · obtain ⟨g, rc, h1, h2, h3, h4⟩ := R.H5 i' r v r' pr pv k1 k2 hb (at_old hRC (Nat.lt_trans hlt hk2)) hold hlt hrr
      exact ⟨g, rc, h1, h2, at_ext h3, h4⟩
    · obtain ⟨rfl, hevs, s, m, p, h0, _, _, _, _, hr, _⟩ := hst.origin (e := .K i' r v) (getElem?_mem' hnew)
      have hpre := hpre0 s h0
      -- the round-change lies in the old trace: the step's only event is the commit
      rw [hevs] at hRC
      have hRCold := (getElem?_append_single (at_RC.1 hRC)).resolve_right (fun h => nomatch h.2)
      rcases NodeInv.rcRound hpre k1 r' pr pv hRCold with hle | ⟨g, rc, h1, h2, h3⟩
      · exact absurd (hr ▸ hrr) (Nat.not_lt.2 hle)
      · exact ⟨g, rc, h1, Nat.lt_of_lt_of_le (getElem?_lt h2) hk2, at_iff.2 (getElem?_append_old h2), hr ▸ h3⟩
  H6 := by
    intro i' rc k hb h
    rcases at_cases (e := .G i' rc) h with ⟨_, hold⟩ | ⟨hk, hnew⟩
    · obtain ⟨v, hkq⟩ := R.H6 i' rc k hb hold
      exact ⟨v, kq_ext hkq⟩
    · obtain ⟨rfl, m, ha, hv, hh, hr, _⟩ := hst.origin (e := .G i' rc) (getElem?_mem' hnew)
      obtain ⟨hid, hbase, _⟩ := hA m ha
      have cf := M.cert_facts hP i' m hv hh hid hbase
      rw [hr]
      exact ⟨m.root, kq_of_cert hP cf hk⟩
  H7 := by
    intro i' r v k hb h
    rcases at_cases (e := .D i' r v) h with ⟨_, hold⟩ | ⟨hk, hnew⟩
    · exact kq_ext (R.H7 i' r v k hb hold)
    · -- an adopted decided message, or a local commit quorum
      obtain ⟨rfl, hcase⟩ := hst.origin (e := .D i' r v) (getElem?_mem' hnew)
      rcases hcase with ⟨m, ha, hv, hh, hr, hvv⟩ | ⟨s, m, p, agg, h0, ha, hacc, hv, hq, hagg, hr, hvv⟩
      · obtain ⟨hid, hbase, _⟩ := hA m ha
        have cf := M.cert_facts hP i' m hv hh hid hbase
        rw [hr, hvv, cf.hash]
        exact kq_of_cert hP cf (Nat.le_succ_of_le hk)
      · rw [hr, hvv]
        exact kq_of_local hP i' s (hpre0 s h0) m p agg (hA m ha) hacc hv hq hagg (Nat.le_succ_of_le hk)

/-- Layer A's agreement on a trace that satisfies the rules: two decisions reported by correct operators have one value -/
theorem agreement_of_rules {P : Params} {hP : P.Valid} {T : List (Ev (Op P))} (R : QAbs.Rules (ctxT P hP T)) {i j : Op P}
    {r r' v v' : Nat} (hi : P.honest i = true) (hj : P.honest j = true) (hm : Ev.D i r v ∈ T) (hm' : Ev.D j r' v' ∈ T) :
    v = v' := by
  obtain ⟨k, hk⟩ := List.getElem?_of_mem hm
  obtain ⟨k', hk'⟩ := List.getElem?_of_mem hm'
  exact QAbs.agreement R ((honest_iff P hP _ i).2 hi) ((honest_iff P hP _ j).2 hj) (at_D.2 hk) (at_D.2 hk')

theorem rules_nil (P : Params) (hP : P.Valid) : QAbs.Rules (ctxT P hP []) := by
  have hno : ∀ {k : Nat} {q : QAbs.Ev (Op P)}, ¬ QAbs.At (ctxT P hP []) k q := fun h => Nat.not_lt_zero _ (at_lt h)
  exact {
    H1 := fun _ _ _ _ _ _ _ h => absurd h hno
    H0 := fun _ _ _ _ _ h => absurd h hno
    H2 := fun _ _ _ _ _ h => absurd h hno
    H3 := fun _ _ _ _ _ h => absurd h hno
    H4 := fun _ _ _ _ _ _ _ _ _ h => absurd h hno
    H5 := fun _ _ _ _ _ _ _ _ _ h => absurd h hno
    H6 := fun _ _ _ _ h => absurd h hno
    H7 := fun _ _ _ _ _ h => absurd h hno }

end Ssv.Qbft.B
