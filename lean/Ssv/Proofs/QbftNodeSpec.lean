/-
C01 Layer B, part 1 — transition specifications of the instance functions (`processMsg`, `uponRoundTimeout`, `start`):
every step is one of a small number of exact state updates with an exact description of what was broadcast.
All later invariants reason on these cases and never unfold the instance functions again. Core Lean only.
-/
import Ssv.Model.Qbft.SystemB
import Ssv.Proofs.QbftFaultFree
import Ssv.Proofs.QbftCompact
import Ssv.Common.Lemmas

namespace Ssv.Qbft.B
open Ssv.Qbft

theorem bcasts_append (a b : List Out) : bcasts (a ++ b) = bcasts a ++ bcasts b := by
  induction a with
  | nil => rfl
  | cons o rest ih => cases o <;> simp [bcasts, ih]

@[simp] theorem bcasts_nil : bcasts [] = [] := rfl
@[simp] theorem bcasts_timer (h r : Nat) : bcasts [.timer h r] = [] := rfl
@[simp] theorem bcasts_bcast (m : Msg) : bcasts [.bcast m] = [m] := rfl

theorem outEvents_append {N : Type} (i : N) (a b : List Out) : outEvents i (a ++ b) = outEvents i a ++ outEvents i b := by
  induction a with
  | nil => rfl
  | cons o rest ih => cases o <;> simp [outEvents, ih]

theorem outEvents_inst {N : Type} (i : N) (l : List Out) (h : OutsInst l) : outEvents i l = (bcasts l).flatMap (msgEvents i) := by
  induction l with
  | nil => rfl
  | cons o rest ih =>
    have hr : OutsInst rest := fun x hx => h x (List.mem_cons_of_mem _ hx)
    rcases h o List.mem_cons_self with ⟨m, rfl⟩ | ⟨a, b, rfl⟩
    · simp [outEvents, bcasts, ih hr]
    · simp [outEvents, bcasts, ih hr]

theorem sendOr_bcasts (cfg : Cfg) (s : State) (a : Atom) (m : Msg) (pre : List Out) :
    bcasts (sendOr cfg s a m pre).outs = bcasts pre ∨ bcasts (sendOr cfg s a m pre).outs = bcasts pre ++ [m] := by
  unfold sendOr broadcast
  by_cases hc : canProcess cfg s = true
  · right; simp [hc, wrap, okStep, bcasts_append, pure, Except.pure]
  · left
    have hc' : canProcess cfg s = false := by simpa using hc
    simp [hc', wrap, fail, failStep]

theorem bcasts_failStep (s : State) (f : Fail) : bcasts (failStep s [] f).outs = [] := by cases f <;> rfl

theorem broadcast_bcasts (cfg : Cfg) (s : State) (m : Msg) (o : List Out) (h : broadcast cfg s m = .ok o) : bcasts o = [m] := by
  unfold broadcast at h
  split at h
  · simp [pure, Except.pure] at h; subst h; rfl
  · simp [fail] at h

theorem addFirst_cases (c : Container) (m : Msg) :
    ((addFirst c m).2 = false ∧ (addFirst c m).1 = c) ∨
    ((addFirst c m).2 = true ∧ (addFirst c m).1 = c ++ [m] ∧
      ∀ e ∈ c, e.round = m.round → matchedSigners e.signers m.signers = false) := by
  unfold addFirst
  split
  · left; exact ⟨rfl, rfl⟩
  · rename_i h
    right
    refine ⟨rfl, rfl, ?_⟩
    intro e he hr
    simp only [List.any_eq_true, not_exists, not_and, Bool.not_eq_true] at h
    apply h e
    unfold forRound
    exact List.mem_filter.2 ⟨he, by simpa using hr⟩

theorem uponProposal_spec (cfg : Cfg) (s : State) (m : Msg) :
    ((uponProposal cfg s m).st = s ∧ bcasts (uponProposal cfg s m).outs = [] ∧ NoAgg (uponProposal cfg s m)) ∨
    ((∀ e ∈ s.propose, e.round = m.round → matchedSigners e.signers m.signers = false) ∧
     (uponProposal cfg s m).st = { s with propose := s.propose ++ [m], accepted := some m, round := m.round } ∧
     (bcasts (uponProposal cfg s m).outs = [] ∨
      bcasts (uponProposal cfg s m).outs = [createPrepare cfg s m.round (hashData m.fullData)]) ∧
     NoAgg (uponProposal cfg s m)) := by
  generalize hst : uponProposal cfg s m = st
  unfold uponProposal at hst
  rcases addFirst_cases s.propose m with ⟨h2, h1⟩ | ⟨h2, h1, hnew⟩
  · simp only [h2, h1, Bool.not_false, if_true] at hst
    subst hst; exact .inl ⟨rfl, rfl, okStep_noAgg _ _⟩
  · simp only [h2, h1, Bool.not_true, Bool.false_eq_true, if_false] at hst
    subst hst
    refine .inr ⟨hnew, sendOr_st _ _ _ _ _, ?_, sendOr_noAgg _ _ _ _ _⟩
    have hpre : bcasts (if m.round > s.round then [Out.timer m.height m.round] else []) = [] := by
      split <;> rfl
    rcases sendOr_bcasts cfg _ .bcastPrepareFailed (createPrepare cfg _ m.round (hashData m.fullData))
      (if m.round > s.round then [Out.timer m.height m.round] else []) with h | h
    · exact .inl (h.trans hpre)
    · exact .inr (h.trans (by rw [hpre]; rfl))

theorem uponPrepare_spec (cfg : Cfg) (s : State) (m : Msg) (p : Msg) (hacc : s.accepted = some p) :
    ((uponPrepare cfg s m).st = s ∧ bcasts (uponPrepare cfg s m).outs = [] ∧ NoAgg (uponPrepare cfg s m)) ∨
    ((uponPrepare cfg s m).st = { s with prepare := s.prepare ++ [m] } ∧ bcasts (uponPrepare cfg s m).outs = [] ∧
      NoAgg (uponPrepare cfg s m)) ∨
    (cfg.hasQuorum (signersOf (forRound (s.prepare ++ [m]) s.round)) = true ∧
     (uponPrepare cfg s m).st = { s with prepare := s.prepare ++ [m], lastPreparedValue := p.fullData, lastPreparedRound := s.round } ∧
     (bcasts (uponPrepare cfg s m).outs = [] ∨
      bcasts (uponPrepare cfg s m).outs = [createCommit cfg s p.root]) ∧
     NoAgg (uponPrepare cfg s m)) := by
  generalize hst : uponPrepare cfg s m = st
  unfold uponPrepare at hst
  rcases addFirst_cases s.prepare m with ⟨h2, h1⟩ | ⟨h2, h1, _⟩
  · simp only [h2, h1, Bool.not_false, if_true] at hst
    subst hst; exact .inl ⟨rfl, rfl, okStep_noAgg _ _⟩
  simp only [h2, h1, Bool.not_true, Bool.false_eq_true, if_false] at hst
  rcases ite_eq_cases hst with ⟨_, rfl⟩ | ⟨_, hst⟩
  · exact .inr (.inl ⟨rfl, rfl, okStep_noAgg _ _⟩)
  rcases ite_eq_cases hst with ⟨_, rfl⟩ | ⟨hq, hst⟩
  · exact .inr (.inl ⟨rfl, rfl, okStep_noAgg _ _⟩)
  rw [hacc] at hst; subst hst
  exact .inr (.inr ⟨by simpa using hq, (sendOr_st _ _ _ _ _).trans (by rw [hacc]), sendOr_bcasts cfg _ .bcastCommitFailed _ [],
    sendOr_noAgg _ _ _ _ _⟩)

theorem uponCommit_spec (cfg : Cfg) (s : State) (m : Msg) (p : Msg) (hacc : s.accepted = some p) :
    ((uponCommit cfg s m).st = s ∧ (uponCommit cfg s m).outs = [] ∧ NoAgg (uponCommit cfg s m)) ∨
    ((uponCommit cfg s m).st = { s with commit := s.commit ++ [m] } ∧ (uponCommit cfg s m).outs = [] ∧
      NoAgg (uponCommit cfg s m)) ∨
    (∃ agg, cfg.quorum ≤ (longestUniqueSigners (s.commit ++ [m]) m.round m.root).1.length ∧
      aggregateCommitMsgs (longestUniqueSigners (s.commit ++ [m]) m.round m.root).2 p.fullData = .ok agg ∧
      (uponCommit cfg s m).st = { s with commit := s.commit ++ [m], decided := true, decidedValue := p.fullData } ∧
      (uponCommit cfg s m).outs = [] ∧ (uponCommit cfg s m).res = .ok true p.fullData (some agg)) := by
  -- `s.accepted` also occurs inside every updated state; with `s` taken apart, `subst` replaces it there as well
  obtain ⟨_, _, _, _, accepted, _, _, _, _, commit, _, _, _, _⟩ := s
  simp only at hacc
  subst hacc
  unfold uponCommit
  rcases addFirst_cases commit m with ⟨h2, h1⟩ | ⟨h2, h1, _⟩
  · left
    simp only [h2, h1, Bool.not_false, if_true]
    exact ⟨rfl, rfl, okStep_noAgg _ _⟩
  · right
    simp only [h2, h1, Bool.not_true, Bool.false_eq_true, if_false]
    split
    · left; exact ⟨rfl, rfl, okStep_noAgg _ _⟩
    · rename_i hq
      cases hagg : wrap Atom.aggregateFailed (aggregateCommitMsgs (longestUniqueSigners (commit ++ [m]) m.round m.root).2 p.fullData) with
      | error f =>
        left
        simp only
        exact ⟨failStep_st _ _ _, by cases f <;> rfl, failStep_noAgg _ _ _⟩
      | ok agg =>
        right
        simp only
        exact ⟨agg, by simpa using hq, by simpa using hagg, trivial, trivial, rfl⟩

/-- `CreateRoundChange` reads only the lock, the height and the prepare container -/
theorem createRoundChange_congr (cfg : Cfg) (s s' : State) (r : Nat) (h1 : s'.lastPreparedRound = s.lastPreparedRound)
    (h2 : s'.lastPreparedValue = s.lastPreparedValue) (h3 : s'.height = s.height) (h4 : s'.prepare = s.prepare) :
    createRoundChange cfg s' r = createRoundChange cfg s r := by
  unfold createRoundChange getRoundChangeJustification
  rw [h1, h2, h3, h4]

theorem partialQuorum_spec (cfg : Cfg) (s : State) (r : Nat) :
    (uponChangeRoundPartialQuorum cfg s r).st = { s with round := r, accepted := none } ∧
    (bcasts (uponChangeRoundPartialQuorum cfg s r).outs = [] ∨
     bcasts (uponChangeRoundPartialQuorum cfg s r).outs = [createRoundChange cfg s r]) ∧
    NoAgg (uponChangeRoundPartialQuorum cfg s r) := by
  unfold uponChangeRoundPartialQuorum
  refine ⟨sendOr_st _ _ _ _ _, ?_, sendOr_noAgg _ _ _ _ _⟩
  rw [← createRoundChange_congr cfg s { s with round := r, accepted := none } r rfl rfl rfl rfl]
  exact sendOr_bcasts cfg _ .bcastRoundChangeFailed _ [.timer s.height r]

/-- the result `r` of a search for a justified round-change: what is found satisfies `A`, and the search fails only by
    panicking -/
structure FindSpec (r : V (Option (Msg × Nat))) (A : Msg → Nat → Prop) : Prop where
  found : ∀ j v, r = .ok (some (j, v)) → A j v
  failed : ∀ f, r = .error f → f = .panic

theorem findJustified_spec (cfg : Cfg) (s : State) (trigger : Msg) (rcs : List Msg) (l : List Msg) :
    FindSpec (findJustified cfg s trigger rcs l)
      (fun j v => j ∈ l ∧ isProposalJustificationForLeadingRound cfg s j rcs v trigger.round = .ok ()) := by
  induction l with
  | nil => constructor <;> intro _ <;> simp [findJustified, pure, Except.pure]
  | cons a rest ih =>
    unfold findJustified
    simp only
    split
    · rename_i hok
      refine ⟨?_, fun f h => nomatch h⟩
      intro j v h
      simp only [pure, Except.pure, Except.ok.injEq, Option.some.injEq, Prod.mk.injEq] at h
      obtain ⟨rfl, rfl⟩ := h
      exact ⟨List.mem_cons_self, hok⟩
    · exact ⟨fun j v h => (nomatch h), by intro f h; injection h with h; exact h.symm⟩
    · exact ⟨fun j v h => (ih.found j v h).imp_left (List.mem_cons_of_mem _), ih.failed⟩

theorem hasReceived_spec (cfg : Cfg) (s : State) (trigger : Msg) :
    FindSpec (hasReceivedProposalJustification cfg s trigger) (fun j v =>
      cfg.hasQuorum (signersOf (forRound s.roundChange trigger.round)) = true ∧ j ∈ forRound s.roundChange trigger.round ∧
      isProposalJustificationForLeadingRound cfg s j (forRound s.roundChange trigger.round) v trigger.round = .ok ()) := by
  unfold hasReceivedProposalJustification
  simp only
  split
  · constructor <;> intro _ <;> simp [pure, Except.pure]
  · rename_i hq
    have h := findJustified_spec cfg s trigger (forRound s.roundChange trigger.round) (forRound s.roundChange trigger.round)
    exact ⟨fun j v hj => ⟨by simpa using hq, h.found j v hj⟩, h.failed⟩

/-- `hasReceivedPartialQuorum`'s list: stored round-changes for rounds above the current one -/
def higherRc (s : State) : List Msg := s.roundChange.filter (fun x => Nat.blt s.round x.round)

/-- `s` with the round-change `m` stored (`AddFirstMsgForSignerAndRound`) -/
def storeRc (s : State) (m : Msg) : State := { s with roundChange := (addFirst s.roundChange m).1 }

/-- what `uponRoundChange` does, case by case: post-state, broadcasts, and that no aggregate is returned -/
inductive RcStep (cfg : Cfg) (s : State) (m : Msg) (st : Step) : Prop
  /-- the signer already has a round-change for this round in the container -/
  | dup (h1 : st.st = s) (h2 : bcasts st.outs = []) (h3 : NoAgg st)
  /-- the round had its quorum before this message -/
  | late (hq : cfg.hasQuorum (signersOf (forRound s.roundChange m.round)) = true)
      (h1 : st.st = storeRc s m) (h2 : bcasts st.outs = []) (h3 : NoAgg st)
  /-- the leader computation panicked -/
  | panic (h : st.res = .panic) (h1 : st.st = storeRc s m) (h2 : bcasts st.outs = [])
  /-- a justified round-change was found: proposal for `State.Round` -/
  | propose (j : Msg) (v : Nat)
      (hj : hasReceivedProposalJustification cfg (storeRc s m) m = .ok (some (j, v)))
      (h1 : st.st = storeRc s m)
      (h2 : bcasts st.outs = [] ∨ bcasts st.outs =
        [createProposal cfg (storeRc s m) v
          (forRound (addFirst s.roundChange m).1 s.round) j.rcJust]) (h3 : NoAgg st)
  /-- f+1 round-changes for higher rounds: jump to the lowest of them -/
  | jump (hpq : cfg.hasPartialQuorum (signersOf (higherRc (storeRc s m))) = true)
      (hR : s.round < minRound (higherRc (storeRc s m)))
      (h1 : st.st = { storeRc s m with round := minRound (higherRc (storeRc s m)), accepted := none })
      (h2 : bcasts st.outs = [] ∨ bcasts st.outs =
        [createRoundChange cfg s (minRound (higherRc (storeRc s m)))]) (h3 : NoAgg st)
  /-- nothing further happens -/
  | stay (hpq : cfg.hasPartialQuorum (signersOf (higherRc (storeRc s m))) = true →
        minRound (higherRc (storeRc s m)) ≤ s.round)
      (h1 : st.st = storeRc s m) (h2 : bcasts st.outs = []) (h3 : NoAgg st)

theorem uponRoundChange_cases (cfg : Cfg) (s : State) (m : Msg) : RcStep cfg s m (uponRoundChange cfg s m) := by
  unfold uponRoundChange
  simp only
  rw [show ({ s with roundChange := (addFirst s.roundChange m).1 } : State) = storeRc s m from rfl]
  cases (addFirst s.roundChange m).2 with
  | false => exact .dup rfl rfl (okStep_noAgg _ _)
  | true =>
    cases hq : cfg.hasQuorum (signersOf (forRound s.roundChange m.round)) with
    | true => exact .late hq rfl rfl (okStep_noAgg _ _)
    | false =>
      cases hj : hasReceivedProposalJustification cfg (storeRc s m) m with
      | error f =>
        rw [(hasReceived_spec cfg _ m).failed f hj]
        exact .panic rfl rfl rfl
      | ok o =>
        cases o with
        | some jv => exact .propose jv.1 jv.2 hj (sendOr_st _ _ _ _ _) (sendOr_bcasts _ _ _ _ _) (sendOr_noAgg _ _ _ _ _)
        | none =>
          rw [show List.filter (fun x => Nat.blt s.round x.round) (addFirst s.roundChange m).1 =
            higherRc (storeRc s m) from rfl]
          cases hpq : cfg.hasPartialQuorum (signersOf (higherRc (storeRc s m))) with
          | false => exact .stay (fun h => absurd (hpq.symm.trans h) Bool.false_ne_true) rfl rfl (okStep_noAgg _ _)
          | true =>
            by_cases hle : minRound (higherRc (storeRc s m)) ≤ s.round
            · have e : ∀ (a b : Step), (if minRound (higherRc (storeRc s m)) ≤ s.round then a else b) = a :=
                fun a b => if_pos hle
              rw [e]; exact .stay (fun _ => hle) rfl rfl (okStep_noAgg _ _)
            · obtain ⟨h1, h2, h3⟩ := partialQuorum_spec cfg (storeRc s m)
                (minRound (higherRc (storeRc s m)))
              rw [createRoundChange_congr cfg s (storeRc s m) _ rfl rfl rfl rfl] at h2
              have e : ∀ (a b : Step), (if minRound (higherRc (storeRc s m)) ≤ s.round then a else b) = b :=
                fun a b => if_neg hle
              rw [e]; exact .jump hpq (Nat.lt_of_not_le hle) h1 h2 h3

/-- a round-change either only extends the round-change container (possibly broadcasting a proposal), or additionally
    jumps to a higher round, clearing the accepted proposal and broadcasting a round-change for that round -/
theorem uponRoundChange_spec (cfg : Cfg) (s : State) (m : Msg) :
    (∃ X, (uponRoundChange cfg s m).st = { s with roundChange := X } ∧
      (∀ x ∈ bcasts (uponRoundChange cfg s m).outs, x.type = tProposal ∧ x.signers = [cfg.own] ∧ x.height = s.height) ∧
      NoAgg (uponRoundChange cfg s m)) ∨
    (∃ X R, s.round < R ∧ (uponRoundChange cfg s m).st = { s with roundChange := X, round := R, accepted := none } ∧
      (bcasts (uponRoundChange cfg s m).outs = [] ∨
       bcasts (uponRoundChange cfg s m).outs = [createRoundChange cfg s R]) ∧ NoAgg (uponRoundChange cfg s m)) := by
  cases uponRoundChange_cases cfg s m with
  | dup h1 h2 h3 => exact .inl ⟨s.roundChange, h1, by rw [h2]; nofun, h3⟩
  | late _ h1 h2 h3 | stay _ h1 h2 h3 => exact .inl ⟨_, h1, by rw [h2]; nofun, h3⟩
  | panic h h1 h2 => exact .inl ⟨_, h1, by rw [h2]; nofun, fun d v a e => by rw [h] at e; cases e⟩
  | propose j v _ h1 h2 h3 =>
    refine .inl ⟨_, h1, fun x hx => ?_, h3⟩
    rcases h2 with h2 | h2 <;> rw [h2] at hx
    · cases hx
    · cases List.mem_singleton.1 hx; exact ⟨rfl, rfl, rfl⟩
  | jump _ hR h1 h2 h3 => exact .inr ⟨_, _, hR, h1, h2, h3⟩

theorem baseMsgValidation_prepare (cfg : Cfg) (s : State) (m : Msg) (u : Unit) (ht : m.type = tPrepare)
    (h : baseMsgValidation cfg s m = .ok u) :
    ∃ p, s.accepted = some p ∧ validSignedPrepare cfg m.toBase s.height s.round p.root = .ok () := by
  unfold baseMsgValidation at h
  simp only [bind_eq_ok, rejectIf_eq_ok, wrap_eq_ok] at h
  obtain ⟨_, _, _, _, hdispatch⟩ := h
  have e0 : (m.type == tProposal) = false := by rw [ht]; decide
  have e1 : (m.type == tPrepare) = true := by rw [ht]; decide
  simp only [e0, e1, if_true, Bool.false_eq_true, if_false] at hdispatch
  split at hdispatch
  · simp at hdispatch
  · rename_i p hp; exact ⟨p, hp, hdispatch⟩

/-- every instance step is one of these exact updates (`m` is the delivered message; unused for timeouts) -/
inductive ISpec (cfg : Cfg) (s : State) (m : Msg) (st : Step) : Prop
  | noop (h1 : st.st = s) (h2 : bcasts st.outs = []) (h3 : NoAgg st)
  | prop (hv : isValidProposal cfg s m = .ok ())
      (hnew : ∀ e ∈ s.propose, e.round = m.round → matchedSigners e.signers m.signers = false)
      (h1 : st.st = { s with propose := s.propose ++ [m], accepted := some m, round := m.round })
      (h2 : bcasts st.outs = [] ∨ bcasts st.outs = [createPrepare cfg s m.round (hashData m.fullData)]) (h3 : NoAgg st)
  | prep (p : Msg) (hacc : s.accepted = some p)
      (hv : validSignedPrepare cfg m.toBase s.height s.round p.root = .ok ())
      (h1 : st.st = { s with prepare := s.prepare ++ [m] }) (h2 : bcasts st.outs = []) (h3 : NoAgg st)
  | prepQ (p : Msg) (hacc : s.accepted = some p)
      (hv : validSignedPrepare cfg m.toBase s.height s.round p.root = .ok ())
      (hq : cfg.hasQuorum (signersOf (forRound (s.prepare ++ [m]) s.round)) = true)
      (h1 : st.st = { s with prepare := s.prepare ++ [m], lastPreparedValue := p.fullData, lastPreparedRound := s.round })
      (h2 : bcasts st.outs = [] ∨ bcasts st.outs = [createCommit cfg s p.root]) (h3 : NoAgg st)
  | com (p : Msg) (hacc : s.accepted = some p)
      (hv : validateCommit cfg m.toBase s.height s.round p = .ok ())
      (h1 : st.st = { s with commit := s.commit ++ [m] }) (h2 : st.outs = []) (h3 : NoAgg st)
  | comQ (p agg : Msg) (hacc : s.accepted = some p)
      (hv : validateCommit cfg m.toBase s.height s.round p = .ok ())
      (hq : cfg.quorum ≤ (longestUniqueSigners (s.commit ++ [m]) m.round m.root).1.length)
      (hagg : aggregateCommitMsgs (longestUniqueSigners (s.commit ++ [m]) m.round m.root).2 p.fullData = .ok agg)
      (h1 : st.st = { s with commit := s.commit ++ [m], decided := true, decidedValue := p.fullData })
      (h2 : st.outs = []) (h3 : st.res = .ok true p.fullData (some agg))
  | rc (X : Container) (h1 : st.st = { s with roundChange := X })
      (h2 : ∀ x ∈ bcasts st.outs, x.type = tProposal ∧ x.signers = [cfg.own] ∧ x.height = s.height) (h3 : NoAgg st)
  | jump (X : Container) (R : Nat) (hR : s.round < R)
      (h1 : st.st = { s with roundChange := X, round := R, accepted := none })
      (h2 : bcasts st.outs = [] ∨ bcasts st.outs = [createRoundChange cfg s R]) (h3 : NoAgg st)

theorem processMsg_stopped {cfg : Cfg} {s : State} (m : Msg) (h : canProcess cfg s = false) :
    processMsg cfg s m = ⟨s, [], .err [.stopped]⟩ := by
  unfold processMsg; rw [h]; rfl

theorem processMsg_invalid {cfg : Cfg} {s : State} {m : Msg} {f : Fail} (h : canProcess cfg s = true)
    (hv : baseMsgValidation cfg s m = .error f) : ∃ f', processMsg cfg s m = failStep s [] f' := by
  unfold processMsg; rw [h, hv]
  cases f with
  | tag t => exact ⟨.tag (.invalidSigned :: t), rfl⟩
  | panic => exact ⟨.panic, rfl⟩

theorem processMsg_valid {cfg : Cfg} {s : State} {m : Msg} {u : Unit} (h : canProcess cfg s = true)
    (hv : baseMsgValidation cfg s m = .ok u) :
    processMsg cfg s m =
      if m.type == tProposal then uponProposal cfg s m
      else if m.type == tPrepare then uponPrepare cfg s m
      else if m.type == tCommit then uponCommit cfg s m
      else if m.type == tRoundChange then uponRoundChange cfg s m
      else ⟨s, [], .err [.typeNotSupported]⟩ := by
  unfold processMsg; rw [h, hv]; rfl

theorem processMsg_spec (cfg : Cfg) (s : State) (m : Msg) : ISpec cfg s m (processMsg cfg s m) := by
  cases hcp : canProcess cfg s with
  | false => rw [processMsg_stopped m hcp]; exact .noop rfl rfl (by intro d v a h; cases h)
  | true =>
    cases hbv : baseMsgValidation cfg s m with
    | error f =>
      obtain ⟨f', e⟩ := processMsg_invalid hcp hbv
      rw [e]; exact .noop (failStep_st _ _ _) (bcasts_failStep _ _) (failStep_noAgg _ _ _)
    | ok u =>
      rw [processMsg_valid hcp hbv]
      by_cases h0 : m.type = tProposal
      · rw [if_pos (beq_iff_eq.2 h0)]
        have hv := baseMsgValidation_proposal cfg s m u h0 hbv
        rcases uponProposal_spec cfg s m with ⟨a, b, c⟩ | ⟨a, b, c, d⟩
        · exact .noop a b c
        · exact .prop hv a b c d
      rw [if_neg (mt beq_iff_eq.1 h0)]
      by_cases h1 : m.type = tPrepare
      · rw [if_pos (beq_iff_eq.2 h1)]
        obtain ⟨p, hacc, hv⟩ := baseMsgValidation_prepare cfg s m u h1 hbv
        rcases uponPrepare_spec cfg s m p hacc with ⟨a, b, c⟩ | ⟨a, b, c⟩ | ⟨a, b, c, d⟩
        · exact .noop a b c
        · exact .prep p hacc hv a b c
        · exact .prepQ p hacc hv a b c d
      rw [if_neg (mt beq_iff_eq.1 h1)]
      by_cases h2 : m.type = tCommit
      · rw [if_pos (beq_iff_eq.2 h2)]
        obtain ⟨p, hacc, hv⟩ := baseMsgValidation_commit cfg s m u h2 hbv
        rcases uponCommit_spec cfg s m p hacc with ⟨a, b, c⟩ | ⟨a, b, c⟩ | ⟨agg, a, b, c, d, e⟩
        · exact .noop a (by rw [b]; rfl) c
        · exact .com p hacc hv a b c
        · exact .comQ p agg hacc hv a b c d e
      rw [if_neg (mt beq_iff_eq.1 h2)]
      by_cases h3 : m.type = tRoundChange
      · rw [if_pos (beq_iff_eq.2 h3)]
        rcases uponRoundChange_spec cfg s m with ⟨X, a, b, c⟩ | ⟨X, R, a, b, c, d⟩
        · exact .rc X a b c
        · exact .jump X R a b c d
      · rw [if_neg (mt beq_iff_eq.1 h3)]; exact .noop rfl rfl (by intro d v a h; cases h)

theorem uponRoundTimeout_stopped {cfg : Cfg} {s : State} (h : canProcess cfg s = false) :
    uponRoundTimeout cfg s = ⟨s, [], .err [.stoppedTimeouts]⟩ := by
  unfold uponRoundTimeout; rw [h]; rfl

theorem uponRoundTimeout_spec (cfg : Cfg) (s : State) (m : Msg) : ISpec cfg s m (uponRoundTimeout cfg s) := by
  by_cases hcp : canProcess cfg s = true
  · rw [uponRoundTimeout_progress cfg s hcp]
    exact .jump s.roundChange (s.round + 1) (Nat.lt_succ_self _) rfl (Or.inr rfl) (by intro d v a; simp)
  · rw [uponRoundTimeout_stopped (Bool.eq_false_iff.2 hcp)]
    exact .noop rfl rfl (by intro d v a; simp)

theorem start_spec (cfg : Cfg) (h v : Nat) :
    ((start cfg (newInstance h) v h).st = { newInstance h with started := true, startValue := v }) ∧
    (∀ x ∈ bcasts (start cfg (newInstance h) v h).outs, x.type = tProposal ∧ x.signers = [cfg.own] ∧ x.height = h) ∧
    OutsInst (start cfg (newInstance h) v h).outs := by
  refine ⟨?_, ?_, outsInst_start cfg _ v h⟩
  · unfold start
    simp only [newInstance, Bool.false_eq_true, if_false]
    split
    · rfl
    · split
      · split <;> rfl
      · rfl
  · unfold start
    simp only [newInstance, Bool.false_eq_true, if_false]
    intro x hx
    split at hx
    · simp [bcasts] at hx
    · split at hx
      · split at hx
        · rename_i o ho
          have hb := broadcast_bcasts _ _ _ _ ho
          simp [okStep, hb, bcasts] at hx
          rw [hx]; exact ⟨rfl, rfl, rfl⟩
        · simp [okStep] at hx
      · simp [okStep] at hx

end Ssv.Qbft.B
