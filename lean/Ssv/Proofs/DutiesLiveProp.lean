/- Exactly-once-if-fetched for the proposer handler, under `envOK`. -/
import Ssv.Proofs.DutiesLive

namespace Ssv.Duties

/-- the proposer handler fetches the epoch of the tick only: nothing is owed beyond the current epoch, and that one
    is covered unless the next tick fetches first -/
structure PInv (n : Net) (st : HState) (m : DMon) (now : Nat) : Prop where
  ok : m.ok = true
  dueLe : ∀ K A, m.due K = some A → K ≤ n.epoch now
  cov : st.fetchFirst = false → Cov .prop st.store m (n.epoch now)

/-- the covered epoch moves with `now`: a later epoch has no obligation yet -/
theorem PInv.cov_at {n : Net} {st : HState} {m : DMon} {now now' : Nat} (h : PInv n st m now)
    (hle : now ≤ now') (hff : st.fetchFirst = false) : Cov .prop st.store m (n.epoch now') := by
  rcases Nat.lt_or_eq_of_le (epoch_mono n hle) with hlt | heq
  · exact Cov.of_dueLe h.dueLe hlt
  · rw [← heq]; exact h.cov hff

/-- the last block of the ticker branch resets epoch - 1 only -/
theorem propPost_pinv (n : Net) {s : HState} {m m2 : DMon} {now t0 : Nat} (hem : n.epoch now ≤ n.epoch t0)
    (hdue : ∀ K A, m.due K = some A → K ≤ n.epoch now) (hok : m2.ok = true) (hc : Cov .prop s.store m2 (n.epoch t0))
    (hk : ∀ K A, m2.due K = some A → K = n.epoch t0 ∨ m.due K = some A) :
    PInv n (propPost n s t0) m2 t0 := by
  refine ⟨hok, fun K A hA => ?_, fun _ => ?_⟩
  · rcases hk K A hA with h1 | h1
    · exact Nat.le_of_eq h1
    · exact Nat.le_trans (hdue K A h1) hem
  · rw [propPost_eq]
    exact Cov.ite (fun _ => Cov.ite (fun _ => hc) fun h0 => hc.reset (Nat.ne_of_lt (Nat.sub_one_lt h0))) fun _ => hc

theorem propTick_pinv (n : Net) {st : HState} {m : DMon} {now : Nat} (t0 clock : Nat) (r1 : FetchRes)
    (h : PInv n st m now) (hnow : now ≤ t0) :
    PInv n (propTick n st t0 clock r1).1 (drun .prop n m (propTick n st t0 clock r1).2) t0 := by
  have hem := epoch_mono n hnow
  have hcov0 := h.cov_at hnow
  obtain ⟨store, ff, fc, fn, ic⟩ := st
  simp only [propTick, propFetch_eq, propExec_eq]
  cases ff
  · -- regular tick: execute; re-fetch only after an indices change
    have hx := exec_dstep .prop n t0 clock (s := store) h.ok fun _ => hcov0 rfl
    cases ic
    · exact propPost_pinv n hem h.dueLe hx.1 ((hcov0 rfl).of_due_eq hx.2) fun K A hA => Or.inr (hx.2 ▸ hA)
    · have fp := fetch_post .prop n store (DMon.step .prop n m (execAtom .prop n t0 clock store)) (n.epoch t0)
        (n.epoch t0) r1
      exact propPost_pinv n hem h.dueLe (fp.okeq.trans hx.1) fp.covp fun K A hA =>
        (fp.keys K A hA).imp_right fun h1 => hx.2 ▸ h1
  · -- fetch-first tick: fetch, execute
    have fp := fetch_post .prop n store m (n.epoch t0) (n.epoch t0) r1
    have hx := exec_dstep .prop n t0 clock (fp.okeq.trans h.ok) fun _ => fp.covp
    exact propPost_pinv n hem h.dueLe hx.1 (fp.covp.of_due_eq hx.2) fun K A hA => fp.keys K A (hx.2 ▸ hA)

theorem propStep_pinv (n : Net) {st : HState} {m : DMon} {now : Nat} (e : Event)
    (h : PInv n st m now) (hnow : ∀ s c r1 r2, e = .tick s c r1 r2 → now ≤ s) :
    PInv n (propStep n st e).1 (drun .prop n m (propStep n st e).2) (nowAfter now e) := by
  -- a notice keeps the store or, if it touches it, sets `fetchFirst`
  have keep : ∀ (st' : HState) (now' : Nat), now ≤ now' →
      (st'.fetchFirst = false → st'.store = st.store ∧ st.fetchFirst = false) → PInv n st' m now' :=
    fun st' now' hle hst =>
      ⟨h.ok, fun K A hA => Nat.le_trans (h.dueLe K A hA) (epoch_mono n hle),
        fun hff => (hst hff).1 ▸ h.cov_at hle (hst hff).2⟩
  cases e with
  | tick slot clock r1 r2 => exact propTick_pinv n slot clock r1 h (hnow slot clock r1 r2 rfl)
  | reorg slot prev cur =>
    cases cur
    · exact keep _ _ (Nat.le_max_left _ _) (fun hh => ⟨rfl, hh⟩)
    · exact keep _ _ (Nat.le_max_left _ _) (fun hh => nomatch hh)
  | indices clock => exact keep _ _ (Nat.le_max_left _ _) (fun hh => ⟨rfl, hh⟩)

theorem prop_exactly_run (n : Net) (clock0 : Nat) (r0 : FetchRes) (evs : List Event)
    (henv : envOK none clock0 evs = true) : exactlyOnceOK .prop n (run .prop n clock0 r0 evs) = true := by
  rw [exactlyOnceOK_run]
  refine exactly_runFrom .prop n (fun st m _ now _ => PInv n st m now) PInv.ok
    (fun e h hc => propStep_pinv n e h fun s c r1 r2 he => (hc s c r1 r2 he).2) evs _ _ none clock0 ?_ henv
  have fp := fetch_post .prop n [] DMon.init (n.epoch clock0) (n.epoch clock0) r0
  simp only [initH, propInit, propFetch_eq]
  refine ⟨fp.okeq, fun K A hA => ?_, fun hff => (nomatch hff)⟩
  rcases fp.keys K A hA with h1 | h1
  · exact Nat.le_of_eq h1
  · cases h1

end Ssv.Duties
