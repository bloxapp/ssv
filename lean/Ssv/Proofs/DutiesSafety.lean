/- The three duty handlers in a common form: the `execs` atom of a tick is one filter of the store (`execAtom`), a
   fetch changes the store by `fetchStore`, `processFetching` is `pfetch`, the ticker branch `tickForm`, and `Fetches`
   is the trace of everything a handler does to the store besides executing.  On that form: no pair is dispatched
   twice, and only inside the slot window, in every run. -/
import Ssv.Proofs.DutiesStore

namespace Ssv.Duties

/-- the descriptors handler `k` dispatches at tick `slot` while the clock shows `clock` -/
def sel (k : Kind) (n : Net) (slot clock : Nat) (e : Entry) : Bool :=
  e.ep == keyOf k n slot && e.inC && (isSync k || e.slot == slot) && inWindow k n clock slot

def execDuties (k : Kind) (n : Net) (slot clock : Nat) (s : Store) : List Duty :=
  (s.filter (sel k n slot clock)).map fun e => ⟨slot, e.vidx, e.tag⟩

def execAtom (k : Kind) (n : Net) (slot clock : Nat) (s : Store) : Atom := .execs slot clock (execDuties k n slot clock s)

theorem isSync_iff {k : Kind} : isSync k = true ↔ k = .sync := by
  cases k <;> simp [isSync]

theorem sel_iff {k : Kind} {n : Net} {slot clock : Nat} {e : Entry} : sel k n slot clock e = true ↔
    e.ep = keyOf k n slot ∧ e.inC = true ∧ (isSync k = true ∨ e.slot = slot) ∧ inWindow k n clock slot = true := by
  simp only [sel, Bool.and_eq_true, Bool.or_eq_true, beq_iff_eq, and_assoc]

theorem mem_execDuties {k : Kind} {n : Net} {slot clock : Nat} {s : Store} {x : Duty} :
    x ∈ execDuties k n slot clock s ↔ ∃ e ∈ s, sel k n slot clock e = true ∧ x = ⟨slot, e.vidx, e.tag⟩ := by
  simp only [execDuties, List.mem_map, List.mem_filter, and_assoc, eq_comm]

/-- a handler that dispatches by slot (attester, proposer) selects descriptors of the tick's slot only -/
theorem sel_slot {k : Kind} {n : Net} {slot clock : Nat} {e : Entry} (hk : isSync k = false)
    (h : sel k n slot clock e = true) : e.slot = slot := by
  obtain ⟨_, _, hslot, _⟩ := sel_iff.mp h
  exact hslot.resolve_left fun hs => Bool.false_ne_true (hk.symm.trans hs)

/-- `CommitteeSlotDuties(epoch, slot)` followed by `shouldExecute(duty.Slot)` is one filter of the store: a
    descriptor that passes the slot test has `e.slot = slot`, so the window is tested at the tick's slot and
    `entryDuty e` is the duty dispatched -/
theorem slotExec_eq {k : Kind} (hk : isSync k = false) (n : Net) (s : Store) (slot clock : Nat) :
    ((s.slotDuties (keyOf k n slot) slot).filter fun e => inWindow k n clock e.slot).map entryDuty =
      execDuties k n slot clock s := by
  rw [Store.slotDuties, List.filter_filter, execDuties]
  refine filter_map_congr (fun e => ?_) (fun e he => ?_)
  · show (inWindow k n clock e.slot && (e.ep == keyOf k n slot && e.slot == slot && e.inC)) = sel k n slot clock e
    rw [sel, hk, Bool.false_or]
    cases hs : e.slot == slot
    · simp only [Bool.and_false, Bool.false_and]
    · rw [eq_of_beq hs, Bool.and_true, Bool.and_true]
      exact Bool.and_comm _ _
  · rw [entryDuty, sel_slot hk he]

theorem attExec_eq (n : Net) (st : HState) (slot clock : Nat) :
    attProcessExecution n st (n.epoch slot) slot clock = [execAtom .att n slot clock st.store] :=
  congrArg (fun l => [Atom.execs slot clock l]) (slotExec_eq (k := .att) rfl n st.store slot clock)

theorem propExec_eq (n : Net) (st : HState) (slot clock : Nat) :
    propProcessExecution st (n.epoch slot) slot clock = [execAtom .prop n slot clock st.store] :=
  congrArg (fun l => [Atom.execs slot clock l]) (slotExec_eq (k := .prop) rfl n st.store slot clock)

theorem syncExec_eq (n : Net) (st : HState) (slot clock : Nat) :
    syncProcessExecution st (n.periodOfSlot slot) slot clock = [execAtom .sync n slot clock st.store] := by
  simp only [syncProcessExecution, execAtom, execDuties, Store.periodDuties, List.filter_filter]
  refine congrArg (fun l => [Atom.execs slot clock l]) (filter_map_congr (fun e => ?_) (fun _ _ => rfl))
  show (syncShouldExecute clock slot && (e.ep == n.periodOfSlot slot && e.inC)) =
    (e.ep == n.periodOfSlot slot && e.inC && (true || e.slot == slot) && syncShouldExecute clock slot)
  rw [Bool.true_or, Bool.and_true]
  exact Bool.and_comm _ _

/-- the descriptor stored for a fetched duty (`attEntry`, `propEntry`, `syncEntry`) -/
def mkEntry (k : Kind) (ep : Nat) (c : List Nat) (d : Duty) : Entry :=
  ⟨ep, (dkey k d).1, d.vidx, d.tag, match k with | .att => true | _ => c.contains d.vidx⟩

theorem mem_assigned {k : Kind} {c : List Nat} {ds : List Duty} {d : Duty} (ep : Nat) :
    d ∈ assigned k c ds ↔ d ∈ ds ∧ (mkEntry k ep c d).inC = true := by
  cases k <;> simp [assigned, mkEntry, List.mem_filter]

/-- the store after `fetchAndProcessDuties(ep)` with outcome `r`: on success `ResetEpoch(ep)` / `Reset(ep)`, then
    `Add` every returned duty -/
def fetchStore (k : Kind) (s : Store) (ep : Nat) : FetchRes → Store
  | .ok c ds => (s.reset ep).addAll (mkEntry k ep c) ds
  | _ => s

theorem attFetch_eq (st : HState) (ep : Nat) (r : FetchRes) :
    attFetch st ep r = ({ st with store := fetchStore .att st.store ep r }, !r.failed, [.fetch ep ep r]) := by
  cases r <;> rfl

theorem propFetch_eq (st : HState) (ep : Nat) (r : FetchRes) :
    propFetch st ep r = ({ st with store := fetchStore .prop st.store ep r }, [.fetch ep ep r]) := by
  cases r <;> rfl

theorem syncFetch_eq (n : Net) (st : HState) (p clock : Nat) (r : FetchRes) :
    syncFetch n st p clock r =
      ({ st with store := fetchStore .sync st.store p r }, !r.failed, [.fetch p (max (p * n.epp) (n.epoch clock)) r]) := by
  cases r <;> rfl

/-- second half of `processFetching`: if `fetchNext` is set and `g` holds (attester: `shouldFetchNexEpoch(slot)`,
    sync committee: always) fetch `E + 1`; the flag is cleared when the fetch succeeded.  `arg` is what the beacon
    node is asked for. -/
def nextPart (k : Kind) (g : Bool) (arg : Nat → Nat) (st : HState) (E : Nat) (r : FetchRes) : HState × List Atom :=
  if st.fetchNext && g then
    ({ st with store := fetchStore k st.store (E + 1) r, fetchNext := if r.failed then st.fetchNext else false },
     [.fetch (E + 1) (arg (E + 1)) r])
  else (st, [])

/-- `processFetching`: if `fetchCur` is set fetch `E` and stop if that failed, else clear the flag; then `nextPart` -/
def pfetch (k : Kind) (g : Bool) (arg : Nat → Nat) (st : HState) (E : Nat) (r1 r2 : FetchRes) : HState × List Atom :=
  if st.fetchCur then
    if r1.failed then (st, [.fetch E (arg E) r1])
    else
      ((nextPart k g arg { st with store := fetchStore k st.store E r1, fetchCur := false } E r2).1,
       .fetch E (arg E) r1 :: (nextPart k g arg { st with store := fetchStore k st.store E r1, fetchCur := false } E r2).2)
  else nextPart k g arg st E r1

theorem attNext_eq (n : Net) (st : HState) (E slot : Nat) (r : FetchRes) :
    attFetchNextPart n st E slot r = nextPart .att (attShouldFetchNext n slot) id st E r := by
  obtain ⟨store, ff, fc, fn, ic⟩ := st
  unfold attFetchNextPart nextPart
  generalize attShouldFetchNext n slot = g
  cases fn <;> cases g <;> cases r <;> rfl

theorem attPF_eq (n : Net) (st : HState) (E slot : Nat) (r1 r2 : FetchRes) :
    attProcessFetching n st E slot r1 r2 = pfetch .att (attShouldFetchNext n slot) id st E r1 r2 := by
  obtain ⟨store, ff, fc, fn, ic⟩ := st
  simp only [attProcessFetching, pfetch, attNext_eq, attFetch_eq]
  cases fc
  · rfl
  · cases r1 <;> rfl

theorem syncNext_eq (n : Net) (st : HState) (p clock : Nat) (r : FetchRes) :
    syncFetchNextPart n st p clock r = nextPart .sync true (fun q => max (q * n.epp) (n.epoch clock)) st p r := by
  obtain ⟨store, ff, fc, fn, ic⟩ := st
  cases fn <;> cases r <;> rfl

theorem syncPF_eq (n : Net) (st : HState) (p clock : Nat) (r1 r2 : FetchRes) :
    syncProcessFetching n st p clock r1 r2 =
      pfetch .sync true (fun q => max (q * n.epp) (n.epoch clock)) st p r1 r2 := by
  obtain ⟨store, ff, fc, fn, ic⟩ := st
  simp only [syncProcessFetching, pfetch, syncNext_eq, syncFetch_eq]
  cases fc
  · rfl
  · cases r1 <;> rfl

theorem attPost_eq (n : Net) (st : HState) (slot : Nat) : attPost n st slot =
    { st with store := if slot % n.spe == n.spe - 1 then st.store.reset (n.epoch slot) else st.store,
              fetchNext := if slot % n.spe == n.spe / 2 - 2 then true else st.fetchNext } := by
  unfold attPost
  generalize (slot % n.spe == n.spe / 2 - 2) = b1
  generalize (slot % n.spe == n.spe - 1) = b2
  cases b1 <;> cases b2 <;> rfl

theorem propPost_eq (n : Net) (st : HState) (slot : Nat) : propPost n st slot =
    { st with store := if slot % n.spe == n.spe - 1 then
                         (if n.epoch slot = 0 then st.store else st.store.reset (n.epoch slot - 1)) else st.store,
              fetchFirst := if slot % n.spe == n.spe - 1 then true else st.fetchFirst } := by
  unfold propPost
  generalize (slot % n.spe == n.spe - 1) = b
  cases b <;> rfl

theorem syncPost_eq (n : Net) (st : HState) (slot : Nat) : syncPost n st slot =
    { st with store := if slot == n.lastSlotOfPeriod (n.period (n.epoch slot)) then
                         (if n.period (n.epoch slot) = 0 then st.store else st.store.reset (n.period (n.epoch slot) - 1))
                       else st.store,
              fetchNext := if slot % n.spe == n.spe / 2 - 2 && n.epoch slot % n.epp == n.epp - syncPrep then true
                           else st.fetchNext } := by
  simp only [syncPost]
  generalize (slot % n.spe == n.spe / 2 - 2 && n.epoch slot % n.epp == n.epp - syncPrep) = b1
  generalize (slot == n.lastSlotOfPeriod (n.period (n.epoch slot))) = b2
  cases b1 <;> cases b2 <;> rfl

theorem repairPre_store (st : HState) (le : Option Nat) (K : Nat) : (repairPre st le K).store = st.store := by
  unfold repairPre; split <;> rfl

theorem lateFix_store (st : HState) (le : Option Nat) (K : Nat) : (lateFix st le K).store = st.store := by
  unfold lateFix; split <;> rfl

/-- a fetch-first tick prepares its flags (`pre`), fetches, executes; a regular tick executes, does `mid` (the
    attester's reset on an indices change) and fetches; both end with `post` -/
def tickForm (k : Kind) (n : Net) (g : Bool) (arg : Nat → Nat) (pre mid post : HState → HState) (st : HState)
    (E slot clock : Nat) (r1 r2 : FetchRes) : HState × List Atom :=
  if st.fetchFirst then
    (post (pfetch k g arg (pre st) E r1 r2).1,
     (pfetch k g arg (pre st) E r1 r2).2 ++ [execAtom k n slot clock (pfetch k g arg (pre st) E r1 r2).1.store])
  else
    (post (pfetch k g arg (mid st) E r1 r2).1, execAtom k n slot clock st.store :: (pfetch k g arg (mid st) E r1 r2).2)

theorem attTick_eq (n : Net) (st : HState) (slot clock : Nat) (r1 r2 : FetchRes) :
    attTick n st slot clock r1 r2 =
      tickForm .att n (attShouldFetchNext n slot) id (fun s => { s with fetchFirst := false, indicesChanged := false })
        (fun s => if s.indicesChanged then { s with store := s.store.reset (n.epoch slot), indicesChanged := false } else s)
        (fun s => attPost n s slot) st (n.epoch slot) slot clock r1 r2 := by
  unfold attTick tickForm
  by_cases h : st.fetchFirst = true
  · simp only [h, if_true, attPF_eq, attExec_eq]
  · simp only [h, attPF_eq, attExec_eq]; rfl

theorem syncTick_eq (n : Net) (st : HState) (slot clock : Nat) (r1 r2 : FetchRes) :
    syncTick n st slot clock r1 r2 =
      tickForm .sync n true (fun q => max (q * n.epp) (n.epoch clock)) (fun s => { s with fetchFirst := false }) id
        (fun s => syncPost n s slot) st (n.periodOfSlot slot) slot clock r1 r2 := by
  simp only [syncTick, tickForm, syncPF_eq]
  rw [show n.period (n.epoch slot) = n.periodOfSlot slot from rfl]
  simp only [syncExec_eq]
  split <;> rfl

/-- what a handler does to the store besides executing: resets and fetches, with the `fetch` atoms they emit -/
inductive Fetches (k : Kind) : Store → Store → List Atom → Prop
  | refl (s : Store) : Fetches k s s []
  | reset {s s' : Store} {o : List Atom} (ep : Nat) : Fetches k s s' o → Fetches k s (s'.reset ep) o
  | fetch {s s' : Store} {o : List Atom} (ep arg : Nat) (r : FetchRes) :
      Fetches k s s' o → Fetches k s (fetchStore k s' ep r) (o ++ [.fetch ep arg r])

theorem Fetches.ite_id {k : Kind} {s s1 s2 : Store} {o : List Atom} (c : Prop) [Decidable c]
    (h1 : Fetches k s s1 o) (h2 : Fetches k s s2 o) : Fetches k s (if c then s1 else s2) o :=
  ite_elim (P := fun x => Fetches k s x o) (fun _ => h1) fun _ => h2

theorem Fetches.nextPart {k : Kind} {s : Store} {o : List Atom} (g : Bool) (arg : Nat → Nat) {st : HState} (E : Nat)
    (r : FetchRes) (h : Fetches k s st.store o) :
    Fetches k s (nextPart k g arg st E r).1.store (o ++ (nextPart k g arg st E r).2) :=
  ite_elim (P := fun x : HState × List Atom => Fetches k s x.1.store (o ++ x.2)) (fun _ => .fetch _ _ r h)
    fun _ => (List.append_nil o).symm ▸ h

theorem Fetches.pfetch {k : Kind} {s : Store} {o : List Atom} (g : Bool) (arg : Nat → Nat) {st : HState} (E : Nat)
    (r1 r2 : FetchRes) (h : Fetches k s st.store o) :
    Fetches k s (pfetch k g arg st E r1 r2).1.store (o ++ (pfetch k g arg st E r1 r2).2) := by
  have h1 : Fetches k s (fetchStore k st.store E r1) (o ++ [.fetch E (arg E) r1]) := .fetch E (arg E) r1 h
  refine ite_elim (P := fun x : HState × List Atom => Fetches k s x.1.store (o ++ x.2))
    (fun _ => ite_elim (P := fun x : HState × List Atom => Fetches k s x.1.store (o ++ x.2)) (fun hf => ?_) fun _ => ?_)
    fun _ => .nextPart g arg E r1 h
  · -- a failed fetch leaves the store as it is
    cases r1
    · cases hf
    · exact h1
    · cases hf
  · rw [← List.singleton_append, ← List.append_assoc]
    exact .nextPart g arg (st := { st with store := fetchStore k st.store E r1, fetchCur := false }) E r2 h1

/-- a tick: fetches and resets, the `execs` atom for the store they leave, fetches and resets -/
def TickTrace (k : Kind) (n : Net) (slot clock : Nat) (s s' : Store) (out : List Atom) : Prop :=
  ∃ s1 o1 o2, Fetches k s s1 o1 ∧ Fetches k s1 s' o2 ∧ out = o1 ++ execAtom k n slot clock s1 :: o2

theorem tickForm_trace (k : Kind) (n : Net) (g : Bool) (arg : Nat → Nat) (pre mid post : HState → HState) (st : HState)
    (E slot clock : Nat) (r1 r2 : FetchRes) (hpre : (pre st).store = st.store)
    (hmid : Fetches k st.store (mid st).store [])
    (hpost : ∀ {s : Store} {o : List Atom} {st' : HState}, Fetches k s st'.store o → Fetches k s (post st').store o) :
    TickTrace k n slot clock st.store (tickForm k n g arg pre mid post st E slot clock r1 r2).1.store
      (tickForm k n g arg pre mid post st E slot clock r1 r2).2 := by
  refine ite_elim (P := fun x : HState × List Atom => TickTrace k n slot clock st.store x.1.store x.2) (fun _ => ?_)
    fun _ => ⟨_, [], _, .refl _, hpost (Fetches.pfetch g arg E r1 r2 hmid), rfl⟩
  have := Fetches.pfetch (k := k) g arg (st := pre st) E r1 r2 (.refl _)
  rw [hpre] at this
  exact ⟨_, _, [], this, hpost (.refl _), rfl⟩

theorem attTick_trace (n : Net) (st : HState) (slot clock : Nat) (r1 r2 : FetchRes) :
    TickTrace .att n slot clock st.store (attTick n st slot clock r1 r2).1.store (attTick n st slot clock r1 r2).2 := by
  rw [attTick_eq]
  apply tickForm_trace
  · rfl
  · show Fetches .att st.store (if st.indicesChanged = true then _ else st).store []
    split
    · exact .reset _ (.refl _)
    · exact .refl _
  · intro s o st' h
    rw [attPost_eq]
    exact .ite_id _ (.reset _ h) h

theorem syncTick_trace (n : Net) (st : HState) (slot clock : Nat) (r1 r2 : FetchRes) :
    TickTrace .sync n slot clock st.store (syncTick n st slot clock r1 r2).1.store (syncTick n st slot clock r1 r2).2 := by
  rw [syncTick_eq]
  apply tickForm_trace
  · rfl
  · exact .refl _
  · intro s o st' h
    rw [syncPost_eq]
    exact .ite_id _ (.ite_id _ h (.reset _ h)) h

theorem Fetches.propPost {s : Store} {o : List Atom} {st : HState} (n : Net) (slot : Nat)
    (h : Fetches .prop s st.store o) : Fetches .prop s (propPost n st slot).store o := by
  rw [propPost_eq]
  exact .ite_id _ (.ite_id _ h (.reset _ h)) h

theorem propTick_trace (n : Net) (st : HState) (slot clock : Nat) (r1 : FetchRes) :
    TickTrace .prop n slot clock st.store (propTick n st slot clock r1).1.store (propTick n st slot clock r1).2 := by
  obtain ⟨store, ff, fc, fn, ic⟩ := st
  simp only [propTick, propFetch_eq, propExec_eq]
  cases ff
  · cases ic
    · exact ⟨_, [], [], .refl _, .propPost n slot (.refl _), rfl⟩
    · exact ⟨_, [], _, .refl _, .propPost n slot (.fetch _ _ r1 (.refl _)), rfl⟩
  · exact ⟨_, _, [], .fetch _ _ r1 (.refl _), .propPost n slot (.refl _), rfl⟩

theorem attReorg_fetches (n : Net) (st : HState) (slot : Nat) (prev cur : Bool) :
    Fetches .att st.store (attReorg n st slot prev cur).store [] := by
  unfold attReorg
  cases prev
  · cases cur <;> cases attShouldFetchNext n slot
    · exact .refl _
    · exact .refl _
    · exact .refl _
    · exact .reset _ (.refl _)
  · cases attShouldFetchNext n slot
    · exact .reset _ (.refl _)
    · exact .reset _ (.reset _ (.refl _))

theorem attIndices_fetches (n : Net) (st : HState) (clock : Nat) :
    Fetches .att st.store (attIndices n st clock).store [] := by
  unfold attIndices
  split
  · exact .reset _ (.refl _)
  · exact .refl _

theorem syncReorg_fetches (n : Net) (st : HState) (slot : Nat) (cur : Bool) :
    Fetches .sync st.store (syncReorg n st slot cur).store [] := by
  unfold syncReorg
  split
  · exact .reset _ (.refl _)
  · exact .refl _

theorem syncIndices_store (n : Net) (st : HState) (c : Nat) : (syncIndices n st c).store = st.store := by
  unfold syncIndices; split <;> rfl

theorem propReorg_fetches (n : Net) (st : HState) (slot : Nat) (cur : Bool) :
    Fetches .prop st.store (propReorg n st slot cur).store [] := by
  unfold propReorg
  split
  · exact .reset _ (.refl _)
  · exact .refl _

/-- the state in which the ticker branch of handler `k` starts its work -/
def tickStart (k : Kind) (n : Net) (rs : RState) (slot : Nat) : HState :=
  match k with
  | .att => repairPre rs.st rs.le (n.epoch slot)
  | .prop => rs.st
  | .sync => repairPre rs.st rs.le (n.periodOfSlot slot)

theorem step_tick_trace (k : Kind) (n : Net) (rs : RState) (slot clock : Nat) (r1 r2 : FetchRes) :
    TickTrace k n slot clock rs.st.store (step k n rs (.tick slot clock r1 r2)).1.st.store
      (step k n rs (.tick slot clock r1 r2)).2 := by
  -- `step` is unfolded first: left to the unifier inside `exact`, the same unfolding is slow
  cases k <;> dsimp only [step]
  · rw [← repairPre_store rs.st rs.le (n.epoch slot)]; exact attTick_trace n _ slot clock r1 r2
  · exact propTick_trace n _ slot clock r1
  · rw [← repairPre_store rs.st rs.le (n.periodOfSlot slot)]; exact syncTick_trace n _ slot clock r1 r2

theorem Fetches.lateFix {k : Kind} {s : Store} {o : List Atom} {st : HState} (le : Option Nat) (K : Nat)
    (h : Fetches k s st.store o) : Fetches k s (lateFix st le K).store o := by
  rw [lateFix_store]; exact h

theorem step_reorg_trace (k : Kind) (n : Net) (rs : RState) (s : Nat) (p c : Bool) :
    Fetches k rs.st.store (step k n rs (.reorg s p c)).1.st.store [] ∧ (step k n rs (.reorg s p c)).2 = [] := by
  cases k <;> dsimp only [step] <;> refine ⟨?_, rfl⟩
  · exact ite_elim (P := fun x : HState => Fetches .att rs.st.store x.store [])
      (fun _ => .lateFix _ _ (attReorg_fetches ..)) fun _ => attReorg_fetches ..
  · exact propReorg_fetches ..
  · exact ite_elim (P := fun x : HState => Fetches .sync rs.st.store x.store [])
      (fun _ => .lateFix _ _ (syncReorg_fetches ..)) fun _ => syncReorg_fetches ..

theorem step_indices_trace (k : Kind) (n : Net) (rs : RState) (c : Nat) :
    Fetches k rs.st.store (step k n rs (.indices c)).1.st.store [] ∧ (step k n rs (.indices c)).2 = [] := by
  cases k <;> dsimp only [step] <;> refine ⟨?_, rfl⟩
  · exact ite_elim (P := fun x : HState => Fetches .att rs.st.store x.store [])
      (fun _ => .lateFix _ _ (attIndices_fetches ..)) fun _ => attIndices_fetches ..
  · exact .refl _
  · rw [syncIndices_store]; exact .refl _

theorem init_fetches (k : Kind) (n : Net) (clock : Nat) (r : FetchRes) :
    Fetches k [] (initH k n clock r).1.st.store (initH k n clock r).2 := by
  cases k
  · exact .refl _
  · simp only [initH, propInit, propFetch_eq]; exact .fetch _ _ r (.refl _)
  · simp only [initH, syncInit, syncFetch_eq]; exact .fetch _ _ r (.refl _)

@[simp] theorem execPairs_nil : execPairs [] = [] := rfl
@[simp] theorem execPairs_fetch (ep arg : Nat) (r : FetchRes) (l : List Atom) :
    execPairs (.fetch ep arg r :: l) = execPairs l := rfl
@[simp] theorem execPairs_execs (s c : Nat) (ds : List Duty) (l : List Atom) :
    execPairs (.execs s c ds :: l) = ds.map (fun d => (d.slot, d.vidx)) ++ execPairs l := rfl

theorem execPairs_append (a b : List Atom) : execPairs (a ++ b) = execPairs a ++ execPairs b := by
  induction a with
  | nil => rfl
  | cons x xs ih =>
    cases x with
    | fetch ep arg r => exact ih
    | execs s c ds => rw [List.cons_append, execPairs_execs, execPairs_execs, ih, List.append_assoc]

/-- atoms that are all fetches -/
def NoExec (l : List Atom) : Prop := ∀ s c ds, Atom.execs s c ds ∉ l

theorem NoExec.pairs {l : List Atom} (h : NoExec l) : execPairs l = [] := by
  induction l with
  | nil => rfl
  | cons x xs ih =>
    cases x with
    | fetch ep arg r => exact ih fun s c ds hm => h s c ds (List.mem_cons_of_mem _ hm)
    | execs s c ds => exact absurd (List.mem_cons_self ..) (h s c ds)

theorem NoExec.append {a b : List Atom} (ha : NoExec a) (hb : NoExec b) : NoExec (a ++ b) := by
  intro s c ds h
  rcases List.mem_append.mp h with h | h
  · exact ha s c ds h
  · exact hb s c ds h

theorem Fetches.noExec {k : Kind} {s s' : Store} {o : List Atom} (h : Fetches k s s' o) : NoExec o := by
  induction h with
  | refl => exact fun _ _ _ hm => nomatch hm
  | reset _ _ ih => exact ih
  | fetch ep arg r _ ih => exact ih.append fun _ _ _ hm => nomatch List.mem_singleton.mp hm

/-- store invariant of the safety proofs: keys are unique; sync-committee descriptors use slot key 0 -/
def GoodStore (k : Kind) (s : Store) : Prop := KeyNodup s ∧ (k = .sync → ∀ x ∈ s, x.slot = 0)

/-- resets and fetches keep the store good: a reset only removes, a fetch adds through `Store.add` -/
theorem Fetches.good {k : Kind} {s s' : Store} {o : List Atom} (h : Fetches k s s' o) (hg : GoodStore k s) :
    GoodStore k s' := by
  induction h with
  | refl => exact hg
  | reset ep _ ih => exact ⟨keyNodup_reset ep ih.1, fun hk x hx => ih.2 hk x (mem_reset.mp hx).1⟩
  | fetch ep arg r _ ih =>
    cases r with
    | noIdx => exact ih
    | fail => exact ih
    | ok c ds =>
      refine ⟨keyNodup_addAll _ _ (keyNodup_reset ep ih.1), fun hk x hx => ?_⟩
      rcases mem_addAll_inv _ _ hx with h1 | ⟨d, _, rfl⟩
      · exact ih.2 hk x (mem_reset.mp h1).1
      · subst hk; rfl

theorem pairs_nodup {s : Store} (h : KeyNodup s) (p : Entry → Bool) (f : Entry → Nat × Nat)
    (hf : ∀ a b, a ∈ s → b ∈ s → p a = true → p b = true → f a = f b → a.sameKey b = true) :
    ((s.filter p).map f).Nodup := by
  rw [List.Nodup, List.pairwise_map]
  refine List.Pairwise.imp_of_mem ?_ (List.Pairwise.filter p h)
  intro a b ha hb hab heq
  have ha' := List.mem_filter.mp ha
  have hb' := List.mem_filter.mp hb
  rw [hf a b ha'.1 hb'.1 ha'.2 hb'.2 heq] at hab
  cases hab

/-- the pairs dispatched at one tick are distinct: two selected descriptors with the same validator have the same
    key (same epoch, and the same slot key — the tick's slot, or 0 for the sync committee) -/
theorem exec_pairs (k : Kind) (n : Net) (slot clock : Nat) {s : Store} (h : GoodStore k s) :
    ((execDuties k n slot clock s).map fun d => (d.slot, d.vidx)).Nodup := by
  unfold execDuties
  rw [List.map_map]
  apply pairs_nodup h.1
  intro a b ha hb hsa hsb hab
  obtain ⟨hepa, _, hslota, _⟩ := sel_iff.mp hsa
  obtain ⟨hepb, _, hslotb, _⟩ := sel_iff.mp hsb
  refine sameKey_iff.mpr ⟨hepa.trans hepb.symm, ?_, (Prod.mk.inj hab).2⟩
  have hsync : isSync k = true → a.slot = b.slot := fun hs => by
    rw [h.2 (isSync_iff.mp hs) a ha, h.2 (isSync_iff.mp hs) b hb]
  rcases hslota with hs | hs
  · exact hsync hs
  · rcases hslotb with hs' | hs'
    · exact hsync hs'
    · rw [hs, hs']

theorem exec_window {k : Kind} {n : Net} {slot clock : Nat} {s : Store} {d : Duty}
    (hd : d ∈ execDuties k n slot clock s) : d.slot = slot ∧ inWindow k n clock slot = true := by
  obtain ⟨e, _, hsel, rfl⟩ := mem_execDuties.mp hd
  obtain ⟨_, _, _, hwin⟩ := sel_iff.mp hsel
  exact ⟨rfl, hwin⟩

/-- the pairs dispatched at one tick are distinct and carry the tick's slot -/
theorem TickTrace.pairs {k : Kind} {n : Net} {slot clock : Nat} {s s' : Store} {out : List Atom}
    (h : TickTrace k n slot clock s s' out) (hg : GoodStore k s) :
    (execPairs out).Nodup ∧ ∀ p ∈ execPairs out, p.1 = slot := by
  obtain ⟨s1, o1, o2, h1, h2, rfl⟩ := h
  rw [execPairs_append, execAtom, execPairs_execs, h1.noExec.pairs, h2.noExec.pairs, List.nil_append, List.append_nil]
  refine ⟨exec_pairs k n slot clock (h1.good hg), fun p hp => ?_⟩
  obtain ⟨d, hd, rfl⟩ := List.mem_map.mp hp
  exact (exec_window hd).1

theorem step_good (k : Kind) (n : Net) {rs : RState} (e : Event) (h : GoodStore k rs.st.store) :
    GoodStore k (step k n rs e).1.st.store := by
  cases e with
  | tick slot clock r1 r2 =>
    obtain ⟨s1, o1, o2, h1, h2, _⟩ := step_tick_trace k n rs slot clock r1 r2
    exact h2.good (h1.good h)
  | reorg s p c => exact (step_reorg_trace k n rs s p c).1.good h
  | indices c => exact (step_indices_trace k n rs c).1.good h

theorem init_good (k : Kind) (n : Net) (clock : Nat) (r : FetchRes) : GoodStore k (initH k n clock r).1.st.store :=
  (init_fetches k n clock r).good ⟨keyNodup_nil, fun _ _ hx => nomatch hx⟩

/-- `GoodStore k st.store`, as a predicate of the handler state -/
def Good (k : Kind) (st : HState) : Prop :=
  KeyNodup st.store ∧ (k = .sync → ∀ x ∈ st.store, x.slot = 0)

theorem good_ic {k : Kind} {st : HState} (b : Bool) (h : Good k st) : Good k { st with indicesChanged := b } := h
theorem good_ff {k : Kind} {st : HState} (b : Bool) (h : Good k st) : Good k { st with fetchFirst := b } := h
theorem good_fn {k : Kind} {st : HState} (b : Bool) (h : Good k st) : Good k { st with fetchNext := b } := h
theorem good_fc {k : Kind} {st : HState} (b : Bool) (h : Good k st) : Good k { st with fetchCur := b } := h

theorem syncStep_good {n : Net} {st : HState} (e : Event) (h : Good .sync st) : Good .sync (syncStep n st e).1 := by
  cases e with
  | tick slot clock r1 r2 =>
    obtain ⟨s1, o1, o2, h1, h2, _⟩ := syncTick_trace n st slot clock r1 r2
    exact h2.good (h1.good h)
  | reorg slot prev cur => exact (syncReorg_fetches n st slot cur).good h
  | indices clock => exact (syncIndices_store n st clock ▸ h : GoodStore .sync (syncIndices n st clock).store)

theorem atMostOnce_runFrom (k : Kind) (n : Net) : ∀ (evs : List Event) (rs : RState) (lt : Option Nat),
    GoodStore k rs.st.store → ticksIncreasing lt evs = true →
    (execPairs (runFrom k n rs evs)).Nodup ∧
      ∀ p ∈ execPairs (runFrom k n rs evs), ∀ t, lt = some t → t < p.1 := by
  intro evs
  induction evs with
  | nil => intro rs lt _ _; exact ⟨List.nodup_nil, fun p hp => nomatch hp⟩
  | cons e es ih =>
    intro rs lt hg ht
    have hg' := step_good k n e hg
    cases e with
    | tick slot clock r1 r2 =>
      simp only [ticksIncreasing, Bool.and_eq_true] at ht
      obtain ⟨hxn, hxs⟩ := (step_tick_trace k n rs slot clock r1 r2).pairs hg
      obtain ⟨ihn, ihb⟩ := ih _ (some slot) hg' ht.2
      rw [runFrom, execPairs_append]
      refine ⟨List.nodup_append.mpr ⟨hxn, ihn, ?_⟩, ?_⟩
      · -- a pair of this tick carries `slot`, a later pair a larger slot
        intro a ha b hb hab
        exact Nat.lt_irrefl _ ((hab ▸ hxs a ha : b.1 = slot) ▸ ihb b hb slot rfl)
      · intro p hp t hlt
        subst hlt
        have hts : t < slot := of_decide_eq_true ht.1
        rcases List.mem_append.mp hp with h | h
        · rw [hxs p h]; exact hts
        · exact Nat.lt_trans hts (ihb p h slot rfl)
    | reorg s p c =>
      simp only [runFrom, (step_reorg_trace k n rs s p c).2, List.nil_append]
      exact ih _ lt hg' ht
    | indices c =>
      simp only [runFrom, (step_indices_trace k n rs c).2, List.nil_append]
      exact ih _ lt hg' ht

theorem atMostOnce_run (k : Kind) (n : Net) (clock0 : Nat) (r0 : FetchRes) (evs : List Event)
    (ht : ticksIncreasing none evs = true) : AtMostOnce (run k n clock0 r0 evs) := by
  unfold AtMostOnce run
  rw [execPairs_append, (init_fetches k n clock0 r0).noExec.pairs, List.nil_append]
  exact (atMostOnce_runFrom k n evs _ none (init_good k n clock0 r0) ht).1

theorem window_runFrom (k : Kind) (n : Net) : ∀ (evs : List Event) (rs : RState),
    WindowOK k n (runFrom k n rs evs) := by
  intro evs
  induction evs with
  | nil => intro rs s c ds h; cases h
  | cons e es ih =>
    intro rs s c ds hm
    simp only [runFrom] at hm
    rcases List.mem_append.mp hm with h | h
    · cases e with
      | tick slot clock r1 r2 =>
        obtain ⟨s1, o1, o2, h1, h2, hout⟩ := step_tick_trace k n rs slot clock r1 r2
        rw [hout] at h
        rcases List.mem_append.mp h with h | h
        · exact absurd h (h1.noExec s c ds)
        · rcases List.mem_cons.mp h with h | h
          · cases h
            exact fun d hd => exec_window hd
          · exact absurd h (h2.noExec s c ds)
      | reorg s' p c' => rw [(step_reorg_trace k n rs s' p c').2] at h; cases h
      | indices c' => rw [(step_indices_trace k n rs c').2] at h; cases h
    · exact ih _ s c ds h

theorem window_run (k : Kind) (n : Net) (clock0 : Nat) (r0 : FetchRes) (evs : List Event) :
    WindowOK k n (run k n clock0 r0 evs) := by
  intro s c ds hm
  unfold run at hm
  rcases List.mem_append.mp hm with h | h
  · exact absurd h ((init_fetches k n clock0 r0).noExec s c ds)
  · exact window_runFrom k n evs _ s c ds h

end Ssv.Duties
