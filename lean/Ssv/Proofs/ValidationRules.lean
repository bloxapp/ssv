/-
C09 helper lemmas: how one accepted message moves the per-signer state — the entries of its signers are replaced by
their single-signer updates, every other entry stays.
-/
import Ssv.Proofs.ValidationState

namespace Ssv.Validation
open Ssv

section
variable {x : Ctx} {st : State} {i : Input} {m : QMsg}

theorem updConsensus_of_accept (hacc : (validate x st i).2 = .accept) (hm : i.body = .consensus m) :
    updConsensus x.cfg i.vid i.role m m.signers st = .ok (validate x st i).1 := by
  have hupd := validate_state_of_accept x st i ((validate_accept_iff x st i).mp hacc)
  unfold update at hupd
  rwa [hm] at hupd

theorem validate_consensus_entry
    (hacc : (validate x st i).2 = .accept) (hm : i.body = .consensus m) (s : Nat) (hs : s ∈ m.signers) :
    ∃ ss', updSignerConsensus x.cfg m (st (i.vid, i.role, s)) = .ok ss' ∧ (validate x st i).1 (i.vid, i.role, s) = some ss' := by
  obtain ⟨sh, _, hok⟩ := accept_consensus_guards hacc hm
  -- the signers of an accepted message are strictly increasing, so each entry is written once
  obtain ⟨-, hlt, -⟩ := validConsensusSigners_spec sh m hok.signersOk
  exact updConsensus_get m.signers st _ (hlt.imp Nat.ne_of_lt) (updConsensus_of_accept hacc hm) s hs

theorem validate_consensus_frame
    (hacc : (validate x st i).2 = .accept) (hm : i.body = .consensus m) (k : Key)
    (hk : ∀ s ∈ m.signers, k ≠ (i.vid, i.role, s)) : (validate x st i).1 k = st k :=
  updConsensus_frame m.signers st _ (updConsensus_of_accept hacc hm) k hk

theorem validate_partial_state {m : PMsg}
    (hacc : (validate x st i).2 = .accept) (hm : i.body = .partialSig m) :
    ∃ ss', updPartial x.cfg m (st (i.vid, i.role, m.signer)) = .ok ss' ∧
      (validate x st i).1 = st.set (i.vid, i.role, m.signer) ss' := by
  have hupd := validate_state_of_accept x st i ((validate_accept_iff x st i).mp hacc)
  unfold update at hupd
  rw [hm] at hupd
  simp only at hupd
  split at hupd
  · rename_i ss' hu
    exact ⟨ss', hu, (Except.ok.inj hupd).symm⟩
  · cases hupd

end

theorem validate_frame (x : Ctx) (st : State) (i : Input) (k : Key) (h : (k.1, k.2.1) ≠ (i.vid, i.role)) :
    (validate x st i).1 k = st k := by
  by_cases hacc : (validate x st i).2 = .accept
  · obtain ⟨_, sh, _, ⟨m, hm, _⟩ | ⟨m, hm, _⟩⟩ := accept_cases x st i hacc
    · exact validate_consensus_frame hacc hm k fun s _ he => h (by rw [he])
    · obtain ⟨ss', _, hst⟩ := validate_partial_state hacc hm
      rw [hst]
      exact State.set_other _ _ _ _ fun he => h (by rw [he])
  · rw [validate_state_of_not_accept x st i hacc]

end Ssv.Validation
