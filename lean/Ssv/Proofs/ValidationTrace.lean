/-
C09 helper lemmas: the per-signer limits as an invariant over histories of validation calls, and commutation of
validation calls for different (validator, role) ids.
-/
import Ssv.Proofs.ValidationRules

namespace Ssv.Validation
open Ssv

/-- 0 proposal, 1 prepare, 2 commit (one signer), 3 round change, 4 decided (commit with several signers) -/
def msgKind (m : QMsg) : Nat := if isDecided m then 4 else m.mtype

def kindCount (k : Nat) (c : Counts) : Nat :=
  if k = 0 then c.proposal else if k = 1 then c.prepare else if k = 2 then c.commit else if k = 3 then c.roundChange
  else if k = 4 then c.decided else 0

theorem forall_kind {P : Nat → Prop} (h0 : P 0) (h1 : P 1) (h2 : P 2) (h3 : P 3) (h4 : P 4) (h5 : ∀ k, P (k + 5)) :
    ∀ k, P k
  | 0 => h0 | 1 => h1 | 2 => h2 | 3 => h3 | 4 => h4 | k + 5 => h5 k

/-- a message that passed the type and signer checks is of exactly one of the five kinds -/
theorem msgKind_cases (m : QMsg) (hv : validQBFTMsgType m.mtype = true) (hs : m.signers ≠ []) :
    (m.mtype = 0 ∧ msgKind m = 0) ∨ (m.mtype = 1 ∧ msgKind m = 1) ∨ (m.mtype = 2 ∧ m.signers.length = 1 ∧ msgKind m = 2) ∨
    (m.mtype = 3 ∧ msgKind m = 3) ∨ (m.mtype = 2 ∧ 1 < m.signers.length ∧ msgKind m = 4) := by
  have hl : 0 < m.signers.length := List.length_pos_iff.mpr hs
  unfold msgKind isDecided
  rcases le3_cases _ ((validQBFT_iff _).mp hv) with ht | ht | ht | ht <;> rw [ht]
  · exact .inl ⟨rfl, rfl⟩
  · exact .inr (.inl ⟨rfl, rfl⟩)
  · by_cases h1 : 1 < m.signers.length
    · exact .inr (.inr (.inr (.inr ⟨rfl, h1, if_pos (Bool.and_eq_true_iff.mpr ⟨rfl, decide_eq_true h1⟩)⟩)))
    · exact .inr (.inr (.inl ⟨rfl, Nat.le_antisymm (Nat.le_of_not_gt h1) hl,
        if_neg fun h => h1 (of_decide_eq_true (Bool.and_eq_true_iff.mp h).2)⟩))
  · exact .inr (.inr (.inr (.inl ⟨rfl, rfl⟩)))

/-- `RecordConsensusMessage` increments exactly the counter of the message's kind: in each of the five cases the new
    record is the old one with one field incremented, and the equation is checked kind by kind -/
theorem countsRecord_spec {c c' : Counts} {m : QMsg} (hv : validQBFTMsgType m.mtype = true) (hs : m.signers ≠ [])
    (h : countsRecord c m = .ok c') : ∀ k, kindCount k c' = kindCount k c + if k = msgKind m then 1 else 0 := by
  unfold countsRecord at h
  rcases msgKind_cases m hv hs with ⟨ht, hk⟩ | ⟨ht, hk⟩ | ⟨ht, hl, hk⟩ | ⟨ht, hk⟩ | ⟨ht, hl, hk⟩ <;> rw [hk] <;> rw [ht] at h
  · cases h; exact forall_kind rfl rfl rfl rfl rfl fun _ => rfl
  · cases h; exact forall_kind rfl rfl rfl rfl rfl fun _ => rfl
  · rw [hl] at h; cases h; exact forall_kind rfl rfl rfl rfl rfl fun _ => rfl
  · cases h; exact forall_kind rfl rfl rfl rfl rfl fun _ => rfl
  · change ite (m.signers.length = 1) _ _ = _ at h
    rw [if_neg (by omega), if_pos hl] at h; cases h; exact forall_kind rfl rfl rfl rfl rfl fun _ => rfl

theorem eq_zero_of_limit_ok {n : Nat} {t : Tag} (h : rejectIf (decide (n ≥ 1)) t = .ok ()) : n = 0 :=
  Nat.lt_one_iff.mp (Nat.lt_of_not_ge (rejectIf_decide_ok.mp h))

/-- `ValidateConsensusMessage` passes for a non-decided message only if no message of that kind was counted yet -/
theorem countsValidate_spec (c : Counts) (m : QMsg) (n : Nat) (hv : validQBFTMsgType m.mtype = true) (hs : m.signers ≠ [])
    (h : countsValidate c m n = .ok ()) (hk : msgKind m ≠ 4) : kindCount (msgKind m) c = 0 := by
  unfold countsValidate at h
  rcases msgKind_cases m hv hs with ⟨ht, hk'⟩ | ⟨ht, hk'⟩ | ⟨ht, hl, hk'⟩ | ⟨ht, hk'⟩ | ⟨ht, hl, hk'⟩ <;> rw [hk'] <;> rw [ht] at h
  · exact eq_zero_of_limit_ok h
  · exact eq_zero_of_limit_ok h
  · change firstFail (rejectIf _ _ :: _) = _ at h
    have h1 := ((firstFail_cons_ok_iff _ _).mp h).1
    rw [hl] at h1
    exact eq_zero_of_limit_ok h1
  · exact eq_zero_of_limit_ok h
  · exact absurd hk' hk

/-! ## lexicographic order on (slot, round) -/

def lexLt (a b : Nat × Nat) : Prop := a.1 < b.1 ∨ (a.1 = b.1 ∧ a.2 < b.2)
def lexLe (a b : Nat × Nat) : Prop := lexLt a b ∨ a = b

instance (a b : Nat × Nat) : Decidable (lexLt a b) := by unfold lexLt; infer_instance

theorem lexLt_of_lt_of_le {a b c : Nat × Nat} (h1 : lexLt a b) (h2 : lexLe b c) : lexLt a c := by
  rcases h2 with h2 | rfl
  · rcases h1 with h1 | ⟨e1, h1⟩ <;> rcases h2 with h2 | ⟨e2, h2⟩
    · exact .inl (Nat.lt_trans h1 h2)
    · exact .inl (e2 ▸ h1)
    · exact .inl (e1 ▸ h2)
    · exact .inr ⟨e1.trans e2, Nat.lt_trans h1 h2⟩
  · exact h1

theorem lexLt_irrefl (a : Nat × Nat) : ¬ lexLt a a :=
  fun h => h.elim (Nat.lt_irrefl _) fun h => Nat.lt_irrefl _ h.2

/-! ## one accepted message moves a signer's entry forward -/

/-- what `validateSignerBehaviorConsensus` demands of a message against an existing entry: the message is not behind it,
    and at the entry's own (slot, round) the count check passes and the full data does not conflict -/
structure BehaviorOk (c : NetCfg) (sh : Share) (role : Nat) (m : QMsg) (ss : SignerState) : Prop where
  notBehind : lexLe (ss.slot, ss.round) (m.height, m.round)
  sameRound : (m.height = ss.slot ∧ m.round = ss.round) → countsValidate ss.counts m sh.committee.length = .ok () ∧
    ¬ (hasFullData m = true ∧ ss.proposalData.isSome = true ∧ ss.proposalData ≠ m.fullData)
  dutyCount :
    validateDutyCount ss role (decide (m.height > ss.slot) && decide (epochAtSlot c m.height = epochAtSlot c ss.slot)) = .ok ()
  just : validateJustifications m = .ok ()

theorem behavior_some_spec (c : NetCfg) (sh : Share) (role : Nat) (m : QMsg) (ss : SignerState)
    (h : signerBehaviorConsensus c sh role m (some ss) = .ok ()) : BehaviorOk c sh role m ss := by
  simp only [signerBehaviorConsensus, firstFail_cons_ok_iff] at h
  obtain ⟨h1, h2, h3, h4, h5, h6, -⟩ := h
  have hslot : ss.slot ≤ m.height := Nat.le_of_not_gt (rejectIf_decide_ok.mp h1)
  refine ⟨?_, fun ⟨e1, e2⟩ => ?_, h3, h6⟩
  · rcases Nat.lt_or_eq_of_le hslot with hlt | heq
    · exact .inl (.inl hlt)
    · have hr : ss.round ≤ m.round := Nat.le_of_not_gt fun hr => by
        have := (rejectIf_ok_iff _ _).mp h2
        rw [decide_eq_true heq.symm, decide_eq_true hr] at this
        cases this
      rcases Nat.lt_or_eq_of_le hr with hlt | heq'
      · exact .inl (.inr ⟨heq, hlt⟩)
      · exact .inr (by rw [heq, heq'])
  · rw [decide_eq_true e1, decide_eq_true e2] at h4 h5
    refine ⟨h5, fun ⟨a1, a2, a3⟩ => ?_⟩
    have := (rejectIf_ok_iff _ _).mp h4
    rw [a1, a2] at this
    exact a3 (by simpa using this)

section
variable {c : NetCfg} {m : QMsg} {ss : SignerState} {ss? : Option SignerState}

/-- the checks pass only for a message that is not behind the signer's entry (a fresh signer counts as (0, 0)) -/
theorem behavior_lexLe {sh : Share} {role : Nat}
    (h : signerBehaviorConsensus c sh role m ss? = .ok ()) :
    lexLe ((ss?.getD {}).slot, (ss?.getD {}).round) (m.height, m.round) := by
  cases ss? with
  | some ss => exact (behavior_some_spec c sh role m ss h).notBehind
  | none =>
    rcases Nat.eq_zero_or_pos m.height with h0 | h0
    · rcases Nat.eq_zero_or_pos m.round with r0 | r0
      · exact .inr (by rw [h0, r0]; rfl)
      · exact .inl (.inr ⟨h0.symm, r0⟩)
    · exact .inl (.inl h0)

theorem SignerState.advance_pos (c : NetCfg) (h : lexLe (ss.slot, ss.round) (m.height, m.round)) :
    (ss.advance c m).slot = m.height ∧ (ss.advance c m).round = m.round := by
  unfold SignerState.advance
  by_cases h1 : m.height > ss.slot
  · rw [if_pos h1]; exact ⟨rfl, rfl⟩
  · by_cases h2 : m.height = ss.slot ∧ m.round > ss.round
    · rw [if_neg h1, if_pos h2]; exact ⟨h2.1.symm, rfl⟩
    · rw [if_neg h1, if_neg h2]
      rcases h with (h | h) | h
      · exact absurd h h1
      · exact absurd ⟨h.1.symm, h.2⟩ h2
      · exact ⟨congrArg Prod.fst h, congrArg Prod.snd h⟩

theorem SignerState.advance_same (c : NetCfg) (h : (ss.slot, ss.round) = (m.height, m.round)) : ss.advance c m = ss := by
  have h1 : ss.slot = m.height := congrArg Prod.fst h
  have h2 : ss.round = m.round := congrArg Prod.snd h
  unfold SignerState.advance
  rw [if_neg (by omega), if_neg (by omega)]

/-- the entry `new` of a signer after an accepted consensus message `m`, against its entry `old` before: it sits at the
    message's (slot, round) and has counted the message's kind; if `old` sat there already exactly that counter grew by one -/
structure Counted (m : QMsg) (old new : SignerState) : Prop where
  pos : (new.slot, new.round) = (m.height, m.round)
  counted : 1 ≤ kindCount (msgKind m) new.counts
  grew : (old.slot, old.round) = (m.height, m.round) →
    ∀ k, kindCount k new.counts = kindCount k old.counts + if k = msgKind m then 1 else 0

theorem updSignerConsensus_spec {ss' : SignerState}
    (hv : validQBFTMsgType m.mtype = true) (hs : m.signers ≠ [])
    (hle : lexLe ((ss?.getD {}).slot, (ss?.getD {}).round) (m.height, m.round))
    (h : updSignerConsensus c m ss? = .ok ss') : Counted m (ss?.getD {}) ss' := by
  rw [updSignerConsensus_eq] at h
  split at h
  · rename_i cnt hcnt
    cases h
    have hrec := countsRecord_spec hv hs hcnt
    obtain ⟨p1, p2⟩ := SignerState.advance_pos c hle
    refine ⟨Prod.ext ((SignerState.noteData_slot m _).trans p1) ((SignerState.noteData_round m _).trans p2), ?_, fun heq k => ?_⟩
    · have := hrec (msgKind m)
      rw [if_pos rfl] at this
      exact this ▸ Nat.le_add_left _ _
    · have := hrec k
      rwa [SignerState.advance_same c heq] at this
  · cases h

end

/-! ## partial-signature messages never move a signer's entry backwards and never touch the consensus counters -/

theorem behaviorPartial_some_spec (c : NetCfg) (role : Nat) (m : PMsg) (ss : SignerState)
    (h : signerBehaviorPartial c role m (some ss) = .ok ()) : ss.slot ≤ m.slot := by
  simp only [signerBehaviorPartial, firstFail_cons_ok_iff] at h
  exact Nat.le_of_not_gt (rejectIf_decide_ok.mp h.1)

theorem kindCount_partial {c c' : Counts} {t : Nat} (h : countsRecordPartial c t = .ok c') (k : Nat) :
    kindCount k c' = kindCount k c := by
  unfold countsRecordPartial at h
  split at h
  · cases h; revert k; exact forall_kind rfl rfl rfl rfl rfl fun _ => rfl
  · split at h
    · cases h; revert k; exact forall_kind rfl rfl rfl rfl rfl fun _ => rfl
    · cases h

theorem updPartial_spec {c : NetCfg} {m : PMsg} {ss ss' : SignerState} (h : updPartial c m (some ss) = .ok ss') :
    lexLe (ss.slot, ss.round) (ss'.slot, ss'.round) ∧
    ((ss'.slot, ss'.round) = (ss.slot, ss.round) → ∀ k, kindCount k ss'.counts = kindCount k ss.counts) := by
  unfold updPartial at h
  simp only [Option.getD_some] at h
  split at h
  · rename_i cnt hcnt
    cases h
    by_cases hgt : m.slot > ss.slot
    · -- the entry is reset to the later slot
      simp only [if_pos hgt]
      exact ⟨.inl (.inl hgt), fun heq => absurd (congrArg Prod.fst heq) (Nat.ne_of_gt hgt)⟩
    · simp only [if_neg hgt] at hcnt ⊢
      exact ⟨.inr rfl, fun _ k => kindCount_partial hcnt k⟩
  · cases h

/-- number of ACCEPTED inputs satisfying `p` along a history of validation calls starting in state `st` -/
def countAcc (x : Ctx) (p : Input → Bool) : State → List Input → Nat
  | _, [] => 0
  | st, i :: rest =>
    (if (validate x st i).2 = .accept ∧ p i = true then 1 else 0) + countAcc x p (validate x st i).1 rest

/-- "a consensus message of kind `kind` for (validator, role), signed (also) by `s`, for (slot, round)" -/
def isKindAt (kind vid role s slot round : Nat) (i : Input) : Bool :=
  match i.body with
  | .consensus m => i.vid == vid && i.role == role && m.signers.contains s && m.height == slot && m.round == round && msgKind m == kind
  | _ => false

/-- the budget of (kind, slot, round) is used up in this state: the entry already counted such a message at this
    (slot, round), or it has moved past (slot, round) -/
def usedUp (kind vid role s slot round : Nat) (st : State) : Prop :=
  ∃ ss, st (vid, role, s) = some ss ∧
    (lexLt (slot, round) (ss.slot, ss.round) ∨ ((ss.slot, ss.round) = (slot, round) ∧ 1 ≤ kindCount kind ss.counts))

/-- entries only move forward: one call leaves an existing entry at a (slot, round) that is not smaller, and while it
    stays at its (slot, round) no consensus counter shrinks -/
theorem validate_entry_mono (x : Ctx) {st : State} (i : Input) {k : Key} {ss : SignerState} (hss : st k = some ss) :
    ∃ ss', (validate x st i).1 k = some ss' ∧ lexLe (ss.slot, ss.round) (ss'.slot, ss'.round) ∧
      ((ss.slot, ss.round) = (ss'.slot, ss'.round) → ∀ kind, kindCount kind ss.counts ≤ kindCount kind ss'.counts) := by
  by_cases hch : (validate x st i).1 k = st k
  · exact ⟨ss, hch ▸ hss, .inr rfl, fun _ _ => Nat.le_refl _⟩
  -- an entry that changes is the entry of a signer of an accepted message
  have hacc : (validate x st i).2 = .accept :=
    Decidable.byContradiction fun h => hch (by rw [validate_state_of_not_accept x st i h])
  obtain ⟨_, sh, _, ⟨m, hm, _, hok⟩ | ⟨m, hm, _, hok⟩⟩ := accept_cases x st i hacc
  · obtain ⟨s, hmem, rfl⟩ : ∃ s ∈ m.signers, k = (i.vid, i.role, s) :=
      Decidable.byContradiction fun hk => hch (validate_consensus_frame hacc hm k fun s hs he => hk ⟨s, hs, he⟩)
    obtain ⟨ss', hupd, hnew⟩ := validate_consensus_entry hacc hm s hmem
    have hbeh := hok.behaviorOk _ hmem
    rw [hss] at hbeh hupd
    have hle := behavior_lexLe hbeh
    have hu := updSignerConsensus_spec (ss? := some ss) hok.typeOk
      (validConsensusSigners_nonempty sh m hok.signersOk) hle hupd
    refine ⟨ss', hnew, hu.pos ▸ hle, fun heq kind => ?_⟩
    rw [hu.grew (heq.trans hu.pos) kind]
    exact Nat.le_add_right _ _
  · obtain ⟨ss', hupd, hst⟩ := validate_partial_state hacc hm
    have hk : k = (i.vid, i.role, m.signer) :=
      Decidable.byContradiction fun hk => hch (by rw [hst]; exact State.set_other _ _ _ _ hk)
    rw [← hk, hss] at hupd
    obtain ⟨p1, p2⟩ := updPartial_spec hupd
    exact ⟨ss', by rw [hst, hk]; exact State.set_same _ _ _, p1, fun heq kind => Nat.le_of_eq (p2 heq.symm kind).symm⟩

section
variable {x : Ctx} {kind vid role s slot round : Nat} {st : State} {i : Input}

theorem usedUp_mono
    (h : usedUp kind vid role s slot round st) : usedUp kind vid role s slot round (validate x st i).1 := by
  obtain ⟨ss, hss, hcase⟩ := h
  obtain ⟨ss', hnew, hle, hcnt'⟩ := validate_entry_mono x i hss
  refine ⟨ss', hnew, ?_⟩
  rcases hcase with hlt | ⟨heq, hcnt⟩
  · exact .inl (lexLt_of_lt_of_le hlt hle)
  · rcases hle with hlt | heq2
    · exact .inl (heq ▸ hlt)
    · exact .inr ⟨heq2 ▸ heq, Nat.le_trans hcnt (hcnt' heq2 kind)⟩

theorem accept_uses_budget (hkind : kind ≠ 4)
    (hacc : (validate x st i).2 = .accept) (hp : isKindAt kind vid role s slot round i = true) :
    ¬ usedUp kind vid role s slot round st ∧ usedUp kind vid role s slot round (validate x st i).1 := by
  unfold isKindAt at hp
  split at hp
  · rename_i m hm
    simp only [Bool.and_eq_true, beq_iff_eq, List.contains_iff_mem] at hp
    obtain ⟨⟨⟨⟨⟨e1, e2⟩, hmem⟩, e3⟩, e4⟩, e5⟩ := hp
    subst e1 e2 e3 e4 e5
    obtain ⟨sh, _, hok⟩ := accept_consensus_guards hacc hm
    have hne := validConsensusSigners_nonempty sh m hok.signersOk
    have hbeh := hok.behaviorOk _ hmem
    obtain ⟨ss', hupd, hnew⟩ := validate_consensus_entry hacc hm s hmem
    have hu := updSignerConsensus_spec hok.typeOk hne (behavior_lexLe hbeh) hupd
    refine ⟨?_, ss', hnew, .inr ⟨hu.pos, hu.counted⟩⟩
    rintro ⟨ss, hss, hcase⟩
    rw [hss] at hbeh
    have hb := behavior_some_spec x.cfg sh _ m ss hbeh
    rcases hcase with hlt | ⟨heq, hcnt⟩
    · -- the entry is already past the message: the message is behind it
      exact lexLt_irrefl _ (lexLt_of_lt_of_le hlt hb.notBehind)
    · -- the entry is at the message's (slot, round): the count check passed, so nothing of this kind was counted
      obtain ⟨hcv, -⟩ := hb.sameRound ⟨(congrArg Prod.fst heq).symm, (congrArg Prod.snd heq).symm⟩
      rw [countsValidate_spec ss.counts m _ hok.typeOk hne hcv hkind] at hcnt
      exact absurd hcnt (by decide)
  · cases hp

end

/-- starting from ANY state, along ANY history, at most one message of a given non-decided kind is accepted
    per (validator, role, signer, slot, round); none if the budget is already used up -/
theorem countAcc_le (x : Ctx) (kind vid role s slot round : Nat) (hkind : kind ≠ 4) (hist : List Input) :
    ∀ st, (usedUp kind vid role s slot round st → countAcc x (isKindAt kind vid role s slot round) st hist = 0) ∧
          countAcc x (isKindAt kind vid role s slot round) st hist ≤ 1 := by
  induction hist with
  | nil => intro st; exact ⟨fun _ => rfl, Nat.zero_le _⟩
  | cons i rest ih =>
    intro st
    unfold countAcc
    obtain ⟨ih0, ih1⟩ := ih (validate x st i).1
    by_cases hev : (validate x st i).2 = .accept ∧ isKindAt kind vid role s slot round i = true
    · obtain ⟨hnot, hnow⟩ := accept_uses_budget hkind hev.1 hev.2
      simp only [hev, and_self, if_true]
      rw [ih0 hnow]
      exact ⟨fun hu => absurd hu hnot, Nat.le_refl _⟩
    · simp only [hev, if_false, Nat.zero_add]
      exact ⟨fun hu => ih0 (usedUp_mono hu), ih1⟩

section
variable (x : Ctx) {st1 st2 : State} {i : Input} (h : ∀ s, st1 (i.vid, i.role, s) = st2 (i.vid, i.role, s))
include h

/-- the verdict depends only on the entries of the message's own (validator, role) -/
theorem validate_congr_out : (validate x st1 i).2 = (validate x st2 i).2 := by
  rw [validate_verdict, validate_verdict, check_congr x h]

/-- … and so do the new entries of that (validator, role) -/
theorem validate_congr_state :
    ∀ s, (validate x st1 i).1 (i.vid, i.role, s) = (validate x st2 i).1 (i.vid, i.role, s) := by
  intro s
  -- each new entry is the old one or its update by the message, and the old entries agree
  have hout := validate_congr_out x h
  by_cases hacc : (validate x st1 i).2 = .accept
  · have hacc2 := hout ▸ hacc
    obtain ⟨_, sh, _, ⟨m, hm, _⟩ | ⟨m, hm, _⟩⟩ := accept_cases x st1 i hacc
    · by_cases hs : s ∈ m.signers
      · obtain ⟨a, ha, hna⟩ := validate_consensus_entry hacc hm s hs
        obtain ⟨b, hb, hnb⟩ := validate_consensus_entry hacc2 hm s hs
        rw [h s, hb] at ha
        rw [hna, hnb, Except.ok.inj ha]
      · have hk : ∀ s' ∈ m.signers, (i.vid, i.role, s) ≠ (i.vid, i.role, s') := fun s' hs' he => hs (by cases he; exact hs')
        rw [validate_consensus_frame hacc hm _ hk, validate_consensus_frame hacc2 hm _ hk]
        exact h s
    · obtain ⟨a, ha, hsa⟩ := validate_partial_state hacc hm
      obtain ⟨b, hb, hsb⟩ := validate_partial_state hacc2 hm
      rw [h m.signer, hb] at ha
      rw [hsa, hsb, Except.ok.inj ha]
      unfold State.set
      rw [h s]
  · rw [validate_state_of_not_accept x st1 i hacc, validate_state_of_not_accept x st2 i (hout ▸ hacc)]
    exact h s

end

/-- two calls for different (validator, role) ids give the same verdicts and the same final state in either order -/
theorem validate_commutes (x : Ctx) (st : State) (a b : Input) (hid : a.vid ≠ b.vid ∨ a.role ≠ b.role) :
    (validate x (validate x st a).1 b).2 = (validate x st b).2 ∧
    (validate x (validate x st b).1 a).2 = (validate x st a).2 ∧
    (validate x (validate x st a).1 b).1 = (validate x (validate x st b).1 a).1 := by
  have hab : (a.vid, a.role) ≠ (b.vid, b.role) := fun h => hid.elim (· (congrArg Prod.fst h)) (· (congrArg Prod.snd h))
  have fa : ∀ s, (validate x st a).1 (b.vid, b.role, s) = st (b.vid, b.role, s) := fun s => validate_frame x st a _ hab.symm
  have fb : ∀ s, (validate x st b).1 (a.vid, a.role, s) = st (a.vid, a.role, s) := fun s => validate_frame x st b _ hab
  refine ⟨validate_congr_out x fa, validate_congr_out x fb, funext fun k => ?_⟩
  -- an entry of `a`'s id is written by `a` only, one of `b`'s id by `b` only, any other by neither
  by_cases ha : (k.1, k.2.1) = (a.vid, a.role)
  · obtain ⟨k1, k2, k3⟩ := k
    cases ha
    rw [validate_frame x _ b _ hab]
    exact (validate_congr_state x fb k3).symm
  · by_cases hb : (k.1, k.2.1) = (b.vid, b.role)
    · obtain ⟨k1, k2, k3⟩ := k
      cases hb
      rw [validate_frame x (validate x st b).1 a _ hab.symm]
      exact validate_congr_state x fa k3
    · rw [validate_frame x _ b _ hb, validate_frame x _ a _ ha, validate_frame x _ a _ ha, validate_frame x _ b _ hb]

end Ssv.Validation
