/-
C08 helper lemmas: no check of the validation pipeline yields a panic outcome, because every panicking
`switch` / index expression is dominated by an earlier guard; hence the state update cannot fail once every
guard has passed, and a call accepts exactly when `check` passes.
-/
import Ssv.Proofs.Validation

namespace Ssv.Validation
open Ssv

/-- shares as the registry creates them: a non-empty committee of at most 2^31 − 1 operators
    (the registry only admits committees of 4, 7, 10 or 13 operators — property C11) -/
def ShareWF (sh : Share) : Prop := 0 < sh.committee.length ∧ sh.committee.length < 2147483648

def InputWF (i : Input) : Prop := ∀ sh, i.share = some sh → ShareWF sh

section
variable {x : Ctx} {st : State} {i : Input} {sh : Share} {m : QMsg} {c : NetCfg} {role : Nat} {ss : SignerState}
  {ss? : Option SignerState} {e : Fail}

theorem signatureFormat_noPanic {l : Nat} {z : Bool} : NoPanic (signatureFormat l z) := by
  refine noPanic_rejectIf_cons fun h => noPanic_cons ?_ fun _ => noPanic_nil
  -- the length check has passed: the conversion is not reached with a short slice
  have hl : l = Gen.val_signatureSize := by simpa using h
  rw [hl, show Nat.blt Gen.val_signatureSize Gen.val_signatureSize = false from rfl]
  exact noPanic_rejectIf

theorem validateSlotTime_noPanic {slot role : Nat} {now : GoTime} : NoPanic (validateSlotTime c slot role now) :=
  noPanic_rejectIf_cons fun _ => noPanic_rejectIf_cons fun _ => noPanic_nil

theorem commonSigner_noPanic {s : Nat} : NoPanic (commonSigner sh s) :=
  noPanic_rejectIf_cons fun _ => noPanic_rejectIf_cons fun _ => noPanic_nil

theorem signerLoop_noPanic (l : List Nat) : ∀ prev, NoPanic (signerLoop sh prev l) := by
  induction l with
  | nil => intro prev; exact noPanic_ok
  | cons s rest ih =>
    intro prev
    exact noPanic_cons commonSigner_noPanic fun _ => noPanic_rejectIf_cons fun _ =>
      noPanic_cons (ih s) fun _ => noPanic_nil

theorem validateBeaconDuty_noPanic {role slot : Nat} : NoPanic (validateBeaconDuty x role slot sh) := by
  unfold validateBeaconDuty
  split
  · exact noPanic_rejectIf_cons fun _ => noPanic_rejectIf_cons fun _ => noPanic_nil
  · split
    · exact noPanic_rejectIf_cons fun _ => noPanic_rejectIf_cons fun _ => noPanic_nil
    · exact noPanic_ok

theorem validateJustifications_noPanic : NoPanic (validateJustifications m) :=
  noPanic_rejectIf_cons fun _ => noPanic_rejectIf_cons fun _ =>
    noPanic_rejectIf_cons fun _ => noPanic_rejectIf_cons fun _ =>
      noPanic_rejectIf_cons fun _ => noPanic_nil

theorem validateDutyCount_noPanic {b : Bool} : NoPanic (validateDutyCount ss role b) := by
  unfold validateDutyCount
  split
  · exact noPanic_rejectIf
  · exact noPanic_ok

theorem envSigCheck_noPanic {e : EnvSig} : NoPanic (envSigCheck e) := by
  cases e
  · exact noPanic_ok
  · exact noPanic_ok
  · exact noPanic_failT
  · exact noPanic_failT

theorem signerBehaviorConsensus_noPanic
    (hv : validQBFTMsgType m.mtype = true) : NoPanic (signerBehaviorConsensus c sh role m ss?) := by
  cases ss? with
  | none => exact validateJustifications_noPanic
  | some ss =>
    refine noPanic_rejectIf_cons fun _ => noPanic_rejectIf_cons fun _ =>
      noPanic_cons validateDutyCount_noPanic fun _ => noPanic_rejectIf_cons fun _ =>
        noPanic_cons ?_ fun _ => noPanic_cons validateJustifications_noPanic fun _ => noPanic_nil
    split
    · exact countsValidate_noPanic hv
    · exact noPanic_ok

theorem signerBehaviorPartial_noPanic {m : PMsg}
    (hv : validPartialSigMsgType m.ptype = true) : NoPanic (signerBehaviorPartial c role m ss?) := by
  cases ss? with
  | none => exact noPanic_ok
  | some ss =>
    refine noPanic_rejectIf_cons fun _ => noPanic_cons validateDutyCount_noPanic fun _ =>
      noPanic_cons ?_ fun _ => noPanic_nil
    split
    · exact countsValidatePartial_noPanic hv
    · exact noPanic_ok

theorem partialItemLoop_noPanic {signer : Nat} (l : List PItem) : ∀ seen, NoPanic (partialItemLoop sh signer seen l) := by
  induction l with
  | nil => intro seen; exact noPanic_ok
  | cons it rest ih =>
    intro seen
    exact noPanic_rejectIf_cons fun _ => noPanic_rejectIf_cons fun _ =>
      noPanic_cons commonSigner_noPanic fun _ => noPanic_cons signatureFormat_noPanic fun _ =>
        noPanic_cons (ih _) fun _ => noPanic_nil

theorem validatePartialMessages_noPanic {m : PMsg} : NoPanic (validatePartialMessages sh m) :=
  noPanic_cons commonSigner_noPanic fun _ => noPanic_rejectIf_cons fun _ =>
    noPanic_cons (partialItemLoop_noPanic _ _) fun _ => noPanic_nil

/-! ## the slot window bounds the height before the leader is computed -/

/-- the estimated slot is below 2^62: a slot lasts at least two seconds and unix times are int64 -/
theorem slotAtTime_range (hc : c.WF) {u : Int} (hu : u < two63) :
    0 ≤ slotAtTime c u ∧ slotAtTime c u < 4611686018427387904 := by
  unfold slotAtTime
  obtain ⟨hd, _, _, hg⟩ := hc
  have hd2 : (2 : Int) ≤ c.slotDur := Int.ofNat_le.mpr hd
  split
  · exact ⟨Int.le_refl 0, by decide⟩
  · have hx0 : 0 ≤ u - (c.genesis : Int) := by omega
    rw [wrapU64_id _ hx0 (by unfold two63 two64 at *; omega)]
    exact ⟨Int.ediv_nonneg hx0 (by omega), Int.ediv_lt_of_lt_mul (by omega) (by unfold two63 at hu; omega)⟩

theorem validateSlotTime_not_early {slot role : Nat} {now : GoTime} (h : validateSlotTime c slot role now = .ok ()) :
    earlyMessage c slot now = false :=
  (rejectIf_ok_iff _ _).mp ((firstFail_cons_ok_iff _ _).mp h).1

/-- a slot that is not early is at most the current slot + 1, hence far below 2^63 -/
theorem slot_lt_of_not_early {slot : Nat} {now : GoTime} (hc : c.WF) (he : earlyMessage c slot now = false) :
    (slot : Int) < two63 := by
  unfold earlyMessage at he
  obtain ⟨s0, s1⟩ := slotAtTime_range hc (u := now.toUnix) (wrapI64_range _).2
  simp only at he
  split at he
  · cases he
  · rename_i hgt
    rw [wrapU64_id _ (by omega) (by unfold two64; omega)] at hgt
    unfold two63
    omega

theorem signersShape_noPanic (hw : ShareWF sh) (hh : (m.height : Int) < two63)
    (hr1 : 1 ≤ m.round) (hr2 : m.round ≤ 12) : NoPanic (signersShape sh m) := by
  unfold signersShape
  split
  · exact noPanic_failT
  · split
    · obtain ⟨op, hop, _⟩ := roundRobinProposer_ok sh.committee m.height m.round hw.1 hw.2 hh hr1 hr2
      rw [hop]
      exact noPanic_rejectIf
    · exact noPanic_ok
  · split
    · exact noPanic_failT
    · exact noPanic_rejectIf

theorem validConsensusSigners_noPanic (hw : ShareWF sh) (hh : (m.height : Int) < two63)
    (hr1 : 1 ≤ m.round) (hr2 : m.round ≤ 12) : NoPanic (validConsensusSigners sh m) :=
  noPanic_cons (signersShape_noPanic hw hh hr1 hr2) fun _ => noPanic_rejectIf_cons fun _ =>
    noPanic_cons (signerLoop_noPanic _ _) fun _ => noPanic_nil

theorem consensusChecks_noPanic (hc : x.cfg.WF) (hrole : validRole i.role = true) (hw : ShareWF sh) : NoPanic (firstFail (consensusChecks x st i sh m)) := by
  obtain ⟨mx, hmx, hle⟩ := maxRound_of_validRole i.role hrole
  unfold consensusChecks
  rw [hmx]
  refine noPanic_rejectIf_cons fun _ => noPanic_cons signatureFormat_noPanic fun _ =>
    noPanic_rejectIf_cons fun hty => noPanic_rejectIf_cons fun hz => noPanic_rejectIf_cons fun hmax =>
    noPanic_cons validateSlotTime_noPanic fun hslot => noPanic_cons ?_ fun _ =>
    noPanic_rejectIf_cons fun _ => noPanic_rejectIf_cons fun _ => noPanic_cons validateBeaconDuty_noPanic fun _ =>
    noPanic_cons ?_ fun _ => noPanic_cons envSigCheck_noPanic fun _ => noPanic_nil
  · -- the leader computation: round in [1, 12], height inside the slot window
    have hr2 : m.round ≤ mx := Nat.le_of_not_gt (of_decide_eq_false hmax)
    have hr1 : m.round ≠ 0 := fun h0 => by rw [h0] at hz; cases hz
    exact validConsensusSigners_noPanic hw (slot_lt_of_not_early hc (validateSlotTime_not_early hslot)) (by omega) (by omega)
  · refine firstFail_noPanic _ (noPanicSeq_of_all _ fun c' hc' => ?_)
    obtain ⟨s, _, rfl⟩ := List.mem_map.mp hc'
    exact signerBehaviorConsensus_noPanic ((Bool.not_eq_false' _).mp hty)

theorem partialChecks_noPanic {m : PMsg} (hrole : validRole i.role = true) : NoPanic (firstFail (partialChecks x st i sh m)) := by
  obtain ⟨b, hb⟩ := partialTypeMatchesRole_of_validRole m.ptype i.role hrole
  unfold partialChecks
  rw [hb]
  exact noPanic_rejectIf_cons fun hty => noPanic_rejectIf_cons fun _ => noPanic_rejectIf_cons fun _ =>
    noPanic_cons validatePartialMessages_noPanic fun _ =>
    noPanic_cons (signerBehaviorPartial_noPanic ((Bool.not_eq_false' _).mp hty)) fun _ =>
    noPanic_cons signatureFormat_noPanic fun _ => noPanic_cons envSigCheck_noPanic fun _ => noPanic_nil

theorem preChecks_noPanic : NoPanic (firstFail (preChecks i)) := by
  refine noPanic_rejectIf_cons fun _ => noPanic_rejectIf_cons fun _ =>
    noPanic_rejectIf_cons fun _ => noPanic_rejectIf_cons fun _ =>
      noPanic_rejectIf_cons fun _ => noPanic_cons ?_ fun _ => noPanic_nil
  split
  · exact noPanic_failT
  · exact noPanic_rejectIf_cons fun _ => noPanic_rejectIf_cons fun _ =>
      noPanic_rejectIf_cons fun _ => noPanic_nil

theorem check_noPanic (hc : x.cfg.WF) (hi : InputWF i) : NoPanic (check x st i) := by
  unfold check
  split
  · rename_i e _ he
    intro s hs
    cases hs
    exact preChecks_noPanic s he
  · exact noPanic_failT
  · rename_i sh hpre hsh
    have hrole := (preChecks_ok_spec i hpre).roleOk
    split
    · exact noPanic_failT
    · exact noPanic_failT
    · exact noPanic_failT
    · exact noPanic_rejectIf_cons fun _ => consensusChecks_noPanic hc hrole (hi sh hsh)
    · exact noPanic_rejectIf_cons fun _ => partialChecks_noPanic hrole

/-! ## the update of one signer's entry, in two steps -/

/-- the entry a consensus message is counted against: the signer's entry moved up to the message's slot and round -/
def SignerState.advance (c : NetCfg) (m : QMsg) (ss : SignerState) : SignerState :=
  if m.height > ss.slot then ss.resetSlot m.height m.round (decide (epochAtSlot c m.height > epochAtSlot c ss.slot))
  else if m.height = ss.slot ∧ m.round > ss.round then ss.resetRound m.round
  else ss

/-- the first full data seen at a (slot, round) is remembered -/
def SignerState.noteData (m : QMsg) (ss : SignerState) : SignerState :=
  if hasFullData m && ss.proposalData.isNone then { ss with proposalData := m.fullData } else ss

theorem SignerState.noteData_slot (m : QMsg) (ss : SignerState) : (ss.noteData m).slot = ss.slot := by
  unfold SignerState.noteData
  split <;> rfl

theorem SignerState.noteData_round (m : QMsg) (ss : SignerState) : (ss.noteData m).round = ss.round := by
  unfold SignerState.noteData
  split <;> rfl

theorem SignerState.noteData_counts (m : QMsg) (ss : SignerState) : (ss.noteData m).counts = ss.counts := by
  unfold SignerState.noteData
  split <;> rfl

theorem updSignerConsensus_eq (c : NetCfg) (m : QMsg) (ss? : Option SignerState) :
    updSignerConsensus c m ss? =
      match countsRecord ((ss?.getD {}).advance c m).counts m with
      | .ok cnt => .ok { ((ss?.getD {}).advance c m).noteData m with counts := cnt }
      | .error e => .error e := by
  rw [← SignerState.noteData_counts m]
  rfl

/-! ## the state update cannot fail once every guard passed -/

theorem updConsensus_ok (c : NetCfg) (vid role : Nat) (m : QMsg) (hv : validQBFTMsgType m.mtype = true) (hs : m.signers ≠ [])
    (l : List Nat) : ∀ st, ∃ st', updConsensus c vid role m l st = .ok st' := by
  induction l with
  | nil => intro st; exact ⟨st, rfl⟩
  | cons s rest ih =>
    intro st
    obtain ⟨c', hc'⟩ := countsRecord_ok (((st (vid, role, s)).getD {}).advance c m).counts m hv hs
    unfold updConsensus
    rw [updSignerConsensus_eq, hc']
    exact ih _

theorem updPartial_ok (c : NetCfg) (m : PMsg) (ss? : Option SignerState) (hv : validPartialSigMsgType m.ptype = true) :
    ∃ ss, updPartial c m ss? = .ok ss := by
  unfold updPartial
  simp only
  generalize (if m.slot > (ss?.getD {}).slot then _ else ss?.getD {}) = ss
  obtain ⟨c', hc'⟩ := countsRecordPartial_ok ss.counts m.ptype hv
  rw [hc']
  exact ⟨_, rfl⟩

/-- a signer list that passes is non-empty: `signersShape` fails on `[]` -/
theorem validConsensusSigners_nonempty (sh : Share) (m : QMsg) (h : validConsensusSigners sh m = .ok ()) : m.signers ≠ [] := by
  have h1 := ((firstFail_cons_ok_iff _ _).mp h).1
  intro hn
  unfold signersShape at h1
  rw [hn] at h1
  cases h1

theorem update_ok_of_check_ok (x : Ctx) (st : State) (i : Input) (h : check x st i = .ok ()) : ∃ st', update x st i = .ok st' := by
  obtain ⟨_, sh, _, ⟨m, hm, _, hok⟩ | ⟨m, hm, _, hok⟩⟩ := check_ok_spec h <;> unfold update <;> rw [hm]
  · exact updConsensus_ok _ _ _ _ hok.typeOk (validConsensusSigners_nonempty sh m hok.signersOk) _ _
  · obtain ⟨ss, hss⟩ := updPartial_ok x.cfg m (st (i.vid, i.role, m.signer)) hok.typeOk
    simp only [hss]
    exact ⟨_, rfl⟩

theorem validate_of_error (h : check x st i = .error e) :
    validate x st i = (st, Outcome.ofChk (.error e)) := by
  unfold validate
  rw [h]

theorem validate_of_ok (h : check x st i = .ok ()) :
    ∃ st', update x st i = .ok st' ∧ validate x st i = (st', .accept) := by
  obtain ⟨st', hst'⟩ := update_ok_of_check_ok x st i h
  refine ⟨st', hst', ?_⟩
  unfold validate
  rw [h]
  simp only [hst']

/-- the verdict of a call is that of `check`: once every guard has passed the update cannot fail -/
theorem validate_verdict (x : Ctx) (st : State) (i : Input) : (validate x st i).2 = Outcome.ofChk (check x st i) := by
  cases hck : check x st i with
  | ok u => obtain ⟨st', _, hv⟩ := validate_of_ok hck; rw [hv]; rfl
  | error e => rw [validate_of_error hck]

theorem validate_noPanic (x : Ctx) (hc : x.cfg.WF) (st : State) (i : Input) (hi : InputWF i) (s : PanicSite) :
    (validate x st i).2 ≠ .panic s :=
  fun h => check_noPanic hc hi s (ofChk_panic _ _ (validate_verdict x st i ▸ h))

theorem validateP2P_noPanic (x : Ctx) (hc : x.cfg.WF) (st : State) (p : P2PInput) (hi : InputWF p.inner) (s : PanicSite) :
    (validateP2P x st p).2 ≠ .panic s := by
  unfold validateP2P
  simp only
  split
  · rename_i e he
    intro h
    have hp := ofChk_panic _ _ h
    cases hp
    -- the five envelope guards of `validateP2PMessage` are `rejectIf`s: they fail with a tag only
    exact (noPanic_rejectIf_cons fun _ => noPanic_rejectIf_cons fun _ =>
      noPanic_rejectIf_cons fun _ => noPanic_rejectIf_cons fun _ =>
        noPanic_rejectIf_cons fun _ => noPanic_nil) s he
  · exact validate_noPanic x hc st { p.inner with envSig := if forkActive x.cfg p.inner.now then p.sig.toEnv else .none } hi s

theorem validate_accept_iff (x : Ctx) (st : State) (i : Input) : (validate x st i).2 = .accept ↔ check x st i = .ok () := by
  rw [validate_verdict]
  exact ofChk_accept _

theorem validate_state_of_not_accept (x : Ctx) (st : State) (i : Input) (h : (validate x st i).2 ≠ .accept) :
    (validate x st i).1 = st := by
  cases hck : check x st i with
  | ok u => exact absurd ((validate_accept_iff x st i).mpr hck) h
  | error e => rw [validate_of_error hck]

theorem validate_state_of_accept (x : Ctx) (st : State) (i : Input) (h : check x st i = .ok ()) :
    update x st i = .ok (validate x st i).1 := by
  obtain ⟨st', hu, hv⟩ := validate_of_ok h
  rw [hv]
  exact hu

theorem accept_cases (x : Ctx) (st : State) (i : Input) (h : (validate x st i).2 = .accept) : Passed x st i :=
  check_ok_spec ((validate_accept_iff x st i).mp h)

theorem accept_consensus_guards (hacc : (validate x st i).2 = .accept) (hm : i.body = .consensus m) :
    ∃ sh, i.share = some sh ∧ ConsensusOk x st i sh m := by
  obtain ⟨_, sh, hsh, ⟨m', hm', _, hok⟩ | ⟨m', hm', _⟩⟩ := accept_cases x st i hacc <;> cases hm.symm.trans hm'
  exact ⟨sh, hsh, hok⟩

/-! ## size limits are checked before the decoded message is looked at -/

theorem check_too_big_independent_of_body (x : Ctx) (st : State) (i : Input) (b : Body)
    (h : Gen.val_maxMessageSize < i.dataLen) : check x st { i with body := b } = check x st i := by
  -- the pre-checks do not look at the body, and they fail at the size guard
  have h0 : decide (i.dataLen = 0) = false := decide_eq_false (Nat.ne_of_gt (Nat.zero_lt_of_lt h))
  have h1 : Nat.blt Gen.val_maxMessageSize i.dataLen = true := Nat.blt_eq.mpr h
  have he : firstFail (preChecks i) = .error (.tag .SSVDataTooBig) := by
    unfold preChecks
    rw [h0, h1]
    rfl
  unfold check
  rw [show firstFail (preChecks { i with body := b }) = firstFail (preChecks i) from rfl, he]

end

end Ssv.Validation
