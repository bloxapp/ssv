/-
What a correct operator's emission code guarantees about a message (`HonestConsensus`, `HonestPartial`), and why such a
message can only be accepted or IGNORED (never rejected) by a correct peer whose per-signer state is fresh or
consistent (C10).
-/
import Ssv.Proofs.ValidationClauses

namespace Ssv.Validation
open Ssv

/-- a check that, when it fails, fails with an ignore-class error (and never panics) -/
def RejectFree (c : Chk) : Prop := ∀ e, c = .error e → ∃ t, e = .tag t ∧ t.reject = false

theorem rejectFree_ok : RejectFree (.ok ()) := by intro e h; cases h
theorem rejectFree_of_ok {c : Chk} (h : c = .ok ()) : RejectFree c := by subst h; exact rejectFree_ok

theorem rejectFree_tag {t : Tag} (ht : t.reject = false) : RejectFree (.error (.tag t)) := by
  intro e he; cases he; exact ⟨t, rfl, ht⟩

theorem rejectFree_rejectIf {c : Bool} {t : Tag} (ht : t.reject = false) : RejectFree (rejectIf c t) := by
  cases c
  · exact rejectFree_ok
  · exact rejectFree_tag ht

theorem rejectFree_cons {c : Chk} {cs : List Chk} (hc : RejectFree c) (hcs : RejectFree (firstFail cs)) :
    RejectFree (firstFail (c :: cs)) := by
  cases c with
  | ok u => exact hcs
  | error e => exact hc

theorem firstFail_ok_cons {c : Chk} {cs : List Chk} (hc : c = .ok ()) (hcs : firstFail cs = .ok ()) :
    firstFail (c :: cs) = .ok () :=
  (firstFail_cons_ok_iff c cs).mpr ⟨hc, hcs⟩

theorem rejectIf_false (t : Tag) : rejectIf false t = .ok () := rfl

/-- if the pre-checks are reject-free (a peer that does not know the validator stops there) and so is `check` for a
    peer that knows it, the verdict is neither reject nor panic: a passing `check` is followed by an update that cannot fail -/
theorem not_rejected_of_rejectFree (x : Ctx) (st : State) (i : Input) (sh : Share) (hs : i.share = some sh ∨ i.share = none)
    (hpre : RejectFree (firstFail (preChecks i))) (hknown : i.share = some sh → RejectFree (check x st i)) :
    (∀ t, (validate x st i).2 ≠ .reject t) ∧ (∀ s, (validate x st i).2 ≠ .panic s) := by
  have h : RejectFree (check x st i) := by
    rcases hs with hs | hs
    · exact hknown hs
    · unfold check
      rw [hs]
      cases hp : firstFail (preChecks i) with
      | error e => intro e' he'; cases he'; exact hpre e hp
      | ok u => exact rejectFree_tag rfl
  rw [validate_verdict]
  cases hc : check x st i with
  | error e =>
    obtain ⟨t, rfl, ht⟩ := h e hc
    simp only [Outcome.ofChk, ht, Bool.false_eq_true, if_false]
    exact ⟨fun _ h => (nomatch h), fun _ h => (nomatch h)⟩
  | ok u => exact ⟨fun _ h => (nomatch h), fun _ h => (nomatch h)⟩

theorem check_consensus_eq (x : Ctx) (st : State) (i : Input) (sh : Share) (m : QMsg) (hs : i.share = some sh)
    (hb : i.body = .consensus m) :
    check x st i = firstFail (firstFail (preChecks i) ::
      rejectIf (Nat.blt Gen.val_maxConsensusMsgSize i.dataLen) .SSVDataTooBig :: consensusChecks x st i sh m) := by
  unfold check
  rw [hs, hb]
  cases firstFail (preChecks i) <;> rfl

theorem check_partial_eq (x : Ctx) (st : State) (i : Input) (sh : Share) (m : PMsg) (hs : i.share = some sh)
    (hb : i.body = .partialSig m) :
    check x st i = firstFail (firstFail (preChecks i) ::
      rejectIf (Nat.blt Gen.val_maxPartialSignatureMsgSize i.dataLen) .SSVDataTooBig :: partialChecks x st i sh m) := by
  unfold check
  rw [hs, hb]
  cases firstFail (preChecks i) <;> rfl

/-- signer list of an honest consensus message: a single own id that is a committee member (the leader for a proposal),
    or — for a decided message — a strictly increasing list of committee members of quorum size up to committee size -/
def HonestSigners (sh : Share) (m : QMsg) : Prop :=
  (∃ s, m.signers = [s] ∧ s ≠ 0 ∧ s ∈ sh.committee ∧
      (m.mtype = Gen.val_ProposalMsgType → roundRobinProposer sh.committee m.height m.round = .ok s)) ∨
  (m.mtype = Gen.val_CommitMsgType ∧ 2 ≤ m.signers.length ∧ sh.quorum ≤ m.signers.length ∧
      m.signers.length ≤ sh.committee.length ∧ m.signers.Pairwise (· < ·) ∧ ∀ s ∈ m.signers, s ≠ 0 ∧ s ∈ sh.committee)

/-- a consensus message as a correct operator emits it (the emission guarantees of DESIGN §7.10): valid enums, a role that runs
    consensus, well-formed non-zero signature, round ≥ 1, honest signer list, root = hash(full data), justifications that are
    decodable, placed only where allowed and satisfy the very predicate the validator calls, a payload within the size limit,
    and an envelope that is absent (before the fork) or verifies -/
structure HonestConsensus (i : Input) (sh : Share) (m : QMsg) : Prop where
  size : i.dataLen ≤ Gen.val_maxConsensusMsgSize
  role : validRole i.role = true
  consensusRole : (i.role == Gen.val_BNRoleValidatorRegistration || i.role == Gen.val_BNRoleVoluntaryExit) = false
  key : i.pkOk = true
  sig : m.sigLen = Gen.val_signatureSize ∧ m.sigZero = false
  mtype : validQBFTMsgType m.mtype = true
  round : 1 ≤ m.round
  signers : HonestSigners sh m
  root : ∀ h, m.fullData = some h → h = m.root
  just : validateJustifications m = .ok ()
  env : i.envSig = .none ∨ i.envSig = .valid

/-- what the peer must agree on with the sender for the reject-class rules that read the peer's own data: the proposer
    duty is in the peer's duty store (DESIGN §9: assumed consistent), and its per-signer entries neither hold a DIFFERENT
    proposal data for this very (slot, round) nor an exhausted duty count -/
structure PeerConsistent (x : Ctx) (st : State) (i : Input) (sh : Share) (m : QMsg) : Prop where
  duty : i.role = Gen.val_BNRoleProposer →
    x.duties.proposer.contains ((epochAtSlot x.cfg m.height).toNat, m.height, sh.index) = true
  entries : ∀ s ∈ m.signers, ∀ ss, st (i.vid, i.role, s) = some ss →
    validateDutyCount ss i.role (decide (m.height > ss.slot) && decide (epochAtSlot x.cfg m.height = epochAtSlot x.cfg ss.slot)) = .ok () ∧
    ((m.height = ss.slot ∧ m.round = ss.round) → hasFullData m = true → ss.proposalData.isSome = true → ss.proposalData = m.fullData)

theorem commonSigner_ok_of (sh : Share) (s : Nat) (h0 : s ≠ 0) (hm : s ∈ sh.committee) : commonSigner sh s = .ok () :=
  firstFail_ok_cons (rejectIf_decide_ok.mpr h0) (firstFail_ok_cons (rejectIf_not_ok.mpr (List.contains_iff_mem.mpr hm)) rfl)

theorem isSorted_of_pairwise (l : List Nat) (h : l.Pairwise (· < ·)) : isSorted l = true := by
  induction l with
  | nil => rfl
  | cons a rest ih =>
    cases rest with
    | nil => rfl
    | cons b r =>
      rw [List.pairwise_cons] at h
      unfold isSorted
      simp only [Bool.and_eq_true, decide_eq_true_eq]
      exact ⟨Nat.le_of_lt (h.1 b List.mem_cons_self), ih h.2⟩

theorem signerLoop_ok_of (sh : Share) (l : List Nat) : ∀ prev, (∀ s ∈ l, prev < s) → l.Pairwise (· < ·) →
    (∀ s ∈ l, s ≠ 0 ∧ s ∈ sh.committee) → signerLoop sh prev l = .ok () := by
  induction l with
  | nil => intro _ _ _ _; rfl
  | cons a rest ih =>
    intro prev hp hpw hmem
    rw [List.pairwise_cons] at hpw
    obtain ⟨a0, am⟩ := hmem a List.mem_cons_self
    exact firstFail_ok_cons (commonSigner_ok_of sh a a0 am)
      (firstFail_ok_cons (rejectIf_decide_ok.mpr (Nat.ne_of_gt (hp a List.mem_cons_self)))
        (firstFail_ok_cons (ih a hpw.1 hpw.2 fun s hs => hmem s (List.mem_cons_of_mem _ hs)) rfl))

theorem validConsensusSigners_of_honest (sh : Share) (m : QMsg) (h : HonestSigners sh m) : validConsensusSigners sh m = .ok () := by
  -- sortedness and the member loop follow from the strictly increasing list of non-zero members in both cases
  have hrest : m.signers.Pairwise (· < ·) → (∀ s ∈ m.signers, s ≠ 0 ∧ s ∈ sh.committee) →
      firstFail [rejectIf (!isSorted m.signers) .SignersNotSorted, signerLoop sh 0 m.signers] = .ok () := fun hpw hmem =>
    firstFail_ok_cons (rejectIf_not_ok.mpr (isSorted_of_pairwise _ hpw))
      (firstFail_ok_cons (signerLoop_ok_of sh _ 0 (fun s hs => Nat.pos_of_ne_zero (hmem s hs).1) hpw hmem) rfl)
  rcases h with ⟨s, hs, h0, hm, hlead⟩ | ⟨hc, hlen, hq, hn, hpw, hmem⟩
  · refine firstFail_ok_cons ?_ (hrest (by rw [hs]; exact List.pairwise_singleton _ _) (by rw [hs]; simpa using ⟨h0, hm⟩))
    unfold signersShape
    rw [hs]
    simp only
    split
    · rw [hlead (beq_iff_eq.mp ‹_›)]
      exact rejectIf_decide_ok.mpr fun h => h rfl
    · rfl
  · refine firstFail_ok_cons ?_ (hrest hpw hmem)
    unfold signersShape
    split
    · rename_i hsg; rw [hsg] at hlen; cases hlen
    · rename_i hsg; rw [hsg] at hlen; cases hlen with | step h => cases h
    · rw [hc]
      simp only [bne_self_eq_false, Bool.false_eq_true, if_false]
      exact (rejectIf_ok_iff _ _).mpr
        (Bool.or_eq_false_iff.mpr ⟨by rw [hasQuorum, decide_eq_true hq]; rfl, decide_eq_false (Nat.not_lt.mpr hn)⟩)

/-- an honest message passes the seven guards that the emission guarantees decide; left are the five that read the
    peer's clock, duty store and per-signer state -/
theorem consensusChecks_honest (x : Ctx) (st : State) (i : Input) (sh : Share) (m : QMsg) (hh : HonestConsensus i sh m)
    (mx : Nat) (hmx : maxRound i.role = .ok mx) :
    firstFail (consensusChecks x st i sh m) = firstFail [
      rejectIf (decide (m.round > mx)) .RoundTooHigh, validateSlotTime x.cfg m.height i.role i.now, roundWindow x.cfg m i.now,
      validateBeaconDuty x i.role m.height sh,
      firstFail (m.signers.map fun s => signerBehaviorConsensus x.cfg sh i.role m (st (i.vid, i.role, s)))] := by
  have hround : (m.round == Gen.val_NoRound) = false := by
    have := hh.round
    simp only [g_noRound, beq_eq_false_iff_ne]
    omega
  -- seven of the twelve guards are decided by `hh` and pass; `firstFail` steps over a passing guard
  have skip : ∀ a b c d e : Chk,
      firstFail [.ok (), .ok (), .ok (), .ok (), a, b, .ok (), c, .ok (), d, e, .ok ()] = firstFail [a, b, c, d, e] := by
    intro a b c d e
    cases a; · rfl
    cases b; · rfl
    cases c; · rfl
    cases d; · rfl
    cases e <;> rfl
  unfold consensusChecks
  rw [hh.consensusRole, (signatureFormat_ok_iff _ _).mpr hh.sig, hh.mtype, hround, hmx,
    validConsensusSigners_of_honest sh m hh.signers, (envSigCheck_ok_iff _).mpr hh.env]
  simp only
  split
  · rename_i d hfd
    rw [hh.root d hfd, bne_self_eq_false]
    exact skip _ _ _ _ _
  · exact skip _ _ _ _ _

/-- every limit of `ValidateConsensusMessage` is ignore-class; the panicking default is excluded by the message type -/
theorem rejectFree_countsValidate (c : Counts) (m : QMsg) (n : Nat) (h : validQBFTMsgType m.mtype = true) :
    RejectFree (countsValidate c m n) := by
  unfold countsValidate
  rcases le3_cases _ ((validQBFT_iff _).mp h) with h | h | h | h <;> rw [h]
  · exact rejectFree_rejectIf rfl
  · exact rejectFree_rejectIf rfl
  · exact rejectFree_cons (rejectFree_rejectIf rfl) (rejectFree_cons (rejectFree_rejectIf rfl) rejectFree_ok)
  · exact rejectFree_rejectIf rfl

theorem rejectFree_behavior (x : Ctx) (st : State) (i : Input) (sh : Share) (m : QMsg) (hh : HonestConsensus i sh m)
    (hp : PeerConsistent x st i sh m) :
    RejectFree (firstFail (m.signers.map fun s => signerBehaviorConsensus x.cfg sh i.role m (st (i.vid, i.role, s)))) := by
  intro e he
  obtain ⟨s, hs, hc⟩ := List.mem_map.mp (firstFail_error_mem _ e he)
  refine (?_ : RejectFree (signerBehaviorConsensus x.cfg sh i.role m (st (i.vid, i.role, s)))) e hc
  unfold signerBehaviorConsensus
  cases hst : st (i.vid, i.role, s) with
  | none => exact rejectFree_of_ok hh.just
  | some ss =>
    obtain ⟨hd, hpd⟩ := hp.entries s hs ss hst
    -- a stored proposal with different data for this very (slot, round) is excluded by the consistent entry
    have hdup : (decide (m.height = ss.slot) && decide (m.round = ss.round) && hasFullData m && ss.proposalData.isSome &&
        (ss.proposalData != m.fullData)) = false := by
      apply Bool.eq_false_iff.mpr
      intro h
      simp only [Bool.and_eq_true, decide_eq_true_eq, bne_iff_ne] at h
      obtain ⟨⟨⟨hsame, hf⟩, hsome⟩, hne⟩ := h
      exact hne (hpd hsame hf hsome)
    refine rejectFree_cons (rejectFree_rejectIf rfl) (rejectFree_cons (rejectFree_rejectIf rfl)
      (rejectFree_cons (rejectFree_of_ok hd) (rejectFree_cons (rejectFree_of_ok ((rejectIf_ok_iff _ _).mpr hdup))
        (rejectFree_cons ?_ (rejectFree_cons (rejectFree_of_ok hh.just) rejectFree_ok)))))
    split
    · exact rejectFree_countsValidate _ _ _ hh.mtype
    · exact rejectFree_ok

theorem rejectFree_beaconDuty (x : Ctx) (st : State) (i : Input) (sh : Share) (m : QMsg) (hp : PeerConsistent x st i sh m) :
    RejectFree (validateBeaconDuty x i.role m.height sh) := by
  unfold validateBeaconDuty
  split
  · rename_i hr
    rw [hp.duty (beq_iff_eq.mp hr)]
    exact rejectFree_cons (rejectFree_rejectIf rfl) (rejectFree_cons rejectFree_ok rejectFree_ok)
  · split
    · exact rejectFree_cons (rejectFree_rejectIf rfl) (rejectFree_cons (rejectFree_rejectIf rfl) rejectFree_ok)
    · exact rejectFree_ok

theorem rejectFree_preChecks (i : Input) (hsize : i.dataLen ≤ Gen.val_maxMessageSize) (hrole : validRole i.role = true)
    (hkey : i.pkOk = true) : RejectFree (firstFail (preChecks i)) := by
  unfold preChecks
  rw [(blt_false_iff _ _).mpr hsize, hrole, hkey]
  refine rejectFree_cons (rejectFree_rejectIf rfl) (rejectFree_cons rejectFree_ok (rejectFree_cons (rejectFree_rejectIf rfl)
    (rejectFree_cons rejectFree_ok (rejectFree_cons rejectFree_ok (rejectFree_cons ?_ rejectFree_ok)))))
  split
  · exact rejectFree_tag rfl
  · exact rejectFree_cons (rejectFree_rejectIf rfl) (rejectFree_cons (rejectFree_rejectIf rfl)
      (rejectFree_cons (rejectFree_rejectIf rfl) rejectFree_ok))

/-- a partial-signature message as a correct operator's runner emits it: known type matching the role, an item list that
    passes the validator's own `validatePartialMessages` (non-empty, one non-zero committee member as signer of every
    item, distinct roots), well-formed signatures, a payload within the size limit, an envelope that is absent or verifies -/
structure HonestPartial (i : Input) (sh : Share) (m : PMsg) : Prop where
  size : i.dataLen ≤ Gen.val_maxPartialSignatureMsgSize
  role : validRole i.role = true
  key : i.pkOk = true
  ptype : validPartialSigMsgType m.ptype = true
  typeRole : partialTypeMatchesRole m.ptype i.role = .ok true
  messages : validatePartialMessages sh m = .ok ()
  sig : m.sigLen = Gen.val_signatureSize ∧ m.sigZero = false
  env : i.envSig = .none ∨ i.envSig = .valid

/-- the peer's entry for the signer, if there is one, has not exhausted the duty count -/
def PeerConsistentPartial (x : Ctx) (st : State) (i : Input) (m : PMsg) : Prop :=
  ∀ ss, st (i.vid, i.role, m.signer) = some ss →
    validateDutyCount ss i.role (decide (m.slot > ss.slot) && decide (epochAtSlot x.cfg m.slot = epochAtSlot x.cfg ss.slot)) = .ok ()

theorem rejectFree_countsValidatePartial (c : Counts) (t : Nat) (h : validPartialSigMsgType t = true) :
    RejectFree (countsValidatePartial c t) := by
  unfold countsValidatePartial
  rcases isPre_or_post_of_valid t h with h | h
  · rw [h]; exact rejectFree_rejectIf rfl
  · subst h; exact rejectFree_rejectIf rfl

theorem rejectFree_behaviorPartial {x : Ctx} {st : State} {i : Input} {m : PMsg} (ht : validPartialSigMsgType m.ptype = true)
    (hp : PeerConsistentPartial x st i m) :
    RejectFree (signerBehaviorPartial x.cfg i.role m (st (i.vid, i.role, m.signer))) := by
  unfold signerBehaviorPartial
  cases hst : st (i.vid, i.role, m.signer) with
  | none => exact rejectFree_ok
  | some ss =>
    refine rejectFree_cons (rejectFree_rejectIf rfl) (rejectFree_cons (rejectFree_of_ok (hp ss hst))
      (rejectFree_cons ?_ rejectFree_ok))
    split
    · exact rejectFree_countsValidatePartial _ _ ht
    · exact rejectFree_ok

/-- what "the peer knows the validator and the message is timely" means for the ignore-class guards -/
structure TimelyKnown (x : Ctx) (i : Input) (sh : Share) (m : QMsg) : Prop where
  nonEmpty : i.dataLen ≠ 0
  domain : i.domainOk = true
  share : i.share = some sh
  active : sh.liquidated = false ∧ sh.hasMeta = true ∧ isAttesting sh i.wallEpoch = true
  roundMax : ∃ mx, maxRound i.role = .ok mx ∧ m.round ≤ mx
  slotTime : validateSlotTime x.cfg m.height i.role i.now = .ok ()
  roundWin : roundWindow x.cfg m i.now = .ok ()
  syncDuty : (i.role = Gen.val_BNRoleSyncCommittee ∨ i.role = Gen.val_BNRoleSyncCommitteeContribution) →
    x.duties.sync.contains ((periodAtEpoch x.cfg (epochAtSlot x.cfg m.height)).toNat, sh.index) = true
  propDuty : i.role = Gen.val_BNRoleProposer →
    x.duties.proposer.contains ((epochAtSlot x.cfg m.height).toNat, m.height, sh.index) = true

section
variable {x : Ctx} {i : Input} {sh : Share} {m : QMsg} (ht : TimelyKnown x i sh m)
include ht

theorem TimelyKnown.preChecks_ok (hh : HonestConsensus i sh m) : firstFail (preChecks i) = .ok () := by
  obtain ⟨a1, a2, a3⟩ := ht.active
  have hsize : i.dataLen ≤ Gen.val_maxMessageSize := hh.size
  unfold preChecks
  rw [(blt_false_iff _ _).mpr hsize, ht.domain, hh.role, hh.key, ht.share]
  simp only
  rw [a1, a2, a3, decide_eq_false ht.nonEmpty]
  rfl

theorem TimelyKnown.beaconDuty_ok : validateBeaconDuty x i.role m.height sh = .ok () := by
  obtain ⟨_, hmeta, _⟩ := ht.active
  unfold validateBeaconDuty
  rw [hmeta]
  split
  · rw [ht.propDuty (beq_iff_eq.mp ‹_›)]; rfl
  · split
    · rename_i hr
      rw [Bool.or_eq_true, beq_iff_eq, beq_iff_eq] at hr
      rw [ht.syncDuty hr]; rfl
    · rfl

end

end Ssv.Validation
