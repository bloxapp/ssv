/-
Faults inside a block (property C12): structure of a budgeted execution, what a cut leaves behind, resume.
Core Lean only.
-/
import Ssv.Proofs.RegistryCrash

namespace Ssv.Registry

theorem runBudget_some (n : Node) (st : List Step) (k : Nat) (n' : Node) (k' : Nat)
    (h : runBudget n st k = (n', some k')) : n' = runSteps n st := by
  fun_induction runBudget n st k with
  | case1 n k => exact (Prod.mk.inj h).1.symm
  | case2 n s ss hw => cases h
  | case3 n s ss k hw ih => exact ih h
  | case4 n s ss k hw ih => exact ih h

theorem applyStep_db (n : Node) {s : Step} (hs : s ≠ .commit) : (applyStep n s).reg.db = n.reg.db := by
  cases s with
  | commit => exact absurd rfl hs
  | _ => rfl

theorem runBudget_db (n : Node) (st : List Step) (k : Nat) (hst : ∀ s ∈ st, s ≠ .commit) :
    (runBudget n st k).1.reg.db = n.reg.db := by
  fun_induction runBudget n st k with
  | case1 n k => rfl
  | case2 n s ss hw => rfl
  | case3 n s ss k hw ih =>
    exact (ih fun t ht => hst t (List.mem_cons_of_mem _ ht)).trans (applyStep_db n (hst s List.mem_cons_self))
  | case4 n s ss k hw ih =>
    exact (ih fun t ht => hst t (List.mem_cons_of_mem _ ht)).trans (applyStep_db n (hst s List.mem_cons_self))

/-- a handler's step list under a write allowance runs completely, or is cut inside exactly one handler step after
    the steps before it ran completely -/
theorem runMacroBudget_spec (n : Node) (l : List Step) (k : Nat) :
    (∃ k', runMacroBudget n l k = (runMacro n l, .done k')) ∨
    ∃ l1 s l2 k1 n1, l = l1 ++ s :: l2 ∧
      runBudget (runMacro n l1) (expand (runMacro n l1).wal s) k1 = (n1, none) ∧
      runMacroBudget n l k = (n1, if isBadCut (runMacro n l1).wal s k1 then .bad else .clean) := by
  fun_induction runMacroBudget n l k with
  | case1 n k => exact .inl ⟨k, rfl⟩
  | case2 n s ss k n' hb => exact .inr ⟨[], s, ss, k, n', rfl, hb, rfl⟩
  | case3 n s ss k n' k' hb ih =>
    obtain rfl := runBudget_some _ _ _ _ _ hb
    rcases ih with ⟨k', h⟩ | ⟨l1, s', l2, k1, n1, hl, hr, h⟩
    · exact .inl ⟨k', h⟩
    · exact .inr ⟨s :: l1, s', l2, k1, n1, congrArg (s :: ·) hl, hr, h⟩

theorem runMacroBudget_done (n : Node) (l : List Step) (k : Nat) (n' : Node) (k' : Nat)
    (h : runMacroBudget n l k = (n', .done k')) : n' = runMacro n l := by
  rcases runMacroBudget_spec n l k with ⟨_, h1⟩ | ⟨_, _, _, _, _, _, _, h1⟩
  · exact (Prod.mk.inj (h.symm.trans h1)).1
  · rw [h1] at h
    split at h <;> cases h

theorem runMacroBudget_append (a b : List Step) (n : Node) (k : Nat) :
    runMacroBudget n (a ++ b) k =
      match runMacroBudget n a k with
      | (n', .done k') => runMacroBudget n' b k'
      | r => r := by
  fun_induction runMacroBudget n a k with
  | case1 n k => rfl
  | case2 n s ss k n' hb =>
    simp only [List.cons_append, runMacroBudget, hb]
    cases isBadCut n.wal s k <;> rfl
  | case3 n s ss k n' k' hb ih => simp only [List.cons_append, runMacroBudget, hb]; exact ih

/-- the events of a block under a write allowance are its handler steps under that allowance; a panic is
    reported when all of them ran -/
theorem runEventsBudget_eq (me blk : Nat) (n : Node) (es : List Event) (k : Nat) :
    runEventsBudget me blk n es k =
      match runMacroBudget n (eventsMacros me blk n.reg es) k with
      | (n', .done k') => (n', .done k', (regEvents me blk n.reg es).2)
      | (n', c) => (n', c, false) := by
  fun_induction runEventsBudget me blk n es k with
  | case1 n k => rfl
  | case2 n e es k n' k' hm hp =>
    have hp' : (regOutcome me blk n.reg e).isPanic = true := hp
    rw [eventsMacros, regEvents, if_pos hp', if_pos hp', List.append_nil, hm]
  | case3 n e es k n' k' hm hp ih =>
    have hp' : ¬(regOutcome me blk n.reg e).isPanic = true := hp
    have hreg : n'.reg = regEvent me blk n.reg e := by
      rw [runMacroBudget_done _ _ _ _ _ hm, runMacro_reg]; rfl
    rw [eventsMacros, regEvents, if_neg hp', if_neg hp', runMacroBudget_append, hm, ← hreg]
    exact ih
  | case4 n e es k n' c hc hm =>
    rw [eventsMacros, runMacroBudget_append, hm]
    cases c with
    | done k' => exact absurd rfl (hc k')
    | clean => rfl
    | bad => rfl

/-- the two writes that end a block, under a write allowance -/
theorem runBudget_tail (n : Node) (m k : Nat) :
    runBudget n [.putMarker m, .commit] k =
      match k with
      | 0 => (n, none)
      | 1 => (applyStep n (.putMarker m), none)
      | k + 2 => (runSteps n [.putMarker m, .commit], some k) := by
  obtain _ | _ | k := k <;> rfl

/-- What a cut leaves in `n1`, relative to the state `m` reached before the handler step it fell in (`r` = that step
    and the ones after it): the decided history is that of `m`; the surviving wallet (as a new process opens it)
    is sane and stores the keys of `m`'s wallet, except possibly keys that `r` touches anyway. -/
structure CutOk (m : Node) (r : List Step) (n1 : Node) : Prop where
  hist : n1.hist = m.hist
  sane : Sane (rebootWal n1.wal)
  keys : ∀ k, (k ∈ keysOf (rebootWal n1.wal) ↔ k ∈ keysOf m.wal) ∨ some k ∈ r.map Step.kmKey

theorem CutOk.same {m n1 : Node} (r : List Step) (hsane : Sane m.wal) (hw : n1.wal = m.wal) (hh : n1.hist = m.hist) :
    CutOk m r n1 := by
  have : rebootWal n1.wal = m.wal := by rw [hw]; exact rebootWal_of_sane hsane
  exact ⟨hh, this ▸ hsane, fun _ => Or.inl (this ▸ Iff.rfl)⟩

/-- a step that is executed as it stands: a cut falls in front of it -/
theorem cut_single {m n1 : Node} {s : Step} {k1 : Nat} (h : runBudget m [s] k1 = (n1, none)) : n1 = m := by
  simp only [runBudget] at h
  split at h
  · cases k1 with
    | zero => exact (Prod.mk.inj h).1.symm
    | succ k0 => cases h
  · cases h

/-- AddShare = index entry in memory, account record, stored index. A cut in front of the account record leaves only
    a moved id counter; the one in front of the stored index is the excluded position. -/
theorem cut_kmAdd {m n1 : Node} {key k1 : Nat} (r : List Step) (hsane : Sane m.wal) (hp : present m.wal key = false)
    (h : runBudget m [.memIdxSet key, .saveAccount key, .saveWallet] k1 = (n1, none))
    (hgood : isBadCut m.wal (.kmAdd key) k1 = false) : CutOk m r n1 := by
  obtain _ | _ | k := k1
  · obtain rfl : applyStep m (.memIdxSet key) = n1 := (Prod.mk.inj h).1
    exact ⟨rfl, ⟨hsane.dsane.mono (List.Sublist.refl _) rfl (Nat.le_succ _), rfl⟩, fun _ => Or.inl Iff.rfl⟩
  · rw [isBadCut, hp] at hgood; cases hgood
  · cases h

/-- RemoveShare = delete the account record, drop the index entry in memory, store the index. A cut in front of the
    last write leaves the record deleted and a stale entry in the stored index. -/
theorem cut_kmRemove {m n1 : Node} {key k1 : Nat} (l2 : List Step) (hsane : Sane m.wal) (hp : present m.wal key = true)
    (h : runBudget m [.deleteAccount key, .memIdxDel key, .saveWallet] k1 = (n1, none)) :
    CutOk m (.kmRemove key :: l2) n1 := by
  obtain _ | _ | k := k1
  · obtain rfl : m = n1 := (Prod.mk.inj h).1
    exact .same _ hsane rfl rfl
  · obtain rfl : applyStep (applyStep m (.deleteAccount key)) (.memIdxDel key) = n1 := (Prod.mk.inj h).1
    obtain ⟨id, hl, _⟩ := hsane.dsane.lookup_of_mem ((present_iff hsane key).1 hp)
    have hw : rebootWal (applyStep (applyStep m (.deleteAccount key)) (.memIdxDel key)).wal =
        { m.wal with recs := m.wal.recs.filter (fun p => p.1 != id), midx := m.wal.pidx } := by
      simp only [rebootWal, applyStep, stepWal, hsane.idx ▸ hl]
    refine ⟨rfl, ?_, fun k => ?_⟩
    · rw [hw]; exact ⟨hsane.dsane.mono List.filter_sublist rfl (Nat.le_refl _), rfl⟩
    · by_cases e : k = key
      · exact Or.inr (List.mem_cons.2 (Or.inl (e ▸ rfl)))
      · rw [hw]; exact Or.inl ((hsane.dsane.mem_keys_filter hl k).trans (and_iff_right e))
  · cases h

theorem cut_step (m : Node) (s : Step) (l2 : List Step) (hsane : Sane m.wal) (k1 : Nat) (n1 : Node)
    (h : runBudget m (expand m.wal s) k1 = (n1, none)) (hgood : isBadCut m.wal s k1 = false) :
    CutOk m (s :: l2) n1 := by
  unfold expand at h
  split at h
  · split at h
    · cases h
    · exact cut_kmAdd _ hsane (Bool.eq_false_iff.2 ‹_›) h hgood
  · split at h
    · exact cut_kmRemove l2 hsane ‹_› h
    · cases h
  · obtain rfl := cut_single h
    exact .same _ hsane rfl rfl

/-- a process that restarts on the state an interrupted block left behind: same registry as before the block, a
    sane wallet that agrees with the wallet after the first steps `l1` of the block except on keys the rest of the
    block touches, the decided history after `l1` — it ends where the uninterrupted run ends -/
theorem resume_from (me : Nat) (n n' : Node) (b : Block) (rest : List Block) (l1 r : List Step)
    (hL : blockMacros me n.reg b = l1 ++ r) (hreg : n'.reg = n.reg) (hS : Sane n.wal) (hS' : Sane n'.wal)
    (hag : ∀ k, (k ∈ keysOf n'.wal ↔ k ∈ keysOf (walRun n.wal l1)) ∨ some k ∈ r.map Step.kmKey)
    (hh : n'.hist = histRun n.hist l1) :
    SameOutcome (run me n' (b :: rest)) (run me n (b :: rest)) := by
  obtain ⟨hst, hnode⟩ := applyBlock_same me n n' b hreg hS hS'
    (hL ▸ walRun_absorb l1 r (hL ▸ blockMacros_handler me n.reg b) hS hS' hag)
    (by rw [hL, hh, histRun_absorb])
  exact run_cons_same me n n' b rest hst hnode (run_same me rest _ _ hnode)

/-- the node's own operator id is the id of the only stored operator with the node's key: what a starting process
    finds in the database is what the running process had in memory -/
def OwnIdStored (me : Nat) (n : Node) : Prop :=
  (∀ o ∈ n.reg.db.ops, o.pk = me → o.id = n.reg.self) ∧
  (n.reg.self ≠ 0 → ∃ o ∈ n.reg.db.ops, o.id = n.reg.self ∧ o.pk = me)

/-- a process started on a database that holds the committed registry of `n`, a state between blocks, has the
    registry state of `n` -/
theorem restart_reg (me : Nat) (x n : Node) (hdb : x.reg.db = n.reg.db) (hB : Boundary n) (hown : OwnIdStored me n) :
    (restart me x).reg = n.reg := by
  have hself := lookupSelf_eq me n.reg.self n.reg.db.ops hown.1 hown.2
  -- `load` takes the transaction view, the shares map and the own id from the database; between blocks those of `n`
  -- are the same
  have : RegMem.mk x.reg.db x.reg.db x.reg.db.shares (lookupSelf me x.reg.db.ops) =
      ⟨n.reg.db, n.reg.txn, n.reg.shares, n.reg.self⟩ := by rw [hdb, hself, hB.reg.txn, hB.reg.shares]
  exact this

theorem restart_wal_hist (me : Nat) (x : Node) : (restart me x).wal = rebootWal x.wal ∧ (restart me x).hist = x.hist :=
  ⟨rfl, rfl⟩

theorem resumeList_same (x : Node) (b : Block) (rest : List Block) (hv1 : x.reg.db.marker.getD 0 < b.number)
    (hv2 : ∀ c ∈ rest, b.number < c.number) : resumeList x (b :: rest) = b :: rest := by
  unfold resumeList
  cases hm : x.reg.db.marker with
  | none => rfl
  | some mm =>
    rw [hm] at hv1
    refine List.filter_eq_self.2 fun c hc => decide_eq_true ?_
    rcases List.mem_cons.1 hc with rfl | hc
    · exact hv1
    · exact Nat.le_of_lt (Nat.lt_of_le_of_lt hv1 (hv2 c hc))

theorem resumeList_next (x : Node) (b : Block) (rest : List Block) (hm : x.reg.db.marker = some b.number)
    (hv2 : ∀ c ∈ rest, b.number < c.number) : resumeList x (b :: rest) = rest := by
  unfold resumeList
  rw [hm]
  show (b :: rest).filter _ = rest
  rw [List.filter_cons_of_neg (by simp)]
  exact List.filter_eq_self.2 fun c hc => decide_eq_true (hv2 c hc)

/-- crash and error end the process: what is left is a new process on the surviving database -/
theorem afterFault_of_ne_retry {kind : FaultKind} (hk : kind ≠ .retry) (me : Nat) (x : Node) :
    afterFault me kind x = restart me x := by
  cases kind with
  | retry => exact absurd rfl hk
  | crash => rfl
  | error => rfl

/-- How a block that is not refused ends under a write allowance (resulting node and status). -/
inductive FaultShape (me : Nat) (n : Node) (b : Block) (kind : FaultKind) : Node × FaultStatus → Prop where
  /-- cut after the handler steps `l1`, inside the first step of `r` or, with `r = []`, in front of the marker write
      or the commit: nothing is committed, and unless the cut is the excluded one `n1` is `CutOk` -/
  | faulted (l1 r : List Step) (n1 : Node) (st : FaultStatus) :
      blockMacros me n.reg b = l1 ++ r → n1.reg.db = n.reg.db →
      (Sane (runMacro (beginTxn n) l1).wal → st ≠ .faultedBad → CutOk (runMacro (beginTxn n) l1) r n1) →
      st = .faulted ∨ st = .faultedBad → FaultShape me n b kind (afterFault me kind n1, st)
  | panicked (x : Node) : (regEvents me b.number (beginReg n.reg) b.events).2 = true → FaultShape me n b kind (x, .panicked)
  | completed : (regEvents me b.number (beginReg n.reg) b.events).2 = false →
      FaultShape me n b kind
        (runSteps (runMacro (beginTxn n) (blockMacros me n.reg b)) [.putMarker b.number, .commit], .completed)

/-- the marker write goes to the transaction only -/
theorem putMarker_durable (x : Node) (m : Nat) :
    (applyStep x (.putMarker m)).wal = x.wal ∧ (applyStep x (.putMarker m)).hist = x.hist ∧
    (applyStep x (.putMarker m)).reg.db = x.reg.db := ⟨rfl, rfl, rfl⟩

theorem faultBlock_shape (me : Nat) (n : Node) (b : Block) (kind : FaultKind) (k : Nat) (hinf : inferior n b = false) :
    FaultShape me n b kind (faultBlock me n b kind k) := by
  have hL := blockMacros_handler me n.reg b
  -- all handler steps ran: a state that differs from the one reached at most in the open transaction is `CutOk`
  have tail : ∀ n1 : Node, n1.wal = (runMacro (beginTxn n) (blockMacros me n.reg b)).wal ∧
      n1.hist = (runMacro (beginTxn n) (blockMacros me n.reg b)).hist ∧
      n1.reg.db = (runMacro (beginTxn n) (blockMacros me n.reg b)).reg.db →
      FaultShape me n b kind (afterFault me kind n1, .faulted) := fun n1 ⟨hwal, hhist, hdb⟩ =>
    .faulted _ [] n1 _ (List.append_nil _).symm (hdb.trans (runMacro_db _ _ hL))
      (fun hs _ => .same _ hs hwal hhist) (.inl rfl)
  rw [faultBlock, if_neg (Bool.eq_false_iff.1 hinf), runEventsBudget_eq, beginTxn_reg, ← blockMacros_of_not_inferior hinf]
  rcases runMacroBudget_spec (beginTxn n) (blockMacros me n.reg b) k with ⟨k1, h⟩ | ⟨l1, s, l2, k1, n1, hl, hrb, h⟩
  · rw [h]
    cases hp : (regEvents me b.number (beginReg n.reg) b.events).2 with
    | true => exact .panicked _ hp
    | false =>
      dsimp only
      rw [runBudget_tail]
      obtain _ | _ | k := k1
      · exact tail _ ⟨rfl, rfl, rfl⟩
      · exact tail _ (putMarker_durable _ _)
      · exact .completed hp
  · have hs : s.handler = true := hL s (hl ▸ List.mem_append_right _ List.mem_cons_self)
    have hdb := runBudget_db (runMacro (beginTxn n) l1) _ k1 (expand_no_commit (runMacro (beginTxn n) l1).wal s hs)
    rw [hrb, runMacro_db _ l1 fun t ht => hL t (hl ▸ List.mem_append_left _ ht)] at hdb
    rw [h]
    cases hb : isBadCut (runMacro (beginTxn n) l1).wal s k1 with
    | false =>
      exact .faulted l1 (s :: l2) n1 _ hl hdb (fun hsane _ => cut_step _ s l2 hsane k1 n1 hrb hb) (.inl rfl)
    | true => exact .faulted l1 (s :: l2) n1 _ hl hdb (fun _ hg => absurd rfl hg) (.inr rfl)

/-- whatever the fault position (including the bad one): either the block's transaction was committed as a whole
    (marker included) or the committed registry, and after the restart the whole registry state, is the one from
    before the block -/
theorem faultBlock_registry (me : Nat) (n : Node) (b : Block) (kind : FaultKind) (k : Nat)
    (hk : kind ≠ .retry) (hB : Boundary n) (hown : OwnIdStored me n)
    (hf : (faultBlock me n b kind k).2 = .faulted ∨ (faultBlock me n b kind k).2 = .faultedBad) :
    (faultBlock me n b kind k).1.reg = n.reg := by
  cases hinf : inferior n b with
  | true => rw [faultBlock, if_pos hinf] at hf; exact hf.elim (nomatch ·) (nomatch ·)
  | false =>
    generalize hx : faultBlock me n b kind k = x at hf
    cases hx ▸ faultBlock_shape me n b kind k hinf with
    | faulted l1 r n1 st _ hd => rw [afterFault_of_ne_retry hk]; exact restart_reg me n1 n hd hB hown
    | panicked x _ => exact hf.elim (nomatch ·) (nomatch ·)
    | completed => exact hf.elim (nomatch ·) (nomatch ·)

/-- A block that does not panic is interrupted by a crash or a failing write at write index `k` (anywhere: inside
    the transaction, inside a key-manager call, inside the decided-history cleanup, at the marker write, at the
    commit), the node restarts on what survived and resumes from the stored marker + 1. Unless the fault fell between
    the account record and the wallet index of an AddShare, the stream ends exactly where the uninterrupted run ends.
    The restarted node is either the one after the completed block, or has the registry from before the block and a
    sane wallet. -/
theorem fault_resume (me : Nat) (n : Node) (b : Block) (rest : List Block) (kind : FaultKind) (k : Nat)
    (hk : kind ≠ .retry) (hB : Boundary n) (hS : Sane n.wal) (hown : OwnIdStored me n)
    (hnp : (regEvents me b.number (beginReg n.reg) b.events).2 = false)
    (hv1 : n.reg.db.marker.getD 0 < b.number) (hv2 : ∀ c ∈ rest, b.number < c.number)
    (hgood : (faultBlock me n b kind k).2 ≠ .faultedBad) :
    SameOutcome (faultRun me n b rest kind k) (run me n (b :: rest)) ∧
    ((applyBlock me n b).2.1 = .ok ∧ (faultBlock me n b kind k).1 = (applyBlock me n b).1 ∨
      (faultBlock me n b kind k).1.reg = n.reg ∧ Sane (faultBlock me n b kind k).1.wal) := by
  have hinf : inferior n b = false := decide_eq_false (Nat.not_le.2 hv1)
  have hL := blockMacros_handler me n.reg b
  rw [faultRun]
  generalize hx : faultBlock me n b kind k = x at hgood ⊢
  cases hx ▸ faultBlock_shape me n b kind k hinf with
  | faulted l1 r n1 st hl hd hc =>
    have hl1 : ∀ t ∈ l1, t.handler = true := fun t ht => hL t (hl ▸ List.mem_append_left _ ht)
    have c := hc ((runMacro_wal _ l1).symm ▸ walRun_sane l1 hl1 hS) hgood
    rw [afterFault_of_ne_retry hk]
    have hreg := restart_reg me n1 n hd hB hown
    obtain ⟨hw, hh⟩ := restart_wal_hist me n1
    have hsane : Sane (restart me n1).wal := hw ▸ c.sane
    refine ⟨?_, .inr ⟨hreg, hsane⟩⟩
    dsimp only
    rw [resumeList_same _ b rest (hreg ▸ hv1) hv2]
    exact resume_from me n _ b rest l1 r hl hreg hS hsane (hw ▸ runMacro_wal (beginTxn n) l1 ▸ c.keys)
      ((hh.trans c.hist).trans (runMacro_hist _ _))
  | panicked x hp => exact absurd hp (hnp ▸ Bool.false_ne_true)
  | completed =>
    -- this IS the uninterrupted block
    have hok : (applyBlock me n b).2.1 = .ok := by
      rw [applyBlock, if_neg (Bool.eq_false_iff.1 hinf)]
      dsimp only
      rw [if_neg (Bool.eq_false_iff.1 ((runEvents_reg me b.number (beginTxn n) b.events).2.trans hnp))]
    have hx := (applyBlock_ok_eq me n b hok).2.2.symm
    rw [runEvents_eq_runMacro, beginTxn_reg, ← blockMacros_of_not_inferior hinf] at hx
    refine ⟨?_, .inl ⟨hok, hx⟩⟩
    dsimp only
    rw [hx, resumeList_next _ b rest (applyBlock_ok_marker me n b hok) hv2,
      show run me n (b :: rest) = run me (applyBlock me n b).1 rest by rw [run, hok]]
    exact run_same me rest _ _ (.refl (applyBlock_sane me n b hS))

end Ssv.Registry
