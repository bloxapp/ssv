/-
C01 all heights — `Controller.ProcessMsg`, `OnTimeout` and `StartNewInstance` on the many-height container: each is a
`CtrlStep` at the height it acts on.
-/
import Ssv.Proofs.QbftMultiCtrl

namespace Ssv.Qbft.M
open Ssv.Qbft Ssv.Qbft.B

theorem uponExisting_height (cfg : Cfg) (c : Ctrl) (m : Msg) : (uponExistingInstanceMsg cfg c m).ct.height = c.height := by
  unfold uponExistingInstanceMsg
  cases findInstance c.insts m.height with
  | none => rfl
  | some inst =>
    -- every branch returns the controller with only `insts` replaced
    dsimp only
    cases (processMsg cfg inst m).res with
    | panic => rfl
    | err t => rfl
    | ok d v agg =>
      cases d with
      | false => rfl
      | true =>
        cases agg with
        | none => rfl
        | some a => cases inst.decided <;> rfl

theorem uponExisting_multi {N : Type} (cfg : Cfg) (A : Msg → Prop) (i : N) (c : Ctrl) (m : Msg) (s : State)
    (hc : CInv c) (hi0 : instAt m.height c = some s) (hA : A m) (hnd : isDecidedMsg cfg m = false) :
    CtrlStep cfg m.height A i c (uponExistingInstanceMsg cfg c m).ct (bcasts (uponExistingInstanceMsg cfg c m).outs)
      (deliverEvents cfg m.height i c (uponExistingInstanceMsg cfg c m) m) := by
  obtain ⟨h1, hht, hn⟩ := uponExisting_found cfg A i c m s hi0 hA hnd
  obtain ⟨u, hi1⟩ := upd_of_update c _ m.height _ hi0 h1 (hht.trans (findInstance_mem_hts hi0).1)
    (Nat.le_of_eq (uponExisting_height cfg c m).symm)
  exact .of_upd hc u (hn hi1)

theorem ctrl_processMsg_multi {N : Type} (cfg : Cfg) (hcap : cfg.capacity = 2) (A : Msg → Prop) (i : N) (c : Ctrl) (m : Msg)
    (hc : CInv c) (hA : m.ident = cfg.ident → A m) :
    CtrlStep cfg m.height A i c (c.processMsg cfg m).ct (bcasts (c.processMsg cfg m).outs)
      (deliverEvents cfg m.height i c (c.processMsg cfg m) m) := by
  rcases ctrlProcessMsg_cases cfg c m with ⟨h1, h2, h3⟩ | ⟨hid, e, hdm, hv⟩ | ⟨hid, e, hnd, s, hs0⟩
  · rw [deliverEvents_idle _ h1 h2 h3, h1, h2]
    exact .idle hc rfl rfl
  · rw [e]; exact uponDecided_multi cfg hcap A i c m hc (hA hid) hv hdm
  · rw [e]; exact uponExisting_multi cfg A i c m s hc hs0 (hA hid) hnd

theorem ctrl_onTimeout_multi {N : Type} (cfg : Cfg) (A : Msg → Prop) (i : N) (c : Ctrl) (h0 r : Nat) (hc : CInv c) :
    CtrlStep cfg h0 A i c (c.onTimeout cfg h0 r).ct (bcasts (c.onTimeout cfg h0 r).outs)
      (outEvents i (c.onTimeout cfg h0 r).outs) := by
  rcases onTimeout_cases cfg c h0 r with ⟨h1, h2⟩ | ⟨s, hi0, h1, h2⟩
  · rw [h1, h2]; exact .idle hc rfl rfl
  · rw [h1, h2]
    obtain ⟨u, hi1⟩ := upd_of_update c { c with insts := updateInstance c.insts (uponRoundTimeout cfg s).st } h0 _ hi0 rfl
      ((uponRoundTimeout_height cfg s).trans (findInstance_mem_hts hi0).1) (Nat.le_refl _)
    refine .of_upd hc u ?_
    rw [hi0, hi1]
    exact timeout_nstep cfg h0 A i s

theorem hts_forceStopOthers (c : Ctrl) : hts (forceStopOthers c) = hts c := by
  unfold hts forceStopOthers
  rw [List.map_map]
  exact List.map_congr_left (fun x _ => by dsimp only [Function.comp]; split <;> rfl)

theorem instAt_forceStopOthers (c : Ctrl) (h : Nat) :
    instAt h (forceStopOthers c) = (instAt h c).map (fun s => if h = c.height then s else forceStop s) := by
  unfold instAt forceStopOthers
  rw [show findInstance (c.insts.map _) h = (findInstance c.insts h).map _ from
    find?_key_map (fun s : State => s.height) _ (fun x => by split <;> rfl) c.insts h]
  cases hs : findInstance c.insts h with
  | none => rfl
  | some s =>
    rw [Option.map_some, Option.map_some, (findInstance_some hs).2]
    by_cases hh : h = c.height
    · rw [if_pos hh, if_neg (by simpa using hh)]
    · rw [if_neg hh, if_pos (by simpa using hh)]

theorem CtrlStep.stopOthers {N : Type} {cfg : Cfg} {h0 : Nat} {A : Msg → Prop} {i : N} {c c1 : Ctrl} {bs : List Msg}
    {evs : List (Ev N)} (st : CtrlStep cfg h0 A i c c1 bs evs) (hh0 : c1.height = h0) :
    CtrlStep cfg h0 A i c (forceStopOthers c1) bs evs := by
  subst hh0
  have hh := hts_forceStopOthers c1
  have hbl : ∀ h, Blocked h c1 → Blocked h (forceStopOthers c1) := fun h hb => hb.of_hts hh
  have hself : instAt c1.height (forceStopOthers c1) = instAt c1.height c1 := by
    rw [instAt_forceStopOthers]
    simp only [if_pos, Option.map_id']
  have hne : ∀ h, h ≠ c1.height → instAt h (forceStopOthers c1) = (instAt h c1).map forceStop := by
    intro h hne
    rw [instAt_forceStopOthers]
    simp only [if_neg hne]
  refine ⟨st.cinv.of_hts hh (Nat.le_refl _), fun h hb => hbl h (st.blocked h hb), ?_, ?_⟩
  · cases st.main with
    | n hn => exact .n (by rw [hself]; exact hn)
    | dropped m ha h0 h1 hb hv hm h2 h3 => exact .dropped m ha h0 (by rw [hself]; exact h1) (hbl _ hb) hv hm h2 h3
  · -- what is still stored of another height is stopped
    intro h hn
    rcases st.other h hn with h1 | ⟨s, h0, h1⟩ | ⟨s, h0, h1, hb⟩
    · cases hs : instAt h c with
      | none => exact .same (by rw [hne h hn, h1, hs]; rfl)
      | some s => exact .stop s hs (by rw [hne h hn, h1, hs]; rfl)
    · exact .stop s h0 (by rw [hne h hn, h1]; rfl)
    · exact .evict s h0 (by rw [hne h hn, h1]; rfl) (hbl h hb)

theorem ctrl_start_multi {N : Type} (cfg : Cfg) (hcap : cfg.capacity = 2) (A : Msg → Prop) (i : N) (c : Ctrl) (h0 v : Nat)
    (hc : CInv c) :
    CtrlStep cfg h0 A i c (c.startNewInstance cfg h0 v).ct (bcasts (c.startNewInstance cfg h0 v).outs)
      (outEvents i (c.startNewInstance cfg h0 v).outs) := by
  rcases start_cases cfg c h0 v with ⟨h1, h2⟩ | ⟨hge, hi0, h2, h1⟩
  · rw [h1, h2]; exact .idle hc rfl rfl
  · obtain ⟨e1, hn⟩ := start_nstep cfg h0 A i v
    obtain ⟨c1, hc1⟩ : ∃ c1 : Ctrl, c1 = ⟨h0, addNewInstance cfg.capacity c.insts (start cfg (newInstance h0) v h0).st⟩ :=
      ⟨_, rfl⟩
    have hh1 : c1.height = h0 := by rw [hc1]
    have I : Ins c c1 h0 _ := ins_of_add c c1 { newInstance h0 with started := true, startValue := v } hc hi0
      (by rw [hc1, hcap, e1]) (by rw [hh1]; exact hge) (by rw [hh1]; exact Nat.le_refl _)
    -- the new height is the highest, so the new instance is stored
    have hmain : instAt h0 c1 = some { newInstance h0 with started := true, startValue := v } := by
      rcases I.main with h | ⟨_, x, y, hxy, hlt⟩
      · exact h
      · rcases I.sub y (by rw [hxy]; exact List.mem_cons_of_mem _ List.mem_cons_self) with h | h
        · exact absurd (Nat.le_trans (hc.bound y h) hge) (Nat.not_le_of_lt hlt)
        · exact absurd h (Nat.ne_of_gt hlt)
    have st : CtrlStep cfg h0 A i c c1 (bcasts (start cfg (newInstance h0) v h0).outs)
        (outEvents i (start cfg (newInstance h0) v h0).outs) :=
      ⟨I.cinv, I.blocked, .n (by rw [hi0, hmain]; exact hn), I.other⟩
    rw [h2]
    rcases h1 with h1 | h1
    · rw [h1, ← hc1]; exact st
    · rw [h1, ← hc1]; exact st.stopOthers hh1

end Ssv.Qbft.M
