/-
C16 — what the property says, as checks over the output atoms of a run of the handler model (core Lean only,
everything here is executable so that refutation witnesses are closed by evaluation).

The four clauses of the property:
* `AtMostOnce`       no (slot, validator) pair is handed to `executeDuties` twice in a run;
* `WindowOK`         a dispatched duty carries the slot of the tick that dispatched it, and that slot is inside
                     the handler's `shouldExecute` window of the clock;
* `onlyLatestOK`     a dispatched duty is in the assignment returned by the most recent successful fetch for the
                     tick's epoch (period);
* `exactlyOnceOK`    at a tick whose clock equals its slot: if the most recent fetch for the tick's epoch (period)
                     succeeded (with pairwise distinct (slot, validator) keys) and no fetch of any epoch failed or
                     was skipped for lack of active indices since, then every duty of that assignment for this
                     slot (sync committee: every duty) is dispatched at this tick.  Together with `AtMostOnce`:
                     exactly once.
Environment predicates over the event list: `ticksIncreasing` (slot ticker), `envOK` (tick slots strictly increase and
no tick is handled after an event that carries a later slot; notices may be handled arbitrarily late).
-/
import Ssv.Model.Duties

namespace Ssv.Duties

def keyOf (k : Kind) (n : Net) (slot : Nat) : Nat :=
  match k with
  | .sync => n.periodOfSlot slot
  | _ => n.epoch slot

/-- the handler's `shouldExecute` window -/
def inWindow (k : Kind) (n : Net) (clock slot : Nat) : Bool :=
  match k with
  | .att => attShouldExecute n clock slot
  | _ => propShouldExecute clock slot

/-- (slot, validator) of every duty handed to `executeDuties`, in order -/
def execPairs : List Atom → List (Nat × Nat)
  | [] => []
  | .execs _ _ ds :: r => ds.map (fun d => (d.slot, d.vidx)) ++ execPairs r
  | .fetch _ _ _ :: r => execPairs r

def AtMostOnce (as : List Atom) : Prop := (execPairs as).Nodup

def WindowOK (k : Kind) (n : Net) (as : List Atom) : Prop :=
  ∀ slot clock ds, Atom.execs slot clock ds ∈ as → ∀ d ∈ ds, d.slot = slot ∧ inWindow k n clock slot = true

/-- the part of a beacon answer that concerns this operator: attester duties are requested for the committee
    indices only; proposer / sync-committee duties are requested for all active indices and marked in-committee -/
def assigned (k : Kind) (c : List Nat) (ds : List Duty) : List Duty :=
  match k with
  | .att => ds
  | _ => ds.filter (fun d => c.contains d.vidx)

def isSync : Kind → Bool
  | .sync => true
  | _ => false

/-- dispatched duty `x` is assigned duty `d` (sync-committee duties carry no slot of their own) -/
def sameDuty (k : Kind) (x d : Duty) : Bool :=
  x.vidx == d.vidx && x.tag == d.tag && (isSync k || x.slot == d.slot)

/-- store key of a duty inside one epoch (period) -/
def dkey (k : Kind) (d : Duty) : Nat × Nat := (if isSync k then 0 else d.slot, d.vidx)

def wfAssign (k : Kind) (ds : List Duty) : Bool := decide ((ds.map (dkey k)).Nodup)

/-! ### only-latest monitor -/

structure LMon where
  latest : Nat → Option (List Duty)
  ok : Bool

def LMon.step (k : Kind) (n : Net) (m : LMon) : Atom → LMon
  | .fetch ep _ (.ok c ds) => { m with latest := fun e => if e = ep then some (assigned k c ds) else m.latest e }
  | .fetch _ _ _ => m
  | .execs slot _ xs =>
    { m with ok := m.ok && xs.all (fun x =>
        match m.latest (keyOf k n slot) with
        | none => false
        | some A => A.any (fun d => sameDuty k x d)) }

def LMon.init : LMon := ⟨fun _ => none, true⟩

def onlyLatestOK (k : Kind) (n : Net) (as : List Atom) : Bool := (as.foldl (LMon.step k n) LMon.init).ok

/-! ### exactly-once-if-fetched monitor -/

structure DMon where
  due : Nat → Option (List Duty)
  ok : Bool

def DMon.step (k : Kind) (n : Net) (m : DMon) : Atom → DMon
  | .fetch ep _ (.ok c ds) =>
    { m with due := fun e => if e = ep then (if wfAssign k ds then some (assigned k c ds) else none) else m.due e }
  | .fetch _ _ _ => { m with due := fun _ => none }
  | .execs slot clock xs =>
    if clock = slot then
      { m with ok := m.ok &&
          match m.due (keyOf k n slot) with
          | none => true
          | some A => A.all (fun d => (!isSync k && d.slot != slot) || xs.any (fun x => sameDuty k x d && x.slot == slot)) }
    else m

def DMon.init : DMon := ⟨fun _ => none, true⟩

def exactlyOnceOK (k : Kind) (n : Net) (as : List Atom) : Bool := (as.foldl (DMon.step k n) DMon.init).ok

/-! ### environment -/

def evSlot : Event → Nat
  | .tick s _ _ _ => s
  | .reorg s _ _ => s
  | .indices c => c

/-- the slot ticker: tick slots strictly increase (`lt` = last tick so far) -/
def ticksIncreasing : Option Nat → List Event → Bool
  | _, [] => true
  | lt, .tick s _ _ _ :: es => (match lt with | none => true | some t => decide (t < s)) && ticksIncreasing (some s) es
  | lt, _ :: es => ticksIncreasing lt es

/-- the order in which the handler's select loop takes events: tick slots strictly increase, and no tick is handled
    after an event that carries a later slot (`now` = largest slot carried by an event so far).  Notices may be
    handled arbitrarily LATE (a notice for slot 63 after the tick of slot 64, or of slot 70). -/
def envOK : Option Nat → Nat → List Event → Bool
  | _, _, [] => true
  | lt, now, .tick s _ _ _ :: es =>
    (match lt with | none => true | some t => decide (t < s)) && decide (now ≤ s) && envOK (some s) s es
  | lt, now, .reorg s _ _ :: es => envOK lt (max now s) es
  | lt, now, .indices c :: es => envOK lt (max now c) es

end Ssv.Duties
