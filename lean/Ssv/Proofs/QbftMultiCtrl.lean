/-
C01 all heights — the controller's instance container over many heights. The container is strictly descending and holds at
most two heights (`CInv`); adding an instance ejects at most the lowest one, and a height below two stored ones can never be
stored again (`Blocked`). `UponDecided` on such a container (`CtrlStep`): at the message's height a node transition
(`NStep`), or a re-created decided instance that is dropped at once; at every other height nothing, or eviction.
-/
import Ssv.Model.Qbft.SystemM
import Ssv.Proofs.QbftNodeCtrl

namespace Ssv.Qbft.M
open Ssv.Qbft Ssv.Qbft.B

/-- the heights stored in the container, in container order -/
def hts (c : Ctrl) : List Nat := c.insts.map (·.height)

/-- container invariant: strictly descending heights, at most two (the node's capacity), none above the controller height -/
structure CInv (c : Ctrl) : Prop where
  sorted : (hts c).Pairwise (· > ·)
  len : (hts c).length ≤ 2
  bound : ∀ x ∈ hts c, x ≤ c.height

/-- two stored heights above `h`: an instance for `h` can never (again) be stored -/
def Blocked (h : Nat) (c : Ctrl) : Prop := ∃ x y, hts c = [x, y] ∧ h < y

/-- `Blocked` of the bare instance list -/
def BlockedL (h : Nat) (l : List State) : Prop := ∃ x y, l.map (·.height) = [x, y] ∧ h < y

/-- `CInv` and `Blocked` speak of the stored heights and the controller height only -/
theorem CInv.of_hts {c c' : Ctrl} (hc : CInv c) (he : hts c' = hts c) (hge : c.height ≤ c'.height) : CInv c' :=
  ⟨he ▸ hc.sorted, he ▸ hc.len, fun x hx => Nat.le_trans (hc.bound x (he ▸ hx)) hge⟩

theorem Blocked.of_hts {h : Nat} {c c' : Ctrl} (hb : Blocked h c) (he : hts c' = hts c) : Blocked h c' := by
  obtain ⟨x, y, hxy, hlt⟩ := hb
  exact ⟨x, y, he.trans hxy, hlt⟩

theorem findInstance_cons (e : State) (l : List State) (h : Nat) :
    findInstance (e :: l) h = if e.height = h then some e else findInstance l h :=
  find?_key_cons (fun s : State => s.height) e l h

theorem findInstance_mem_hts {l : List State} {h : Nat} {s : State} (hf : findInstance l h = some s) :
    s.height = h ∧ h ∈ l.map (·.height) := by
  obtain ⟨hm, hh⟩ := findInstance_some hf
  exact ⟨hh, by rw [← hh]; exact List.mem_map_of_mem hm⟩

theorem findInstance_eq_none {l : List State} {h : Nat} : findInstance l h = none ↔ h ∉ l.map (·.height) := by
  simp [findInstance, List.find?_eq_none]

theorem blocked_none {h : Nat} {c : Ctrl} (hc : CInv c) (hb : Blocked h c) : instAt h c = none := by
  obtain ⟨x, y, hxy, hlt⟩ := hb
  have hs := hc.sorted
  rw [hxy, List.pairwise_cons] at hs
  have hyx : y < x := hs.1 y List.mem_cons_self
  refine findInstance_eq_none.2 (fun hm => ?_)
  rw [show c.insts.map (·.height) = [x, y] from hxy] at hm
  rcases List.mem_cons.1 hm with rfl | hm
  · exact Nat.lt_irrefl _ (Nat.lt_trans hlt hyx)
  · rcases List.mem_cons.1 hm with rfl | hm
    · exact Nat.lt_irrefl _ hlt
    · nomatch hm

theorem updateInstance_heights (l : List State) (s' : State) : (updateInstance l s').map (·.height) = l.map (·.height) := by
  induction l with
  | nil => rfl
  | cons e rest ih =>
    unfold updateInstance
    split
    · rename_i he; rw [List.map_cons, List.map_cons, eq_of_beq he]
    · rw [List.map_cons, List.map_cons, ih]

theorem findInstance_update (l : List State) (s' : State) (hm : s'.height ∈ l.map (·.height)) (h : Nat) :
    findInstance (updateInstance l s') h = if s'.height = h then some s' else findInstance l h := by
  induction l with
  | nil => nomatch hm
  | cons e rest ih =>
    unfold updateInstance
    by_cases he : e.height = s'.height
    · rw [if_pos (beq_iff_eq.2 he), findInstance_cons, findInstance_cons, he]
      by_cases hh : s'.height = h
      · rw [if_pos hh, if_pos hh]
      · rw [if_neg hh, if_neg hh, if_neg hh]
    · have hm' : s'.height ∈ rest.map (·.height) := (List.mem_cons.1 hm).resolve_left (fun x => he x.symm)
      rw [if_neg (fun x => he (beq_iff_eq.1 x)), findInstance_cons, findInstance_cons, ih hm']
      by_cases hh : e.height = h
      · rw [if_pos hh, if_pos hh, if_neg (fun x => he (hh.trans x.symm))]
      · rw [if_neg hh, if_neg hh]

/-- a step that replaces the stored instance of one height (or changes nothing in the container) -/
structure Upd (c c' : Ctrl) (h0 : Nat) : Prop where
  hts_eq : hts c' = hts c
  height_ge : c.height ≤ c'.height
  other : ∀ h, h ≠ h0 → instAt h c' = instAt h c

theorem Upd.cinv {c c' : Ctrl} {h0 : Nat} (u : Upd c c' h0) (hc : CInv c) : CInv c' := hc.of_hts u.hts_eq u.height_ge

theorem Upd.blocked {c c' : Ctrl} {h0 : Nat} (u : Upd c c' h0) (h : Nat) (hb : Blocked h c) : Blocked h c' :=
  hb.of_hts u.hts_eq

theorem Upd.refl (c : Ctrl) (h0 : Nat) : Upd c c h0 := ⟨rfl, Nat.le_refl _, fun _ _ => rfl⟩

theorem upd_of_update (c c' : Ctrl) (h0 : Nat) {s : State} (s' : State) (hf : instAt h0 c = some s)
    (hins : c'.insts = updateInstance c.insts s') (hh : s'.height = h0) (hge : c.height ≤ c'.height) :
    Upd c c' h0 ∧ instAt h0 c' = some s' := by
  subst hh
  have hm := (findInstance_mem_hts hf).2
  have hfind : ∀ h, instAt h c' = if s'.height = h then some s' else instAt h c := fun h => by
    unfold instAt; rw [hins]; exact findInstance_update _ s' hm h
  refine ⟨⟨?_, hge, fun h hne => by rw [hfind, if_neg hne.symm]⟩, by rw [hfind, if_pos rfl]⟩
  unfold hts; rw [hins]; exact updateInstance_heights _ _

theorem upd_of_same (c c' : Ctrl) (h0 : Nat) (hins : c'.insts = c.insts) (hge : c.height ≤ c'.height) : Upd c c' h0 :=
  ⟨by unfold hts; rw [hins], hge, fun h _ => by unfold instAt; rw [hins]⟩

theorem mem_insertByHeight {i s : State} {l : List State} : s ∈ insertByHeight i l ↔ s = i ∨ s ∈ l := by
  induction l with
  | nil => exact List.mem_singleton.trans ⟨Or.inl, fun x => x.elim id (fun y => nomatch y)⟩
  | cons e rest ih =>
    unfold insertByHeight
    split
    · exact List.mem_cons
    · rw [List.mem_cons, ih, List.mem_cons]
      exact or_left_comm

/-- the new instance goes in front of the first lower one, so a descending container stays descending -/
theorem sorted_insertByHeight {i : State} {l : List State} (hs : (l.map (·.height)).Pairwise (· > ·))
    (hn : i.height ∉ l.map (·.height)) : ((insertByHeight i l).map (·.height)).Pairwise (· > ·) := by
  induction l with
  | nil => exact List.pairwise_singleton _ _
  | cons e rest ih =>
    rw [List.map_cons, List.pairwise_cons] at hs
    rw [List.map_cons, List.mem_cons, not_or] at hn
    unfold insertByHeight
    split
    · rename_i hlt
      refine List.pairwise_cons.2 ⟨fun x hx => ?_, List.pairwise_cons.2 hs⟩
      rcases List.mem_cons.1 hx with rfl | hx
      · exact hlt
      · exact Nat.lt_trans (hs.1 x hx) hlt
    · rename_i hlt
      refine List.pairwise_cons.2 ⟨fun x hx => ?_, ih hs.2 hn.2⟩
      obtain ⟨s, hsm, rfl⟩ := List.mem_map.1 hx
      rcases mem_insertByHeight.1 hsm with rfl | hsm
      · exact Nat.lt_of_le_of_ne (Nat.le_of_not_lt hlt) hn.1
      · exact hs.1 _ (List.mem_map_of_mem hsm)

theorem findInstance_insertByHeight {i : State} {l : List State} (hn : i.height ∉ l.map (·.height)) (h : Nat) :
    findInstance (insertByHeight i l) h = if i.height = h then some i else findInstance l h := by
  induction l with
  | nil => exact findInstance_cons i [] h
  | cons e rest ih =>
    rw [List.map_cons, List.mem_cons, not_or] at hn
    unfold insertByHeight
    split
    · exact findInstance_cons i _ h
    · rw [findInstance_cons, findInstance_cons, ih hn.2]
      by_cases hh : e.height = h
      · rw [if_pos hh, if_pos hh, if_neg (fun x => hn.1 (x.trans hh.symm))]
      · rw [if_neg hh, if_neg hh]

/-- cutting a strictly descending container down to two slots: what is cut off has two higher heights in front of it -/
theorem findInstance_take_two {L : List State} (hs : (L.map (·.height)).Pairwise (· > ·)) (h : Nat) :
    findInstance (L.take 2) h = findInstance L h ∨ (findInstance (L.take 2) h = none ∧ BlockedL h (L.take 2)) := by
  match L, hs with
  | [], _ => exact Or.inl rfl
  | [_], _ => exact Or.inl rfl
  | [_, _], _ => exact Or.inl rfl
  | a :: b :: c :: rest, hs =>
    show findInstance [a, b] h = _ ∨ (findInstance [a, b] h = none ∧ BlockedL h [a, b])
    cases hf : findInstance (c :: rest) h with
    | none =>
      rw [findInstance_cons a, findInstance_cons b, findInstance_cons a, findInstance_cons b, hf]
      exact Or.inl rfl
    | some s =>
      -- an instance of height `h` is cut off: `h` is below `b` and `a`, which stay
      obtain ⟨hm, hh⟩ := findInstance_some hf
      rw [List.map_cons, List.map_cons, List.pairwise_cons, List.pairwise_cons] at hs
      have hb : h < b.height := hh ▸ hs.2.1 _ (List.mem_map_of_mem hm)
      have ha : h < a.height := Nat.lt_trans hb (hs.1 _ List.mem_cons_self)
      refine Or.inr ⟨?_, a.height, b.height, rfl, hb⟩
      rw [findInstance_cons, if_neg (Nat.ne_of_gt ha), findInstance_cons, if_neg (Nat.ne_of_gt hb)]
      rfl

theorem blockedL_add {l : List State} {h : Nat} (i : State) (hs : (l.map (·.height)).Pairwise (· > ·))
    (hb : BlockedL h l) : BlockedL h (addNewInstance 2 l i) := by
  obtain ⟨x, y, hxy, hlt⟩ := hb
  rcases l with _ | ⟨a, _ | ⟨b, _ | ⟨_, _⟩⟩⟩
  · cases hxy
  · cases hxy
  · have hy : b.height = y := (List.cons.inj (List.cons.inj hxy).2).1
    have hb : h < b.height := by rw [hy]; exact hlt
    have hab : b.height < a.height := (List.pairwise_cons.1 hs).1 _ List.mem_cons_self
    show BlockedL h ((insertByHeight i [a, b]).take 2)
    by_cases h1 : a.height < i.height
    · rw [show insertByHeight i [a, b] = [i, a, b] from if_pos h1]
      exact ⟨i.height, a.height, rfl, Nat.lt_trans hb hab⟩
    · by_cases h2 : b.height < i.height
      · rw [show insertByHeight i [a, b] = [a, i, b] from (if_neg h1).trans (congrArg _ (if_pos h2))]
        exact ⟨a.height, i.height, rfl, Nat.lt_trans hb h2⟩
      · rw [show insertByHeight i [a, b] = [a, b, i] from (if_neg h1).trans (congrArg _ (if_neg h2))]
        exact ⟨a.height, b.height, rfl, hb⟩
  · cases hxy

/-- what happens to the instance of a height OTHER than the acting one -/
inductive OStep (h : Nat) (c c' : Ctrl) : Prop
  | same (h1 : instAt h c' = instAt h c)
  | stop (s : State) (h0 : instAt h c = some s) (h1 : instAt h c' = some (forceStop s))
  | evict (s : State) (h0 : instAt h c = some s) (h1 : instAt h c' = none) (hb : Blocked h c')

/-- what happens to the instance of the acting height -/
inductive HStep {N : Type} (cfg : Cfg) (h : Nat) (A : Msg → Prop) (i : N) (c c' : Ctrl) (bs : List Msg)
    (evs : List (Ev N)) : Prop
  | n (hn : NStep cfg h A i (instAt h c) (instAt h c') bs evs)
  | dropped (m : Msg) (ha : A m) (h0 : instAt h c = none) (h1 : instAt h c' = none) (hb : Blocked h c')
      (hv : validateDecided cfg m = .ok ()) (hh : m.height = h) (h2 : bs = [])
      (h3 : evs = [.G i m.round, .D i m.round m.fullData])

/-- the container after adding a new instance `i0` of a height `h0` that was not stored -/
structure Ins (c c' : Ctrl) (h0 : Nat) (i0 : State) : Prop where
  cinv : CInv c'
  main : instAt h0 c' = some i0 ∨ (instAt h0 c' = none ∧ Blocked h0 c')
  other : ∀ h, h ≠ h0 → OStep h c c'
  blocked : ∀ h, Blocked h c → Blocked h c'
  sub : ∀ x ∈ hts c', x ∈ hts c ∨ x = h0

/-- `addNewInstance` with capacity 2 on a container that does not hold the new height: the new instance is stored unless two
    higher heights are stored; at most the lowest stored instance is ejected, and then two higher ones remain -/
theorem ins_of_add (c c' : Ctrl) (i0 : State) (hc : CInv c) (hn : instAt i0.height c = none)
    (hins : c'.insts = addNewInstance 2 c.insts i0) (hge : c.height ≤ c'.height) (hle : i0.height ≤ c'.height) :
    Ins c c' i0.height i0 := by
  have hn' := findInstance_eq_none.1 hn
  have hsorted := sorted_insertByHeight hc.sorted hn'
  have hfind : ∀ h, instAt h c' = (if i0.height = h then some i0 else instAt h c) ∨ (instAt h c' = none ∧ Blocked h c') := by
    intro h
    unfold instAt Blocked hts
    rw [hins, ← findInstance_insertByHeight hn']
    exact findInstance_take_two hsorted h
  have hsub : ∀ x ∈ hts c', x ∈ hts c ∨ x = i0.height := by
    unfold hts
    rw [hins]
    intro x hx
    obtain ⟨s, hsm, rfl⟩ := List.mem_map.1 hx
    rcases mem_insertByHeight.1 (List.mem_of_mem_take hsm) with rfl | hsm
    · exact Or.inr rfl
    · exact Or.inl (List.mem_map_of_mem hsm)
  refine ⟨⟨?_, ?_, ?_⟩, ?_, ?_, ?_, hsub⟩
  · unfold hts; rw [hins]; unfold addNewInstance
    rw [List.map_take]; exact hsorted.sublist (List.take_sublist _ _)
  · unfold hts; rw [hins, List.length_map]; exact List.length_take_le _ _
  · intro x hx
    rcases hsub x hx with h | h
    · exact Nat.le_trans (hc.bound x h) hge
    · rw [h]; exact hle
  · exact (hfind i0.height).imp (fun h => by rw [h, if_pos rfl]) id
  · intro h hne
    rcases hfind h with h1 | ⟨h1, hb⟩
    · exact .same (by rw [h1, if_neg hne.symm])
    · cases hs : instAt h c with
      | none => exact .same (by rw [h1, hs])
      | some s => exact .evict s hs h1 hb
  · intro h hb
    unfold Blocked hts; rw [hins]; exact blockedL_add i0 hc.sorted hb

/-- what a controller entry point acting at height `h0` does to the container -/
structure CtrlStep {N : Type} (cfg : Cfg) (h0 : Nat) (A : Msg → Prop) (i : N) (c c' : Ctrl) (bs : List Msg)
    (evs : List (Ev N)) : Prop where
  cinv : CInv c'
  blocked : ∀ h, Blocked h c → Blocked h c'
  main : HStep cfg h0 A i c c' bs evs
  other : ∀ h, h ≠ h0 → OStep h c c'

section
variable {N : Type} {cfg : Cfg} {h0 : Nat} {A : Msg → Prop} {i : N} {c c' : Ctrl} {bs : List Msg} {evs : List (Ev N)}

theorem CtrlStep.idle (hc : CInv c) (hb : bs = []) (he : evs = []) : CtrlStep cfg h0 A i c c bs evs :=
  ⟨hc, fun _ x => x, .n (.idle rfl hb he), fun _ _ => .same rfl⟩

theorem CtrlStep.of_upd (hc : CInv c) (u : Upd c c' h0) (hn : NStep cfg h0 A i (instAt h0 c) (instAt h0 c') bs evs) :
    CtrlStep cfg h0 A i c c' bs evs :=
  ⟨u.cinv hc, u.blocked, .n hn, fun h hne => .same (u.other h hne)⟩

end

theorem uponDecided_height (cfg : Cfg) (c : Ctrl) (m : Msg) (hv : validateDecided cfg m = .ok ()) :
    c.height ≤ (uponDecided cfg c m).ct.height ∧ m.height ≤ (uponDecided cfg c m).ct.height := by
  unfold uponDecided
  simp only [hv, wrap]
  split
  · rename_i h
    exact ⟨Nat.le_of_lt (of_decide_eq_true h), Nat.le_refl _⟩
  · rename_i h
    exact ⟨Nat.le_refl _, Nat.le_of_not_lt (fun x => h (decide_eq_true x))⟩

theorem uponDecided_multi {N : Type} (cfg : Cfg) (hcap : cfg.capacity = 2) (A : Msg → Prop) (i : N) (c : Ctrl) (m : Msg)
    (hc : CInv c) (hA : A m) (hv : validateDecided cfg m = .ok ()) (hdm : isDecidedMsg cfg m = true) :
    CtrlStep cfg m.height A i c (uponDecided cfg c m).ct (bcasts (uponDecided cfg c m).outs)
      (deliverEvents cfg m.height i c (uponDecided cfg c m) m) := by
  have hge := uponDecided_height cfg c m hv
  cases hi0 : instAt m.height c with
  | some s =>
    obtain ⟨s', hins, hs', hn⟩ := uponDecided_found cfg A i c m s hi0 hA hv hdm
    rcases hins with h | ⟨h, rfl⟩
    · obtain ⟨u, hi1⟩ := upd_of_update c _ m.height s' hi0 h (hs'.trans (findInstance_mem_hts hi0).1) hge.1
      exact .of_upd hc u (hn hi1)
    · exact .of_upd hc (upd_of_same c _ m.height h hge.1) (hn (by unfold instAt; rw [h]; exact hi0))
  | none =>
    obtain ⟨h1, h2⟩ := uponDecided_notfound cfg c m hi0 hv
    obtain ⟨hb, he⟩ := uponDecided_quiet i cfg c m hv
    rw [hcap] at h1
    have I : Ins c (uponDecided cfg c m).ct m.height _ := ins_of_add c _ _ hc hi0 h1 hge.1 hge.2
    refine ⟨I.cinv, I.blocked, ?_, I.other⟩
    unfold deliverEvents
    rw [hb, he, hdm, h2]
    simp only [if_true, List.append_nil]
    -- the fresh decided instance is stored, or dropped at once because two higher heights are stored
    rcases I.main with hi1 | ⟨hi1, hbl⟩
    · refine .n ?_
      rw [proposeLen_of hi0, proposeLen_of hi1, hi0, hi1]
      -- no `P` event: the fresh instance has accepted no proposal
      exact .createDecided m hA rfl hv rfl rfl rfl (by simp [plen, newInstance])
    · refine .dropped m hA hi0 hi1 hbl hv rfl rfl ?_
      rw [proposeLen_of hi0, proposeLen_of hi1]
      simp [plen]

end Ssv.Qbft.M
