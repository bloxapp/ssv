/-
C01 Layer B, part 2 — the node-level transition relation `NStep`: what one controller step (`StartNewInstance`,
`ProcessMsg`, `OnTimeout`) does to the single instance of the height, what it broadcasts and which ghost events it emits.
Derived from the executable controller under the shape invariant "the container holds at most the instance of the height".
Core Lean only.
-/
import Ssv.Proofs.QbftNodeSpec

namespace Ssv.Qbft.B
open Ssv.Qbft

/-- the container of a one-height system: empty, or exactly the instance of the height -/
def Shape (h : Nat) (c : Ctrl) : Prop := c.insts = [] ∨ ∃ s, c.insts = [s] ∧ s.height = h

theorem instAt_of_nil {h : Nat} {c : Ctrl} (hc : c.insts = []) : instAt h c = none := by
  simp [instAt, findInstance, hc]

theorem instAt_of_single {h : Nat} {c : Ctrl} {s : State} (hc : c.insts = [s]) (hs : s.height = h) : instAt h c = some s := by
  simp [instAt, findInstance, hc, hs]

theorem findInstance_single_ne {h h' : Nat} {s : State} (hs : s.height = h) (hne : h' ≠ h) : findInstance [s] h' = none := by
  simp [findInstance, hs]; omega

theorem updateInstance_single {s s' : State} (hh : s'.height = s.height) : updateInstance [s] s' = [s'] := by
  simp [updateInstance, hh]

theorem ISpec.height {cfg : Cfg} {s : State} {m : Msg} {st : Step} (h : ISpec cfg s m st) : st.st.height = s.height := by
  cases h with
  | noop h1 => rw [h1]
  | prop _ _ h1 => rw [h1]
  | prep _ _ _ h1 => rw [h1]
  | prepQ _ _ _ _ h1 => rw [h1]
  | com _ _ _ h1 => rw [h1]
  | comQ _ _ _ _ _ _ h1 => rw [h1]
  | rc _ h1 => rw [h1]
  | jump _ _ _ h1 => rw [h1]

/-- semantic transitions of one node. `os`/`os'` = the instance of the height before/after, `bs` = messages handed to
    `Broadcast`, `evs` = ghost events. `A` = authenticity of the delivered message. -/
inductive NStep {N : Type} (cfg : Cfg) (h : Nat) (A : Msg → Prop) (i : N) (os os' : Option State) (bs : List Msg)
    (evs : List (Ev N)) : Prop
  | idle (h1 : os' = os) (h2 : bs = []) (h3 : evs = [])
  | create (v : Nat) (h0 : os = none)
      (h1 : os' = some { newInstance h with started := true, startValue := v })
      (h2 : ∀ x ∈ bs, x.type = tProposal ∧ x.signers = [cfg.own] ∧ x.height = h) (h3 : evs = [])
  | createDecided (m : Msg) (ha : A m) (h0 : os = none) (hv : validateDecided cfg m = .ok ()) (hh : m.height = h)
      (h1 : os' = some { newInstance h with round := m.round, decided := true, decidedValue := m.fullData, commit := [m] })
      (h2 : bs = []) (h3 : evs = [.G i m.round, .D i m.round m.fullData])
  | adopt (s : State) (m : Msg) (ha : A m) (h0 : os = some s) (hd : s.decided = false)
      (hv : validateDecided cfg m = .ok ()) (hh : m.height = h)
      (h1 : os' = some { s with decided := true, round := m.round, decidedValue := m.fullData, commit := s.commit ++ [m] })
      (h2 : bs = []) (h3 : evs = [.G i m.round, .D i m.round m.fullData])
  | more (s : State) (m : Msg) (ha : A m) (h0 : os = some s) (hd : s.decided = true)
      (hv : validateDecided cfg m = .ok ()) (hh : m.height = h)
      (h1 : os' = some { s with commit := s.commit ++ [m] }) (h2 : bs = []) (h3 : evs = [])
  | prop (s : State) (m : Msg) (ha : A m) (h0 : os = some s) (hv : isValidProposal cfg s m = .ok ())
      (hnew : ∀ e ∈ s.propose, e.round = m.round → matchedSigners e.signers m.signers = false)
      (h1 : os' = some { s with propose := s.propose ++ [m], accepted := some m, round := m.round })
      (h2 : bs = [] ∨ bs = [createPrepare cfg s m.round (hashData m.fullData)]) (h3 : evs = [.P i m.round m.root])
  | prep (s : State) (m p : Msg) (ha : A m) (h0 : os = some s) (hacc : s.accepted = some p)
      (hv : validSignedPrepare cfg m.toBase s.height s.round p.root = .ok ())
      (h1 : os' = some { s with prepare := s.prepare ++ [m] }) (h2 : bs = []) (h3 : evs = [])
  | prepQ (s : State) (m p : Msg) (ha : A m) (h0 : os = some s) (hacc : s.accepted = some p)
      (hv : validSignedPrepare cfg m.toBase s.height s.round p.root = .ok ())
      (hq : cfg.hasQuorum (signersOf (forRound (s.prepare ++ [m]) s.round)) = true)
      (h1 : os' = some { s with prepare := s.prepare ++ [m], lastPreparedValue := p.fullData, lastPreparedRound := s.round })
      (h2 : (bs = [] ∧ evs = []) ∨ (bs = [createCommit cfg s p.root] ∧ evs = [.K i s.round p.root]))
  | com (s : State) (m p : Msg) (ha : A m) (h0 : os = some s) (hacc : s.accepted = some p)
      (hv : validateCommit cfg m.toBase s.height s.round p = .ok ())
      (h1 : os' = some { s with commit := s.commit ++ [m] }) (h2 : bs = []) (h3 : evs = [])
  | comQ (s : State) (m p agg : Msg) (ha : A m) (h0 : os = some s) (hacc : s.accepted = some p)
      (hv : validateCommit cfg m.toBase s.height s.round p = .ok ())
      (hq : cfg.quorum ≤ (longestUniqueSigners (s.commit ++ [m]) m.round m.root).1.length)
      (hagg : aggregateCommitMsgs (longestUniqueSigners (s.commit ++ [m]) m.round m.root).2 p.fullData = .ok agg)
      (h1 : os' = some { s with commit := s.commit ++ [m], decided := true, decidedValue := p.fullData })
      (h2 : bs = []) (h3 : evs = [.D i agg.round agg.fullData])
  | rc (s : State) (X : Container) (h0 : os = some s) (h1 : os' = some { s with roundChange := X })
      (h2 : ∀ x ∈ bs, x.type = tProposal ∧ x.signers = [cfg.own] ∧ x.height = s.height) (h3 : evs = [])
  | jump (s : State) (X : Container) (R : Nat) (h0 : os = some s) (hR : s.round < R)
      (h1 : os' = some { s with roundChange := X, round := R, accepted := none })
      (h2 : (bs = [] ∧ evs = []) ∨
            (bs = [createRoundChange cfg s R] ∧
             evs = [.RC i R (createRoundChange cfg s R).dataRound (createRoundChange cfg s R).root]))

/-- where an event of a node transition comes from: its node, the whole event list of the transition, and what the
    transition has checked -/
theorem NStep.origin {N : Type} {cfg : Cfg} {h : Nat} {A : Msg → Prop} {i : N} {os os' : Option State} {bs : List Msg}
    {evs : List (Ev N)} (hst : NStep cfg h A i os os' bs evs) {e : Ev N} (he : e ∈ evs) :
    match e with
    | .P j r v => j = i ∧ evs = [Ev.P i r v] ∧
        ∃ s m, os = some s ∧ A m ∧ isValidProposal cfg s m = .ok () ∧ r = m.round ∧ v = m.root
    | .K j r v => j = i ∧ evs = [Ev.K i r v] ∧ ∃ s m p, os = some s ∧ A m ∧ s.accepted = some p ∧
        validSignedPrepare cfg m.toBase s.height s.round p.root = .ok () ∧
        cfg.hasQuorum (signersOf (forRound (s.prepare ++ [m]) s.round)) = true ∧ r = s.round ∧ v = p.root
    | .RC j r pr pv => j = i ∧ evs = [Ev.RC i r pr pv] ∧
        ∃ s, os = some s ∧ s.round < r ∧ pr = (createRoundChange cfg s r).dataRound
    | .G j g => j = i ∧
        ∃ m, A m ∧ validateDecided cfg m = .ok () ∧ m.height = h ∧ g = m.round ∧
          evs = [Ev.G i m.round, Ev.D i m.round m.fullData]
    | .D j r v => j = i ∧
        ((∃ m, A m ∧ validateDecided cfg m = .ok () ∧ m.height = h ∧ r = m.round ∧ v = m.fullData) ∨
         (∃ s m p agg, os = some s ∧ A m ∧ s.accepted = some p ∧
            validateCommit cfg m.toBase s.height s.round p = .ok () ∧
            cfg.quorum ≤ (longestUniqueSigners (s.commit ++ [m]) m.round m.root).1.length ∧
            aggregateCommitMsgs (longestUniqueSigners (s.commit ++ [m]) m.round m.root).2 p.fullData = .ok agg ∧
            r = agg.round ∧ v = agg.fullData)) := by
  cases hst with
  | idle _ _ h3 | create _ _ _ _ h3 | more _ _ _ _ _ _ _ _ _ h3 | prep _ _ _ _ _ _ _ _ _ h3 | com _ _ _ _ _ _ _ _ _ h3
  | rc _ _ _ _ _ h3 =>
    subst h3; cases he
  | createDecided m ha _ hv hh _ _ h3 | adopt _ m ha _ _ hv hh _ _ h3 =>
    subst h3
    rcases List.mem_cons.1 he with rfl | he
    · exact ⟨rfl, m, ha, hv, hh, rfl, rfl⟩
    · cases List.mem_singleton.1 he
      exact ⟨rfl, .inl ⟨m, ha, hv, hh, rfl, rfl⟩⟩
  | prop s m ha h0 hv _ _ _ h3 =>
    subst h3; cases List.mem_singleton.1 he
    exact ⟨rfl, rfl, s, m, h0, ha, hv, rfl, rfl⟩
  | prepQ s m p ha h0 hacc hv hq _ h2 =>
    rcases h2 with ⟨_, rfl⟩ | ⟨_, rfl⟩
    · cases he
    · cases List.mem_singleton.1 he
      exact ⟨rfl, rfl, s, m, p, h0, ha, hacc, hv, hq, rfl, rfl⟩
  | comQ s m p agg ha h0 hacc hv hq hagg _ _ h3 =>
    subst h3; cases List.mem_singleton.1 he
    exact ⟨rfl, .inr ⟨s, m, p, agg, h0, ha, hacc, hv, hq, hagg, rfl, rfl⟩⟩
  | jump s _ R h0 hR _ h2 =>
    rcases h2 with ⟨_, rfl⟩ | ⟨_, rfl⟩
    · cases he
    · cases List.mem_singleton.1 he
      exact ⟨rfl, rfl, s, h0, hR, rfl⟩

theorem msgEvents_proposals {N : Type} (i : N) (l : List Msg) (h : ∀ x ∈ l, x.type = tProposal) : l.flatMap (msgEvents i) = [] := by
  induction l with
  | nil => rfl
  | cons x rest ih =>
    have hx := h x List.mem_cons_self
    simp only [List.flatMap_cons, ih (fun y hy => h y (List.mem_cons_of_mem _ hy)), List.append_nil]
    unfold msgEvents
    rw [hx]
    rfl

theorem msgEvents_prepare {N : Type} (i : N) (cfg : Cfg) (s : State) (r v : Nat) : msgEvents i (createPrepare cfg s r v) = [] := rfl

theorem msgEvents_commit {N : Type} (i : N) (cfg : Cfg) (s : State) (v : Nat) :
    msgEvents i (createCommit cfg s v) = [.K i s.round v] := rfl

theorem createRoundChange_type (cfg : Cfg) (s : State) (r : Nat) : (createRoundChange cfg s r).type = tRoundChange := by
  unfold createRoundChange; split <;> rfl

theorem createRoundChange_round (cfg : Cfg) (s : State) (r : Nat) : (createRoundChange cfg s r).round = r := by
  unfold createRoundChange; split <;> rfl

theorem createRoundChange_signers (cfg : Cfg) (s : State) (r : Nat) : (createRoundChange cfg s r).signers = [cfg.own] := by
  unfold createRoundChange; split <;> rfl

theorem createRoundChange_height (cfg : Cfg) (s : State) (r : Nat) : (createRoundChange cfg s r).height = s.height := by
  unfold createRoundChange; split <;> rfl

theorem createRoundChange_dataRound (cfg : Cfg) (s : State) (r : Nat) :
    (createRoundChange cfg s r).dataRound =
      if s.lastPreparedRound ≠ 0 ∧ s.lastPreparedValue ≠ 0 then s.lastPreparedRound else 0 := by
  have hb : (s.lastPreparedRound != noRound && s.lastPreparedValue != 0) = true ↔
      s.lastPreparedRound ≠ 0 ∧ s.lastPreparedValue ≠ 0 := by
    rw [Bool.and_eq_true, bne_iff_ne, bne_iff_ne]; rfl
  unfold createRoundChange
  by_cases hc : s.lastPreparedRound ≠ 0 ∧ s.lastPreparedValue ≠ 0
  · rw [if_pos (hb.2 hc), if_pos hc]; rfl
  · rw [if_neg (mt hb.1 hc), if_neg hc]; rfl

theorem msgEvents_roundChange {N : Type} (i : N) (cfg : Cfg) (s : State) (r : Nat) :
    msgEvents i (createRoundChange cfg s r) =
      [.RC i r (createRoundChange cfg s r).dataRound (createRoundChange cfg s r).root] := by
  unfold msgEvents
  rw [createRoundChange_type, createRoundChange_round]
  rfl

/-- events of the result of an instance step as the controller turns it into a decided broadcast -/
def aggEvents {N : Type} (i : N) : Outcome → List (Ev N)
  | .ok true _ (some d) => [.D i d.round d.fullData]
  | _ => []

theorem aggEvents_noAgg {N : Type} (i : N) (st : Step) (h : NoAgg st) : aggEvents i st.res = [] := by
  unfold aggEvents
  split
  · rename_i v d hr; exact absurd hr (h _ _ _)
  · rfl

def plen : Option State → Nat
  | some s => s.propose.length
  | none => 0

theorem proposeLen_of {h : Nat} {c : Ctrl} {os : Option State} (hi : instAt h c = os) : proposeLen h c = plen os := by
  subst hi; unfold proposeLen plen; rfl

/-- an instance step as a node transition; the event list is `deliverEvents` of a message that is not a decided one, with
    the instance before and after in place of the two container look-ups -/
theorem nstep_of_ispec {N : Type} (cfg : Cfg) (h : Nat) (A : Msg → Prop) (i : N) (s : State) (m : Msg) (st : Step)
    (hA : A m) (hs : ISpec cfg s m st) :
    NStep cfg h A i (some s) (some st.st) (bcasts st.outs)
      ((if plen (some s) < plen (some st.st) then [.P i m.round m.root] else []) ++
        (bcasts st.outs).flatMap (msgEvents i) ++ aggEvents i st.res) := by
  unfold plen
  cases hs with
  | noop h1 h2 h3 =>
    refine .idle (by rw [h1]) h2 ?_
    rw [h1, h2, aggEvents_noAgg i st h3]; simp
  | prop hv hnew h1 h2 h3 =>
    refine .prop s m hA rfl hv hnew (by rw [h1]) h2 ?_
    rw [aggEvents_noAgg i st h3, h1]
    rcases h2 with h2 | h2 <;> rw [h2] <;> simp [msgEvents_prepare]
  | prep p hacc hv h1 h2 h3 =>
    refine .prep s m p hA rfl hacc hv (by rw [h1]) h2 ?_
    rw [aggEvents_noAgg i st h3, h1, h2]; simp
  | prepQ p hacc hv hq h1 h2 h3 =>
    refine .prepQ s m p hA rfl hacc hv hq (by rw [h1]) ?_
    rw [aggEvents_noAgg i st h3, h1]
    rcases h2 with h2 | h2
    · left; rw [h2]; simp
    · right; rw [h2]; simp [msgEvents_commit]
  | com p hacc hv h1 h2 h3 =>
    refine .com s m p hA rfl hacc hv (by rw [h1]) (by rw [h2]; rfl) ?_
    rw [aggEvents_noAgg i st h3, h1, h2]; simp
  | comQ p agg hacc hv hq hagg h1 h2 h3 =>
    refine .comQ s m p agg hA rfl hacc hv hq hagg (by rw [h1]) (by rw [h2]; rfl) ?_
    rw [h1, h2, h3]; simp [aggEvents]
  | rc X h1 h2 h3 =>
    refine .rc s X rfl (by rw [h1]) h2 ?_
    rw [aggEvents_noAgg i st h3, h1, msgEvents_proposals i _ (fun x hx => (h2 x hx).1)]; simp
  | jump X R hR h1 h2 h3 =>
    refine .jump s X R rfl hR (by rw [h1]) ?_
    rw [aggEvents_noAgg i st h3, h1]
    rcases h2 with h2 | h2
    · left; rw [h2]; simp
    · right; rw [h2]; simp [msgEvents_roundChange]

theorem quiet_outs {N : Type} (i : N) (l : List Out) (h : ∀ o ∈ l, (∃ m, o = .save m) ∨ (∃ m, o = .notify m)) :
    bcasts l = [] ∧ outEvents i l = [] := by
  induction l with
  | nil => exact ⟨rfl, rfl⟩
  | cons o rest ih =>
    obtain ⟨h1, h2⟩ := ih (fun x hx => h x (List.mem_cons_of_mem _ hx))
    rcases h o List.mem_cons_self with ⟨m, rfl⟩ | ⟨m, rfl⟩ <;> simp [bcasts, outEvents, h1, h2]

theorem uponDecided_quiet {N : Type} (i : N) (cfg : Cfg) (c : Ctrl) (m : Msg) (hv : validateDecided cfg m = .ok ()) :
    bcasts (uponDecided cfg c m).outs = [] ∧ outEvents i (uponDecided cfg c m).outs = [] := by
  apply quiet_outs
  intro o ho
  rcases (uponDecided_accepted cfg c m hv).2 o ho with h | h
  · exact Or.inl ⟨m, h⟩
  · exact Or.inr ⟨m, h⟩

theorem take_single {α : Type} (x : α) (k : Nat) (hk : 1 ≤ k) : [x].take k = [x] := by
  cases k with
  | zero => omega
  | succ k => simp

theorem uponDecided_found_undecided (cfg : Cfg) (c : Ctrl) (m : Msg) (s : State)
    (hf : findInstance c.insts m.height = some s) (hd : s.decided = false) (hv : validateDecided cfg m = .ok ()) :
    (uponDecided cfg c m).ct.insts = updateInstance c.insts
      { s with decided := true, round := m.round, decidedValue := m.fullData, commit := s.commit ++ [m] } ∧
    (uponDecided cfg c m).res = .ok (some m) := by
  constructor
  · rw [uponDecided_insts cfg c m hv]
    unfold decidedUpdate
    simp only [hf, hd, Bool.not_false, if_true, addMsg]
  · unfold uponDecided
    simp only [hv, wrap, hf, hd]
    simp

theorem uponDecided_found_decided (cfg : Cfg) (c : Ctrl) (m : Msg) (s : State)
    (hf : findInstance c.insts m.height = some s) (hd : s.decided = true) (hv : validateDecided cfg m = .ok ()) :
    ((uponDecided cfg c m).ct.insts = c.insts ∨
     (uponDecided cfg c m).ct.insts = updateInstance c.insts { s with commit := s.commit ++ [m] }) ∧
    (uponDecided cfg c m).res = .ok none := by
  constructor
  · rw [uponDecided_insts cfg c m hv]
    unfold decidedUpdate
    simp only [hf, hd, Bool.not_true, Bool.false_eq_true, if_false, addMsg]
    split
    · right; rfl
    · left; rfl
  · unfold uponDecided
    simp only [hv, wrap, hf, hd, if_true]

theorem uponDecided_notfound (cfg : Cfg) (c : Ctrl) (m : Msg) (hf : findInstance c.insts m.height = none)
    (hv : validateDecided cfg m = .ok ()) :
    (uponDecided cfg c m).ct.insts = addNewInstance cfg.capacity c.insts
      { newInstance m.height with round := m.round, decided := true, decidedValue := m.fullData, commit := [m] } ∧
    (uponDecided cfg c m).res = .ok (some m) := by
  constructor
  · rw [uponDecided_insts cfg c m hv]
    unfold decidedUpdate
    simp only [hf, addMsg, List.nil_append]
  · unfold uponDecided
    simp only [hv, wrap, hf]
    simp

theorem uponDecided_empty (cfg : Cfg) (c : Ctrl) (m : Msg) (hc : c.insts = []) (hcap : 1 ≤ cfg.capacity)
    (hv : validateDecided cfg m = .ok ()) :
    (uponDecided cfg c m).ct.insts =
      [{ newInstance m.height with round := m.round, decided := true, decidedValue := m.fullData, commit := [m] }] ∧
    (uponDecided cfg c m).res = .ok (some m) := by
  obtain ⟨h1, h2⟩ := uponDecided_notfound cfg c m (instAt_of_nil hc) hv
  exact ⟨by rw [h1, hc]; exact take_single _ _ hcap, h2⟩

theorem uponDecided_undecided (cfg : Cfg) (c : Ctrl) (m : Msg) (s : State) (hc : c.insts = [s]) (hs : s.height = m.height)
    (hd : s.decided = false) (hv : validateDecided cfg m = .ok ()) :
    (uponDecided cfg c m).ct.insts =
      [{ s with decided := true, round := m.round, decidedValue := m.fullData, commit := s.commit ++ [m] }] ∧
    (uponDecided cfg c m).res = .ok (some m) := by
  obtain ⟨h1, h2⟩ := uponDecided_found_undecided cfg c m s (instAt_of_single hc hs) hd hv
  exact ⟨by rw [h1, hc]; exact updateInstance_single rfl, h2⟩

theorem uponDecided_decided (cfg : Cfg) (c : Ctrl) (m : Msg) (s : State) (hc : c.insts = [s]) (hs : s.height = m.height)
    (hd : s.decided = true) (hv : validateDecided cfg m = .ok ()) :
    ((uponDecided cfg c m).ct.insts = [s] ∨ (uponDecided cfg c m).ct.insts = [{ s with commit := s.commit ++ [m] }]) ∧
    (uponDecided cfg c m).res = .ok none := by
  obtain ⟨h1, h2⟩ := uponDecided_found_decided cfg c m s (instAt_of_single hc hs) hd hv
  exact ⟨h1.imp (fun h => h.trans hc) (fun h => by rw [h, hc]; exact updateInstance_single rfl), h2⟩

/-- a validated decided message for a height whose instance is stored: the instance is replaced by one of the same height
    (or nothing changes), and with the new instance looked up the call is a node transition of that height. The look-up
    is the caller's: a one-height and a many-height container find the replaced instance by different arguments -/
theorem uponDecided_found {N : Type} (cfg : Cfg) (A : Msg → Prop) (i : N) (c : Ctrl) (m : Msg) (s : State)
    (hi0 : instAt m.height c = some s) (hA : A m) (hv : validateDecided cfg m = .ok ()) (hdm : isDecidedMsg cfg m = true) :
    ∃ s', ((uponDecided cfg c m).ct.insts = updateInstance c.insts s' ∨ (uponDecided cfg c m).ct.insts = c.insts ∧ s' = s) ∧
      s'.height = s.height ∧
      (instAt m.height (uponDecided cfg c m).ct = some s' →
        NStep cfg m.height A i (instAt m.height c) (instAt m.height (uponDecided cfg c m).ct)
          (bcasts (uponDecided cfg c m).outs) (deliverEvents cfg m.height i c (uponDecided cfg c m) m)) := by
  obtain ⟨hb, he⟩ := uponDecided_quiet i cfg c m hv
  unfold deliverEvents
  rw [hb, he, hdm]
  simp only [if_true, List.append_nil]
  cases hd : s.decided with
  | false =>
    obtain ⟨h1, h2⟩ := uponDecided_found_undecided cfg c m s hi0 hd hv
    refine ⟨_, .inl h1, rfl, fun hi1 => ?_⟩
    rw [proposeLen_of hi0, proposeLen_of hi1, hi0, hi1, h2]
    exact .adopt s m hA rfl hd hv rfl rfl rfl (by simp [plen])
  | true =>
    obtain ⟨h1, h2⟩ := uponDecided_found_decided cfg c m s hi0 hd hv
    rcases h1 with h1 | h1
    · refine ⟨s, .inr ⟨h1, rfl⟩, rfl, fun hi1 => ?_⟩
      rw [proposeLen_of hi0, proposeLen_of hi1, hi0, hi1, h2]
      exact .idle rfl rfl (by simp [plen])
    · refine ⟨_, .inl h1, rfl, fun hi1 => ?_⟩
      rw [proposeLen_of hi0, proposeLen_of hi1, hi0, hi1, h2]
      exact .more s m hA rfl hd hv rfl rfl rfl (by simp [plen])

theorem uponDecided_node {N : Type} (cfg : Cfg) (h : Nat) (A : Msg → Prop) (i : N) (c : Ctrl) (m : Msg)
    (hs : Shape h c) (hcap : 1 ≤ cfg.capacity) (hA : A m) (hv : validateDecided cfg m = .ok ()) (hh : m.height = h)
    (hdm : isDecidedMsg cfg m = true) :
    Shape h (uponDecided cfg c m).ct ∧
    NStep cfg h A i (instAt h c) (instAt h (uponDecided cfg c m).ct) (bcasts (uponDecided cfg c m).outs)
      (deliverEvents cfg h i c (uponDecided cfg c m) m) := by
  subst hh
  rcases hs with hc | ⟨s, hc, hsh⟩
  · obtain ⟨hb, he⟩ := uponDecided_quiet i cfg c m hv
    unfold deliverEvents
    rw [hb, he, hdm]
    simp only [if_true, List.append_nil]
    obtain ⟨h1, h2⟩ := uponDecided_empty cfg c m hc hcap hv
    have hi0 : instAt m.height c = none := instAt_of_nil hc
    have hi1 : instAt m.height (uponDecided cfg c m).ct =
        some { newInstance m.height with round := m.round, decided := true, decidedValue := m.fullData, commit := [m] } :=
      instAt_of_single h1 rfl
    refine ⟨Or.inr ⟨_, h1, rfl⟩, ?_⟩
    rw [proposeLen_of hi0, proposeLen_of hi1, hi0, hi1, h2]
    exact .createDecided m hA rfl hv rfl rfl rfl (by simp [newInstance, plen])
  · obtain ⟨s', hins, hs', hn⟩ := uponDecided_found cfg A i c m s (instAt_of_single hc hsh) hA hv hdm
    have h1 : (uponDecided cfg c m).ct.insts = [s'] := by
      rcases hins with h | ⟨h, rfl⟩
      · rw [h, hc]; exact updateInstance_single hs'
      · exact h.trans hc
    exact ⟨Or.inr ⟨_, h1, hs'.trans hsh⟩, hn (instAt_of_single h1 (hs'.trans hsh))⟩

/-- `UponExistingInstanceMsg` on a stored instance: container, broadcasts and events in terms of `processMsg`; a decided
    message is returned only together with its decided broadcast -/
theorem uponExisting_outs {N : Type} (i : N) (cfg : Cfg) (c : Ctrl) (m : Msg) (s : State)
    (hf : findInstance c.insts m.height = some s) :
    (uponExistingInstanceMsg cfg c m).ct.insts = updateInstance c.insts (processMsg cfg s m).st ∧
    bcasts (uponExistingInstanceMsg cfg c m).outs = bcasts (processMsg cfg s m).outs ∧
    outEvents i (uponExistingInstanceMsg cfg c m).outs =
      outEvents i (processMsg cfg s m).outs ++ aggEvents i (processMsg cfg s m).res ∧
    ∀ d, (uponExistingInstanceMsg cfg c m).res = .ok (some d) →
      aggEvents i (processMsg cfg s m).res = [.D i d.round d.fullData] := by
  unfold uponExistingInstanceMsg
  simp only [hf]
  cases hr : (processMsg cfg s m).res with
  | panic => simp [aggEvents]
  | err t => simp [aggEvents]
  | ok d v agg =>
    cases d with
    | false => simp [aggEvents]
    | true =>
      cases agg with
      | none => simp [aggEvents]
      | some a =>
        cases s.decided <;> simp [aggEvents, bcasts_append, outEvents_append, bcasts, outEvents]

/-- a message for a height whose instance is stored: the instance is replaced by the result of `processMsg`, and with the
    new instance looked up the call is a node transition of that height -/
theorem uponExisting_found {N : Type} (cfg : Cfg) (A : Msg → Prop) (i : N) (c : Ctrl) (m : Msg) (s : State)
    (hi0 : instAt m.height c = some s) (hA : A m) (hnd : isDecidedMsg cfg m = false) :
    (uponExistingInstanceMsg cfg c m).ct.insts = updateInstance c.insts (processMsg cfg s m).st ∧
    (processMsg cfg s m).st.height = s.height ∧
    (instAt m.height (uponExistingInstanceMsg cfg c m).ct = some (processMsg cfg s m).st →
      NStep cfg m.height A i (instAt m.height c) (instAt m.height (uponExistingInstanceMsg cfg c m).ct)
        (bcasts (uponExistingInstanceMsg cfg c m).outs)
        (deliverEvents cfg m.height i c (uponExistingInstanceMsg cfg c m) m)) := by
  obtain ⟨h1, h2, h3, _⟩ := uponExisting_outs i cfg c m s hi0
  have hspec := processMsg_spec cfg s m
  refine ⟨h1, hspec.height, fun hi1 => ?_⟩
  have hev : deliverEvents cfg m.height i c (uponExistingInstanceMsg cfg c m) m =
      (if plen (some s) < plen (some (processMsg cfg s m).st) then [.P i m.round m.root] else []) ++
        (bcasts (processMsg cfg s m).outs).flatMap (msgEvents i) ++ aggEvents i (processMsg cfg s m).res := by
    unfold deliverEvents
    rw [proposeLen_of hi0, proposeLen_of hi1, h3, hnd, outEvents_inst i _ (outsInst_processMsg cfg s m)]
    simp [List.append_assoc]
  rw [hi0, hi1, h2, hev]
  exact nstep_of_ispec cfg m.height A i s m (processMsg cfg s m) hA hspec

theorem uponExisting_node {N : Type} (cfg : Cfg) (h : Nat) (A : Msg → Prop) (i : N) (c : Ctrl) (m : Msg) (s : State)
    (hc : c.insts = [s]) (hsh : s.height = h) (hmh : m.height = h) (hA : A m) (hnd : isDecidedMsg cfg m = false) :
    Shape h (uponExistingInstanceMsg cfg c m).ct ∧
    NStep cfg h A i (instAt h c) (instAt h (uponExistingInstanceMsg cfg c m).ct)
      (bcasts (uponExistingInstanceMsg cfg c m).outs) (deliverEvents cfg h i c (uponExistingInstanceMsg cfg c m) m) := by
  subst hmh
  obtain ⟨h1, hht, hn⟩ := uponExisting_found cfg A i c m s (instAt_of_single hc hsh) hA hnd
  rw [hc, updateInstance_single hht] at h1
  exact ⟨Or.inr ⟨_, h1, hht.trans hsh⟩, hn (instAt_of_single h1 (hht.trans hsh))⟩

theorem deliverEvents_idle {N : Type} {cfg : Cfg} {h : Nat} {i : N} {c : Ctrl} {m : Msg} (st : CStep) (h1 : st.ct = c)
    (h2 : st.outs = []) (h3 : ∀ d, st.res ≠ .ok (some d)) : deliverEvents cfg h i c st m = [] := by
  unfold deliverEvents
  rw [h1, h2, if_neg (Nat.lt_irrefl _)]
  cases isDecidedMsg cfg m with
  | false => rfl
  | true =>
    cases hr : st.res with
    | ok o => cases o with
      | none => rfl
      | some d => exact absurd hr (h3 d)
    | err t => rfl
    | panic => rfl

theorem deliver_idle {N : Type} {cfg : Cfg} {h : Nat} {A : Msg → Prop} {i : N} {c : Ctrl} {m : Msg} (hs : Shape h c)
    (st : CStep) (h1 : st.ct = c) (h2 : st.outs = []) (h3 : ∀ d, st.res ≠ .ok (some d)) :
    Shape h st.ct ∧ NStep cfg h A i (instAt h c) (instAt h st.ct) (bcasts st.outs) (deliverEvents cfg h i c st m) := by
  rw [deliverEvents_idle st h1 h2 h3, h1, h2]
  exact ⟨hs, .idle rfl rfl rfl⟩

theorem uponExisting_none {cfg : Cfg} {c : Ctrl} {m : Msg} (hf : findInstance c.insts m.height = none) :
    uponExistingInstanceMsg cfg c m = ⟨c, [], .err [.instanceNotFound]⟩ := by
  unfold uponExistingInstanceMsg; rw [hf]

/-- `ProcessMsg` does nothing, or is `UponDecided` on a validated decided message of the own identifier, or is
    `UponExistingInstanceMsg` on another message of the own identifier whose height has a stored instance -/
theorem ctrlProcessMsg_cases (cfg : Cfg) (c : Ctrl) (m : Msg) :
    ((c.processMsg cfg m).ct = c ∧ (c.processMsg cfg m).outs = [] ∧ ∀ d, (c.processMsg cfg m).res ≠ .ok (some d)) ∨
    (m.ident = cfg.ident ∧ c.processMsg cfg m = uponDecided cfg c m ∧ isDecidedMsg cfg m = true ∧
      validateDecided cfg m = .ok ()) ∨
    (m.ident = cfg.ident ∧ c.processMsg cfg m = uponExistingInstanceMsg cfg c m ∧ isDecidedMsg cfg m = false ∧
      ∃ s, instAt m.height c = some s) := by
  unfold Ctrl.processMsg
  by_cases hid : (m.ident != cfg.ident) = true
  · rw [if_pos hid]; exact .inl ⟨rfl, rfl, nofun⟩
  rw [if_neg hid]
  have hid' : m.ident = cfg.ident := by simpa using hid
  by_cases hdm : isDecidedMsg cfg m = true
  · rw [if_pos hdm]
    by_cases hv : validateDecided cfg m = .ok ()
    · exact .inr (.inl ⟨hid', rfl, hdm, hv⟩)
    · obtain ⟨r1, r2, r3⟩ := uponDecided_rejected cfg c m hv
      exact .inl ⟨r1, r2, fun _ => r3 _⟩
  rw [if_neg hdm]
  by_cases hfut : isFutureMessage c m = true
  · rw [if_pos hfut]; exact .inl ⟨rfl, rfl, nofun⟩
  rw [if_neg hfut]
  cases hf : instAt m.height c with
  | none => rw [uponExisting_none hf]; exact .inl ⟨rfl, rfl, nofun⟩
  | some s => exact .inr (.inr ⟨hid', rfl, Bool.eq_false_iff.2 hdm, s, rfl⟩)

theorem ctrl_processMsg_node {N : Type} (cfg : Cfg) (h : Nat) (A : Msg → Prop) (i : N) (c : Ctrl) (m : Msg)
    (hs : Shape h c) (hcap : 1 ≤ cfg.capacity) (hA : m.ident = cfg.ident → A m)
    (hdec : validateDecided cfg m = .ok () → m.ident = cfg.ident → m.height = h) :
    Shape h (c.processMsg cfg m).ct ∧
    NStep cfg h A i (instAt h c) (instAt h (c.processMsg cfg m).ct) (bcasts (c.processMsg cfg m).outs)
      (deliverEvents cfg h i c (c.processMsg cfg m) m) := by
  rcases ctrlProcessMsg_cases cfg c m with ⟨h1, h2, h3⟩ | ⟨hid, e, hdm, hv⟩ | ⟨hid, e, hnd, s, hs0⟩
  · exact deliver_idle hs _ h1 h2 h3
  · rw [e]; exact uponDecided_node cfg h A i c m hs hcap (hA hid) hv (hdec hv hid) hdm
  · rw [e]
    -- the stored instance is the one of the height, so the message is for the height
    rcases hs with hc | ⟨s', hc, hsh⟩
    · rw [instAt_of_nil hc] at hs0; cases hs0
    · obtain ⟨hm, hh⟩ := findInstance_some hs0
      rw [hc] at hm
      cases List.mem_singleton.1 hm
      exact uponExisting_node cfg h A i c m s hc hsh (hh.symm.trans hsh) (hA hid) hnd

theorem forceStopOthers_single {h : Nat} {s : State} (hs : s.height = h) :
    (forceStopOthers { height := h, insts := [s] }).insts = [s] := by
  simp [forceStopOthers, hs]

theorem start_nstep {N : Type} (cfg : Cfg) (h : Nat) (A : Msg → Prop) (i : N) (v : Nat) :
    (start cfg (newInstance h) v h).st = { newInstance h with started := true, startValue := v } ∧
    NStep cfg h A i none (some { newInstance h with started := true, startValue := v })
      (bcasts (start cfg (newInstance h) v h).outs) (outEvents i (start cfg (newInstance h) v h).outs) := by
  obtain ⟨e1, e2, e3⟩ := start_spec cfg h v
  refine ⟨e1, .create v rfl rfl e2 ?_⟩
  rw [outEvents_inst i _ e3, msgEvents_proposals i _ (fun x hx => (e2 x hx).1)]

/-- `StartNewInstance` does nothing, or adds the started instance of a height that is not below the controller's and not
    stored, makes it the controller height, passes the outputs on and (unless the start panicked) stops the other instances -/
theorem start_cases (cfg : Cfg) (c : Ctrl) (h v : Nat) :
    ((c.startNewInstance cfg h v).ct = c ∧ (c.startNewInstance cfg h v).outs = []) ∨
    (c.height ≤ h ∧ instAt h c = none ∧ (c.startNewInstance cfg h v).outs = (start cfg (newInstance h) v h).outs ∧
      ((c.startNewInstance cfg h v).ct = ⟨h, addNewInstance cfg.capacity c.insts (start cfg (newInstance h) v h).st⟩ ∨
       (c.startNewInstance cfg h v).ct =
         forceStopOthers ⟨h, addNewInstance cfg.capacity c.insts (start cfg (newInstance h) v h).st⟩)) := by
  unfold Ctrl.startNewInstance
  by_cases hval : (!cfg.valOk v) = true
  · rw [if_pos hval]; exact .inl ⟨rfl, rfl⟩
  rw [if_neg hval]
  by_cases hpast : h < c.height
  · rw [if_pos hpast]; exact .inl ⟨rfl, rfl⟩
  rw [if_neg hpast]
  by_cases hsome : (findInstance c.insts h).isSome = true
  · rw [if_pos hsome]; exact .inl ⟨rfl, rfl⟩
  rw [if_neg hsome]
  refine .inr ⟨Nat.le_of_not_lt hpast, Option.not_isSome_iff_eq_none.1 hsome, ?_⟩
  dsimp only
  cases (start cfg (newInstance h) v h).res with
  | panic => exact ⟨rfl, .inl rfl⟩
  | ok _ _ _ => exact ⟨rfl, .inr rfl⟩
  | err _ => exact ⟨rfl, .inr rfl⟩

theorem ctrl_start_node {N : Type} (cfg : Cfg) (h : Nat) (A : Msg → Prop) (i : N) (c : Ctrl) (v : Nat)
    (hs : Shape h c) (hcap : 1 ≤ cfg.capacity) :
    Shape h (c.startNewInstance cfg h v).ct ∧
    NStep cfg h A i (instAt h c) (instAt h (c.startNewInstance cfg h v).ct) (bcasts (c.startNewInstance cfg h v).outs)
      (outEvents i (c.startNewInstance cfg h v).outs) := by
  rcases start_cases cfg c h v with ⟨h1, h2⟩ | ⟨_, hi0, h2, h1⟩
  · rw [h1, h2]; exact ⟨hs, .idle rfl rfl rfl⟩
  · rcases hs with hc | ⟨s, hc, hsh⟩
    · obtain ⟨e1, hn⟩ := start_nstep cfg h A i v
      have hins : addNewInstance cfg.capacity c.insts (start cfg (newInstance h) v h).st =
          [{ newInstance h with started := true, startValue := v }] := by
        rw [hc, e1]; exact take_single _ _ hcap
      -- with or without the stop of the other instances, the container holds the started instance
      have hu : (c.startNewInstance cfg h v).ct.insts = [{ newInstance h with started := true, startValue := v }] := by
        rcases h1 with h1 | h1
        · rw [h1]; exact hins
        · rw [h1, hins]; exact forceStopOthers_single rfl
      rw [hi0, instAt_of_single (h := h) hu rfl, h2]
      exact ⟨Or.inr ⟨_, hu, rfl⟩, hn⟩
    · rw [instAt_of_single hc hsh] at hi0; cases hi0

theorem uponRoundTimeout_height (cfg : Cfg) (s : State) : (uponRoundTimeout cfg s).st.height = s.height :=
  (uponRoundTimeout_spec cfg s default).height

theorem timeout_nstep {N : Type} (cfg : Cfg) (h : Nat) (A : Msg → Prop) (i : N) (s : State) :
    NStep cfg h A i (some s) (some (uponRoundTimeout cfg s).st) (bcasts (uponRoundTimeout cfg s).outs)
      (outEvents i (uponRoundTimeout cfg s).outs) := by
  cases hcp : canProcess cfg s with
  | true =>
    rw [uponRoundTimeout_progress cfg s hcp]
    exact .jump s s.roundChange (s.round + 1) rfl (Nat.lt_succ_self _) rfl
      (Or.inr ⟨rfl, (List.append_nil _).trans (msgEvents_roundChange i cfg s (s.round + 1))⟩)
  | false =>
    rw [uponRoundTimeout_stopped hcp]
    exact .idle rfl rfl rfl

/-- `OnTimeout` does nothing, or stores the timed-out instance of the height and passes its outputs on -/
theorem onTimeout_cases (cfg : Cfg) (c : Ctrl) (h r : Nat) :
    ((c.onTimeout cfg h r).ct = c ∧ (c.onTimeout cfg h r).outs = []) ∨
    ∃ s, instAt h c = some s ∧
      (c.onTimeout cfg h r).ct = { c with insts := updateInstance c.insts (uponRoundTimeout cfg s).st } ∧
      (c.onTimeout cfg h r).outs = (uponRoundTimeout cfg s).outs := by
  unfold Ctrl.onTimeout
  cases hi0 : instAt h c with
  | none => rw [show findInstance c.insts h = none from hi0]; exact .inl ⟨rfl, rfl⟩
  | some s =>
    rw [show findInstance c.insts h = some s from hi0]
    dsimp only
    by_cases hr : r < s.round
    · rw [if_pos hr]; exact .inl ⟨rfl, rfl⟩
    rw [if_neg hr]
    by_cases hd : s.decided = true
    · rw [if_pos hd]; exact .inl ⟨rfl, rfl⟩
    rw [if_neg hd]
    -- the three outcomes differ in the returned result only
    cases (uponRoundTimeout cfg s).res <;> exact .inr ⟨s, rfl, rfl, rfl⟩

theorem ctrl_onTimeout_node {N : Type} (cfg : Cfg) (h : Nat) (A : Msg → Prop) (i : N) (c : Ctrl) (r : Nat)
    (hs : Shape h c) :
    Shape h (c.onTimeout cfg h r).ct ∧
    NStep cfg h A i (instAt h c) (instAt h (c.onTimeout cfg h r).ct) (bcasts (c.onTimeout cfg h r).outs)
      (outEvents i (c.onTimeout cfg h r).outs) := by
  rcases onTimeout_cases cfg c h r with ⟨h1, h2⟩ | ⟨s, hi0, h1, h2⟩
  · rw [h1, h2]; exact ⟨hs, .idle rfl rfl rfl⟩
  · rcases hs with hc | ⟨s', hc, hsh⟩
    · rw [instAt_of_nil hc] at hi0; cases hi0
    · cases (instAt_of_single hc hsh).symm.trans hi0
      have hh := (uponRoundTimeout_height cfg s).trans hsh
      have hu : (c.onTimeout cfg h r).ct.insts = [(uponRoundTimeout cfg s).st] := by
        rw [h1, hc]; exact updateInstance_single (uponRoundTimeout_height cfg s)
      rw [hi0, instAt_of_single hu hh, h2]
      exact ⟨Or.inr ⟨_, hu, hh⟩, timeout_nstep cfg h A i s⟩

end Ssv.Qbft.B
