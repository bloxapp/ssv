/-
Engine `heights` (C15), clause 2: a decided instance AT the controller height has a stored highest record of that
height (`TInv`), and so has a valid decided message at or above the controller height once it is processed — on
histories without store-write failures (what a failed write did not store cannot be there).
-/
import Ssv.Proofs.HeightsAtTop

namespace Ssv.Heights

/-- a decided instance AT the controller height is backed by a stored highest record of that height -/
def TInv (c : Ctrl) (st : Store) : Prop :=
  ∀ i ∈ c.insts, i.height = c.height → i.decided = true → ∃ a, st.highest = some a ∧ a.inst.height = c.height

/-- no op of the history is a decided message delivered during a store-write failure -/
def NoStoreFail (ops : List Op) : Prop := ∀ op ∈ ops, ∀ h r root sg ok via, op ≠ .decidedSF h r root sg ok via

theorem TInv.start {c c' : Ctrl} {st : Store} {h : Nat} (inv : CInv c st) (hs : startNewInstance c h = .ok c') :
    TInv c' st := by
  obtain ⟨hlt, hins⟩ := startNewInstance_insts inv.top hs
  intro i hi hih hdec
  rw [hins] at hi
  obtain ⟨x, hx, rfl⟩ := List.mem_map.mp hi
  rw [startNewInstance_height hs, stop_height h x] at hih
  -- the only instance at the new height is the new one, and it is not decided
  rcases List.mem_cons.mp hx with rfl | hx
  · simp [newInst] at hdec
  · exact absurd hih (Nat.ne_of_lt (hlt x (List.mem_of_mem_take hx)))

theorem TInv.replace {c : Ctrl} {st : Store} (t : TInv c st) {i i' : Inst} (hf : find c.insts i'.height = some i)
    (hd : i'.decided = true → i.decided = true) : TInv { c with insts := replaceInst i' c.insts } st := by
  intro y hy hyh hyd
  rcases mem_replaceInst hy with rfl | hyo
  · exact t i (find_some_mem hf) ((find_some_height hf).trans hyh) (hd hyd)
  · exact t y hyo hyh hyd

theorem TInv.compact {c : Ctrl} {st : Store} (t : TInv c st) (h : Nat) : TInv (compactAt c h) st :=
  compactAt_ind (P := (TInv · st)) h t fun i0 hf => t.replace (i := i0) (i' := trim i0) (find_self hf) id

theorem TInv.saveFound {c : Ctrl} {st : Store} (inv : CInv c st) (t : TInv c st) (h : Nat) (m : Msg) :
    TInv c (saveFound c st h m) := by
  intro i hi hih hdec
  rcases saveFound_highest c st h m with hu | ⟨hle, i', hf', _, hw⟩
  · rw [hu]; exact t i hi hih hdec
  · -- what was written is the record of an instance of the container that is not below the controller height
    have hle' : i'.height ≤ c.height := inv.top.le i' (find_some_mem hf')
    exact ⟨_, hw, (recOf_height i' m).trans (Nat.le_antisymm hle' (find_some_height hf' ▸ hle))⟩

theorem TInv.uponDecided {c : Ctrl} {st : Store} (inv : CInv c st) (t : TInv c st) (h : Nat) (m : Msg) :
    TInv (uponDecided c st h m).1 (uponDecided c st h m).2.1 := by
  intro i hi hih hdec
  have hi : i ∈ (decidedBranch c st h m).1 := hi
  rw [uponDecided_store]
  by_cases hlt : h < c.height
  · -- below the controller height: no bump, and the instance at the height and the highest record are untouched
    have hhe := (uponDecided_height c st h m).trans (bump_of_ge (Nat.le_of_lt hlt))
    rw [hhe] at hih ⊢
    obtain ⟨a, ha, hah⟩ := t i (decidedBranch_mem_other inv.hist hi (hih ▸ Nat.ne_of_gt hlt)) hih hdec
    refine ⟨a, ?_, hah⟩
    split
    · exact (saveFound_below (hhe.symm ▸ hlt) st m).trans ha
    · exact ha
  · -- at or above the controller height: the height afterwards is `h`
    have hge : c.height ≤ h := Nat.le_of_not_lt hlt
    have hhe := (uponDecided_height c st h m).trans (bump_of_le hge)
    rw [hhe] at hih ⊢
    cases hs : (decidedBranch c st h m).2
    · -- not saved: only when the in-memory instance was decided before and the message brings nothing new
      obtain ⟨_, i0, hf, hd⟩ := decidedBranch_unsaved inv.hist hs
      have hhc : h = c.height :=
        Nat.le_antisymm (find_some_height hf ▸ inv.top.le i0 (find_some_mem hf)) hge
      obtain ⟨a, ha, hah⟩ := t i0 (find_some_mem hf) ((find_some_height hf).trans hhc) hd
      exact ⟨a, ha, hah.trans hhc.symm⟩
    · cases hfb : find (decidedBranch c st h m).1 h with
      | none => exact absurd hih ((find_none_iff.mp hfb) i hi)
      | some y =>
        exact saveFound_stores (c := (Heights.uponDecided c st h m).1) hfb (Nat.le_of_eq hhe)
          (fun a ha => Nat.le_trans (inv.le a ha) hge)

/-- an instance with an accepted proposal is decided (in this engine a proposal is only accepted by `commits`) -/
def PAcc (i : Inst) : Prop := i.accepted.isSome = true → i.decided = true

structure AInv (c : Ctrl) (st : Store) : Prop where
  insts : ∀ i ∈ c.insts, PAcc i
  hi : ∀ a, st.highest = some a → PAcc a.inst
  hist : ∀ h a, histGet st.hist h = some a → PAcc a.inst

section
variable {c c' : Ctrl} {st : Store} {i i' : Inst} {h : Nat} {inMem : Bool}

theorem PAcc.trim (h : PAcc i) : PAcc (trim i) := h
theorem PAcc.recOf (h : PAcc i) (m : Msg) : PAcc (recOf i m).inst := h
theorem PAcc.of_decided (h : i.decided = true) : PAcc i := fun _ => h
theorem PAcc.addCommit (h : PAcc i) (q : Nat) (m : Msg) : PAcc (addCommit q i m) :=
  fun hs => (Bool.or_eq_true _ _).mpr (Or.inl (h hs))

theorem AInv.storeSave (a : AInv c st) (hi : PAcc i) (m : Msg) (th ah : Bool) :
    AInv c (storeSave st ⟨i, m⟩ th ah) := by
  refine ⟨a.insts, ?_, ?_⟩
  · intro x hx
    rcases storeSave_highest st i m th ah with hu | ⟨_, _, hw⟩
    · rw [hu] at hx; exact a.hi x hx
    · rw [hw] at hx; cases hx; exact hi.recOf m
  · intro h x hx
    rcases storeSave_histGet st i m th ah h with hu | ⟨_, _, hw⟩
    · rw [hu] at hx; exact a.hist h x hx
    · rw [hw] at hx; cases hx; exact hi.recOf m

theorem AInv.saveFound (a : AInv c st) (h : Nat) (m : Msg) : AInv c (saveFound c st h m) :=
  saveFound_ind h m a (fun i th ah hf => a.storeSave (a.insts i (find_some_mem hf)) m th ah)

theorem AInv.of_insts (a : AInv c st) (h : ∀ i ∈ c'.insts, PAcc i) : AInv c' st :=
  ⟨h, a.hi, a.hist⟩

theorem AInv.replace (a : AInv c st) (hi' : PAcc i') :
    AInv { c with insts := replaceInst i' c.insts } st :=
  a.of_insts fun y hy => (mem_replaceInst hy).elim (fun e => e ▸ hi') (a.insts y)

theorem AInv.instanceForHeight (a : AInv c st)
    (hi : instanceForHeight c st h = some (i, inMem)) : PAcc i := by
  rcases instanceForHeight_some hi with ⟨_, hf⟩ | ⟨_, _, s0, hs0, rfl⟩
  · exact a.insts i (find_some_mem hf)
  · exact a.hist h s0 hs0

end

theorem AInv.branch {c : Ctrl} {st : Store} (a : AInv c st) (hok : HistOk st.hist) (h : Nat) (m : Msg) :
    ∀ y ∈ (decidedBranch c st h m).1, PAcc y := by
  obtain ⟨l0, hb, hr, _⟩ := decidedBranch_cases h m hok
  have h0 : ∀ z ∈ l0, PAcc z := by
    rcases hb with ⟨rfl, _, _⟩ | ⟨x, _, _, horig, rfl⟩
    · exact a.insts
    · -- a new instance has no accepted proposal; a reloaded one is a stored one
      have hpx : PAcc x := by
        rcases horig with hn | ⟨s0, hs0, rfl⟩
        · intro hsome; rw [hn] at hsome; cases hsome
        · exact a.hist h s0 hs0
      exact fun z hz => (mem_addNew hz).elim (fun e => e ▸ hpx) (a.insts z)
  rcases hr with ⟨i', _, hd, e⟩ | ⟨e, _⟩ <;> rw [e]
  · exact fun y hy => (mem_replaceInst hy).elim (fun e => e ▸ PAcc.of_decided hd) (h0 y)
  · exact h0

theorem AInv.uponDecided {c : Ctrl} {st : Store} (a : AInv c st) (hok : HistOk st.hist) (h : Nat) (m : Msg) :
    AInv (uponDecided c st h m).1 (uponDecided c st h m).2.1 := by
  have hb : AInv (Heights.uponDecided c st h m).1 st := a.of_insts (a.branch hok h m)
  rw [uponDecided_store]
  split
  · exact hb.saveFound h m
  · exact hb

theorem AInv.existingMsg {c : Ctrl} {st : Store} (a : AInv c st) (q h : Nat) (m : Msg) :
    AInv (Heights.existingMsg q c st h m).1 st :=
  existingMsg_ind (P := (AInv · st)) q c st h m a
    fun i hf _ => a.replace ((a.insts i (find_some_mem hf)).addCommit q m)

theorem AInv.processMsg {c : Ctrl} {st : Store} (a : AInv c st) (hok : HistOk st.hist) (q h : Nat) (m : Msg) (ok : Bool) :
    AInv (Heights.processMsg q c st h m ok).1 (Heights.processMsg q c st h m ok).2.1 :=
  processMsg_ind (P := fun p => AInv p.1 p.2.1) q c st h m ok a (a.uponDecided hok h m) (a.existingMsg q h m)

theorem AInv.processMsg_ctrl {c : Ctrl} {st : Store} (a : AInv c st) (hok : HistOk st.hist) (q h : Nat) (m : Msg) (ok : Bool) :
    AInv (Heights.processMsg q c st h m ok).1 st :=
  a.of_insts (a.processMsg hok q h m ok).insts

theorem AInv.compact {c : Ctrl} {st : Store} (a : AInv c st) (h : Nat) : AInv (compactAt c h) st :=
  compactAt_ind (P := (AInv · st)) h a fun i0 hf => a.replace (a.insts i0 (find_some_mem hf)).trim

theorem AInv.start {c c' : Ctrl} {st : Store} {h : Nat} (a : AInv c st) (top : TopOk c.height c.insts)
    (hs : startNewInstance c h = .ok c') : AInv c' st := by
  apply a.of_insts
  intro y hy
  rw [(startNewInstance_insts top hs).2] at hy
  obtain ⟨x, hx, rfl⟩ := List.mem_map.mp hy
  have hpx : PAcc x := by
    rcases List.mem_cons.mp hx with rfl | hx
    · intro hsome; cases hsome
    · exact a.insts x (List.mem_of_mem_take hx)
  split <;> exact hpx

theorem AInv.load {c : Ctrl} {st : Store} (a : AInv c st) (full : Bool) : AInv (loadHighest (newCtrl full) st).1 st := by
  apply a.of_insts
  cases ha : st.highest with
  | none => rw [(loadHighest_none ha).1]; intro y hy; cases hy
  | some x =>
    rw [loadHighest_insts (c := newCtrl full) ha]
    intro y hy
    rw [List.mem_singleton.mp hy]; exact (a.hi x ha).trim

/-- the op `commits` taken alone (`AInv.step` reaches it through `Move`) -/
theorem AInv.commits {s : State} (a : AInv s.c s.s) (root : Nat) (vc : Bool) :
    AInv (commitsStep s root vc).1.c (commitsStep s root vc).1.s := by
  rcases commitsStep_cases s root with h0 | ⟨rh, i, _, _, _, h⟩
  · rw [(h0 vc).1]; exact a
  · rw [(h vc).ctrl, (h vc).store]
    have hc' : AInv (commitsCtrl s i root) s.s := a.replace (PAcc.of_decided rfl)
    split
    · exact hc'
    · exact hc'.saveFound _ _

/-- with `AInv`, the below-quorum commit path never reports a first decision: `.new` means a valid decided message -/
theorem new_valid {s : State} (a : AInv s.c s.s) {h : Nat} {m : Msg} {ok : Bool}
    (hnew : (processMsg s.q s.c s.s h m ok).2.2 = .new) :
    processMsg s.q s.c s.s h m ok = uponDecided s.c s.s h m := by
  rcases processMsg_cases s.q s.c s.s h m ok with he | ⟨_, _, he⟩ | ⟨_, _, he⟩
  · rw [he] at hnew; cases hnew
  · exact he
  · rw [he] at hnew
    rcases existingMsg_cases s.q s.c s.s h m with ⟨_, hne⟩ | ⟨i, inMem, hi, hacc, _, hnd⟩
    · exact absurd hnew hne
    · -- an instance with an accepted proposal is decided already
      have := a.instanceForHeight hi hacc
      rw [hnd hnew] at this; cases this

theorem TInv.processMsg {c : Ctrl} {st : Store} (inv : CInv c st) (t : TInv c st) (a : AInv c st) (q h : Nat) (m : Msg)
    (ok : Bool) : TInv (Heights.processMsg q c st h m ok).1 (Heights.processMsg q c st h m ok).2.1 := by
  refine processMsg_ind (P := fun p => TInv p.1 p.2.1) q c st h m ok t (t.uponDecided inv h m) ?_
  -- the instance updated below quorum was decided before (it has an accepted proposal)
  exact existingMsg_ind (P := (TInv · st)) q c st h m t fun i hf hacc =>
    t.replace (i := i) (i' := addCommit q i m) (find_self hf) (fun _ => a.insts i (find_some_mem hf) hacc)

theorem TInv.load (st : Store) (full : Bool) : TInv (loadHighest (newCtrl full) st).1 st := by
  cases ha : st.highest with
  | none =>
    rw [(loadHighest_none ha).1]
    intro i hi; cases hi
  | some a =>
    intro i _ _ _
    exact ⟨a, ha, (loadHighest_height (c := newCtrl full) ha).symm⟩

/-- deciding an in-memory instance and saving it: if it is at the controller height, a record of that height is the
    stored highest afterwards -/
theorem TInv.decideSave {c : Ctrl} {st : Store} (ci : CInv c st) (t : TInv c st) (i' : Inst) (m : Msg) :
    TInv { c with insts := replaceInst i' c.insts }
      (Heights.saveFound { c with insts := replaceInst i' c.insts } st i'.height m) := by
  cases hf : find c.insts i'.height with
  | none => rw [replaceInst_of_none hf]; exact t.saveFound ci _ m
  | some i =>
    have hle : i'.height ≤ c.height := find_some_height hf ▸ ci.top.le i (find_some_mem hf)
    intro x hx hxh hxd
    have hxh : x.height = c.height := hxh
    show ∃ a : Stored, _ ∧ a.inst.height = c.height
    by_cases htop : c.height ≤ i'.height
    · obtain ⟨b, hb, hbh⟩ := saveFound_stores (c := { c with insts := replaceInst i' c.insts }) (st := st) (m := m)
        (find_replaceInst_same hf rfl) htop (fun a ha => Nat.le_trans (ci.le a ha) htop)
      exact ⟨b, hb, hbh.trans (Nat.le_antisymm hle htop)⟩
    · -- below the controller height: `x` is an old instance, and the highest record stays
      have hlt : i'.height < c.height := Nat.lt_of_not_le htop
      rcases mem_replaceInst hx with rfl | hxo
      · exact absurd hxh (Nat.ne_of_lt hlt)
      · obtain ⟨a, ha, hah⟩ := t x hxo hxh hxd
        exact ⟨a, (saveFound_below (c := { c with insts := replaceInst i' c.insts }) hlt st m).trans ha, hah⟩

/-- the op `commits` taken alone, for a duty without decided value (`SInvAll.step` reaches it through `Move`) -/
theorem TInv.commits {s : State} (ci : CInv s.c s.s) (t : TInv s.c s.s) (root : Nat) (vc : Bool)
    (hnv : s.r.hasValue = false) : TInv (commitsStep s root vc).1.c (commitsStep s root vc).1.s := by
  rcases commitsStep_cases s root with h0 | ⟨rh, i, _, hf, _, h⟩
  · rw [(h0 vc).1]; exact t
  · rw [(h vc).ctrl, (h vc).store, hnv]
    have hih : i.height = rh := find_some_height hf
    exact hih ▸ t.decideSave ci (commitsInst s i root) _

section
variable {c c' : Ctrl} {st st' : Store} {s s' : State} {h q rh : Nat} {m : Msg} {i i' : Inst}

/-- along a composition of moves `AInv` is kept, and `TInv` too if no write is lost -/
theorem Move.inv {l : Bool} (hm : Move q l c st c' st') (ci : CInv c st) (a : AInv c st) :
    AInv c' st' ∧ (l = false → TInv c st → TInv c' st') := by
  induction hm with
  | refl => exact ⟨a, fun _ t => t⟩
  | trans h1 _ ih1 ih2 =>
    have h := ih1 ci a
    have h' := ih2 (h1.cinv ci) h.1
    exact ⟨h'.1, fun hl t => h'.2 hl (h.2 hl t)⟩
  | start slot hs => exact ⟨a.start ci.top hs, fun _ _ => TInv.start ci hs⟩
  | msg h m ok => exact ⟨a.processMsg ci.hist q h m ok, fun _ t => t.processMsg ci a q h m ok⟩
  | msgLost hl h m ok => exact ⟨a.processMsg_ctrl ci.hist q h m ok, fun e => by rw [hl] at e; cases e⟩
  | compact h => exact ⟨a.compact h, fun _ t => t.compact h⟩
  | save h m => exact ⟨a.saveFound h m, fun _ t => t.saveFound ci h m⟩
  | decideSave i' hd m => exact ⟨(a.replace (PAcc.of_decided hd)).saveFound _ m, fun _ t => t.decideSave ci i' m⟩
  | decideOnly hl i' hd => exact ⟨a.replace (PAcc.of_decided hd), fun e => by rw [hl] at e; cases e⟩

theorem AInv.step (ci : CInv s.c s.s) (a : AInv s.c s.s) (op : Op) :
    AInv (Heights.step s op).1.c (Heights.step s op).1.s := by
  rcases step_cs s op with ⟨f, _, hc, hs⟩ | hm
  · rw [hc, hs]; exact a.load f
  · exact (hm.inv ci a).1

/-- the instance found for a height afterwards is decided outright, or is there in place of one found before and
    decided if that one was -/
def KeepsDec (c c' : Ctrl) : Prop :=
  ∀ k i', find c'.insts k = some i' → i'.decided = true ∨ ∃ i, find c.insts k = some i ∧ (i.decided = true → i'.decided = true)

theorem KeepsDec.refl (c : Ctrl) : KeepsDec c c := fun _ i' h => Or.inr ⟨i', h, id⟩

theorem KeepsDec.trans {a b : Ctrl} (h1 : KeepsDec a b) (h2 : KeepsDec b c) : KeepsDec a c := by
  intro k i'' hf
  rcases h2 k i'' hf with hd | ⟨i', hf', himp⟩
  · exact Or.inl hd
  · rcases h1 k i' hf' with hd | ⟨i, hf0, himp0⟩
    · exact Or.inl (himp hd)
    · exact Or.inr ⟨i, hf0, himp ∘ himp0⟩

theorem replace_keepsDec (hf : find c.insts i'.height = some i)
    (hd : i.decided = true → i'.decided = true) : KeepsDec c { c with insts := replaceInst i' c.insts } := by
  intro k y hy
  have hy : find (replaceInst i' c.insts) k = some y := hy
  by_cases hk : k = i'.height
  · subst hk
    rw [find_replaceInst_same hf rfl] at hy
    cases hy
    exact Or.inr ⟨i, hf, hd⟩
  · rw [find_replaceInst_other (Ne.symm hk)] at hy
    exact Or.inr ⟨y, hy, id⟩

theorem compact_keepsDec (c : Ctrl) (h : Nat) : KeepsDec c (compactAt c h) :=
  compactAt_ind (P := KeepsDec c) h (.refl c) fun i0 hf => replace_keepsDec (i := i0) (i' := trim i0) (find_self hf) id

theorem processMsg_keepsDec (hok : HistOk st.hist) (q h : Nat) (m : Msg) (ok : Bool) :
    KeepsDec c (processMsg q c st h m ok).1 := by
  refine processMsg_ind (P := fun p => KeepsDec c p.1) q c st h m ok (.refl c) (fun k y hy => ?_) ?_
  · by_cases hk : k = h
    · exact Or.inl (decidedBranch_find_at hok (hk ▸ hy))
    · exact Or.inr ⟨y, decidedBranch_find_other hok hk hy, id⟩
  · exact existingMsg_ind (P := KeepsDec c) q c st h m (.refl c) fun i hf _ =>
      replace_keepsDec (i := i) (i' := addCommit q i m) (find_self hf) (fun hd => (Bool.or_eq_true _ _).mpr (Or.inl hd))

/-- a height that is seen and whose instance, if in the container, is decided -/
def Held (c : Ctrl) (d : Nat) : Prop := SeenAt c d ∧ ∀ i, find c.insts d = some i → i.decided = true

theorem Held.keep {d : Nat} (hh : Held c d) (g : Grows c c') (k : KeepsDec c c') : Held c' d :=
  ⟨g.seen hh.1, fun i hf => (k d i hf).elim id fun ⟨i0, hf0, himp⟩ => himp (hh.2 i0 hf0)⟩

/-- runner/controller link: the running height is the duty slot; the running height of a duty that holds a decided
    value sits at or below the controller height, with its instance present when at it and decided if in the container.
    So such a duty has no fresh running instance, and `commits` never meets `hasValue` (`RInv.noValue`). -/
structure RInv (s : State) : Prop where
  run : ∀ rh, s.r.running = some rh → s.r.duty = some rh
  held : s.r.hasValue = true → ∃ d, s.r.running = some d ∧ Held s.c d

theorem RInv.init (full : Bool) (q : Nat) : RInv (Heights.init full q) where
  run := by intro rh h; cases h
  held := by intro h; cases h

theorem RInv.of_fresh (hr : s.r.running = none) (hv : s.r.hasValue = false) : RInv s where
  run := by intro rh h; rw [hr] at h; cases h
  held := by intro h; rw [hv] at h; cases h

/-- duty and running instance stay; a decided value is either the one held before, while the controller grows and
    keeps decided what was decided, or taken now for a running instance that is seen and decided -/
theorem RInv.next (ri : RInv s) (hd : s'.r.duty = s.r.duty) (hr : s'.r.running = s.r.running)
    (hv : s'.r.hasValue = true →
      (s.r.hasValue = true ∧ Grows s.c s'.c ∧ KeepsDec s.c s'.c) ∨ ∃ d, s.r.running = some d ∧ Held s'.c d) :
    RInv s' where
  run := by rw [hd, hr]; exact ri.run
  held := by
    intro h
    rw [hr]
    rcases hv h with ⟨hv0, g, k⟩ | hnew
    · obtain ⟨d, hrd, hh⟩ := ri.held hv0
      exact ⟨d, hrd, hh.keep g k⟩
    · exact hnew

theorem runnerSaves_new {r : Runner} {o : DOut} (hsv : runnerSaves r h o = true) :
    o = .new ∧ r.running = some h := by
  unfold runnerSaves at hsv
  simp only [Bool.and_eq_true] at hsv
  obtain ⟨⟨⟨hnew, _⟩, hrun⟩, _⟩ := hsv
  exact ⟨by simpa using hnew, by simpa using hrun⟩

/-- what holds of a controller and the same controller compacted at some height -/
structure Compacted (c c' : Ctrl) : Prop where
  height : c'.height = c.height
  grows : Grows c c'
  keepsDec : KeepsDec c c'

theorem compacted_of_eq_or_compactAt (hc : c' = c ∨ c' = compactAt c h) : Compacted c c' := by
  rcases hc with hc | hc <;> rw [hc]
  · exact ⟨rfl, .refl _, .refl _⟩
  · exact ⟨compactAt_height c h, compact_grows c h, compact_keepsDec c h⟩

theorem uponDecided_held (ci : CInv c st) (h : Nat) (m : Msg)
    (hc : c' = (uponDecided c st h m).1 ∨ c' = compactAt (uponDecided c st h m).1 h) : Held c' h :=
  Held.keep ⟨uponDecided_seen ci h m, fun _ hf => decidedBranch_find_at ci.hist hf⟩
    (compacted_of_eq_or_compactAt hc).grows (compacted_of_eq_or_compactAt hc).keepsDec

/-- a commit-type message: the controller is what `ProcessMsg` leaves, possibly compacted, and the runner either only
    syncs with it or (a first decision for its running instance) also takes the decided value -/
theorem RInv.decided (ci : CInv s.c s.s) (ai : AInv s.c s.s) (ri : RInv s) (h : Nat) (m : Msg) (ok : Bool)
    (hc : s'.c = (processMsg s.q s.c s.s h m ok).1 ∨ s'.c = compactAt (processMsg s.q s.c s.s h m ok).1 h)
    (hr : s'.r = syncRun s.r s'.c ∨ (runnerSaves s.r h (processMsg s.q s.c s.s h m ok).2.2 = true ∧
      s'.r = { syncRun s.r s'.c with hds := h, hasValue := true })) : RInv s' := by
  obtain ⟨f1, f2, f3⟩ := syncRun_fields s.r s'.c
  rcases hr with hr | ⟨hsv, hr⟩
  · have cp := compacted_of_eq_or_compactAt hc
    refine ri.next (hr ▸ f1) (hr ▸ f2) (fun hv => Or.inl ⟨?_, (processMsg_grows ci s.q h m ok).trans cp.grows,
      (processMsg_keepsDec ci.hist s.q h m ok).trans cp.keepsDec⟩)
    rw [hr, f3] at hv; exact hv
  · obtain ⟨hnew, hrun⟩ := runnerSaves_new hsv
    rw [new_valid ai hnew] at hc
    exact ri.next (hr ▸ f1) (hr ▸ f2) (fun _ => Or.inr ⟨h, hrun, uponDecided_held ci h m hc⟩)

theorem RInv.beginStep (ri : RInv s) (slot : Nat) : RInv (Heights.beginStep s slot).1 := by
  unfold Heights.beginStep
  split
  · exact ri
  · exact RInv.of_fresh rfl rfl

/-- `decide` for the duty slot: a duty that holds a value cannot start its instance again -/
theorem RInv.decideStep (ri : RInv s) (slot : Nat) (hd : s.r.duty = some slot) :
    RInv (Heights.decideStep s slot).1 := by
  rcases decideStep_cases s slot with ⟨h0, _⟩ | ⟨c', d⟩
  · rw [h0]; exact ri
  · have hnv : s.r.hasValue = false := by
      cases hv : s.r.hasValue
      · rfl
      · -- the value is for the running instance = the duty slot, a height that `StartNewInstance` refuses
        obtain ⟨d, hr, hs, _⟩ := ri.held hv
        have := ri.run d hr
        rw [hd] at this
        cases this
        exact absurd (startNewInstance_above d.start hs) (Nat.lt_irrefl _)
    refine ⟨?_, ?_⟩
    · intro rh hr; rw [d.running] at hr; cases hr; rw [d.duty]; exact hd
    · intro hv; rw [d.hasValue, hnv] at hv; cases hv

theorem RInv.noValue (ri : RInv s) (hr : s.r.running = some rh)
    (hf : find s.c.insts rh = some i) (hnd : i.decided = false) : s.r.hasValue = false := by
  cases hv : s.r.hasValue
  · rfl
  · obtain ⟨d, hrd, _, hdec⟩ := ri.held hv
    rw [hr] at hrd; cases hrd
    rw [hdec i hf] at hnd; cases hnd

theorem RInv.congr (ri : RInv s) (hc : s'.c = s.c) (hr : s'.r = s.r) : RInv s' :=
  ⟨by rw [hr]; exact ri.run, by rw [hr, hc]; exact ri.held⟩

theorem RInv.step_decided (ci : CInv s.c s.s) (ai : AInv s.c s.s) (ri : RInv s) (h r root : Nat) (sg : List Nat)
    (ok via : Bool) : RInv (Heights.step s (.decided h r root sg ok via)).1 := by
  refine RInv.decided ci ai ri h ⟨r, root, sg⟩ ok (step_decided_c s h r root sg ok via) ?_
  cases via
  · exact Or.inl rfl
  · show (decidedViaRunner s h ⟨r, root, sg⟩ ok).1.r = _ ∨ _ ∧ (decidedViaRunner s h ⟨r, root, sg⟩ ok).1.r = _
    unfold decidedViaRunner
    dsimp only
    cases hsv : runnerSaves s.r h (processMsg s.q s.c s.s h ⟨r, root, sg⟩ ok).2.2
    · exact Or.inl rfl
    · exact Or.inr ⟨rfl, rfl⟩

theorem RInv.step (ci : CInv s.c s.s) (ai : AInv s.c s.s) (ri : RInv s) (op : Op) : RInv (Heights.step s op).1 := by
  cases op with
  | start slot =>
    rw [step_start_eq]
    split
    · exact RInv.decideStep (ri.beginStep slot) slot (beginStep_ok ‹_›)
    · exact ri.beginStep slot
  | begin slot => exact ri.beginStep slot
  | decide =>
    rw [step_decide_eq]
    cases hd : s.r.duty with
    | none => exact ri
    | some slot => exact RInv.decideStep ri slot hd
  | decided h r root sg ok via => exact RInv.step_decided ci ai ri h r root sg ok via
  | decidedSF h r root sg ok via =>
    -- the store failure changes neither the controller nor the runner
    exact (RInv.step_decided ci ai ri h r root sg ok via).congr (step_decidedSF_c s h r root sg ok via)
      (by cases via <;> rfl)
  | commits root vc =>
    show RInv (commitsStep s root vc).1
    rcases commitsStep_cases s root with h0 | ⟨rh, i, hr, hf, _, h⟩
    · rw [(h0 vc).1]; exact ri
    · -- the running instance becomes decided in place
      have hfind := commitsCtrl_find hf root
      refine ri.next (h vc).duty (h vc).running (fun _ => Or.inr ⟨rh, hr, ?_, ?_⟩) <;> rw [(h vc).ctrl]
      · refine ⟨(find_some_height hf) ▸ ci.top.le i (find_some_mem hf), fun hh => ?_⟩
        unfold AtTop
        rw [← (show rh = (commitsCtrl s i root).height from hh), hfind]; rfl
      · intro y hy
        rw [hfind] at hy; cases hy; rfl
  | compact h =>
    obtain ⟨f1, f2, f3⟩ := syncRun_fields s.r (compactAt s.c h)
    exact ri.next (s' := (Heights.step s (.compact h)).1) f1 f2
      (fun hv => Or.inl ⟨f3 ▸ hv, compact_grows _ h, compact_keepsDec _ h⟩)
  | restart f =>
    show RInv (restartStep s f).1
    unfold restartStep
    dsimp only
    split <;> exact RInv.of_fresh rfl rfl

end

/-- the four invariants together: what holds of every state reached without store-write failures -/
structure SInvAll (s : State) : Prop where
  cinv : CInv s.c s.s
  tinv : TInv s.c s.s
  rinv : RInv s
  ainv : AInv s.c s.s

theorem SInvAll.init (full : Bool) (q : Nat) : SInvAll (Heights.init full q) :=
  ⟨CInv.init full, (by intro i hi; cases hi), RInv.init full q,
    ⟨(by intro i hi; cases hi), (by intro x hx; cases hx), (by intro h x hx; simp [Heights.init, histGet] at hx)⟩⟩

theorem SInvAll.step {s : State} (inv : SInvAll s) (op : Op)
    (hnf : ∀ h r root sg ok via, op ≠ .decidedSF h r root sg ok via) : SInvAll (Heights.step s op).1 := by
  refine ⟨inv.cinv.step op, ?_, RInv.step inv.cinv inv.ainv inv.rinv op, AInv.step inv.cinv inv.ainv op⟩
  rcases step_cs s op with ⟨f, _, hc, hs⟩ | hm
  · rw [hc, hs]; exact TInv.load s.s f
  · -- no write is lost: not by a store failure (`hnf`), and `commits` is applicable only to an undecided running
    -- instance, so the duty holds no value then
    have hl : lossy s op = false ∨ (Heights.step s op).1 = s := by
      cases op with
      | decidedSF h r root sg ok via => exact absurd rfl (hnf h r root sg ok via)
      | commits root vc =>
        rcases commitsStep_cases s root with h0 | ⟨rh, i, hr, hf, hnd, _⟩
        · exact Or.inr (h0 vc).1
        · exact Or.inl (inv.rinv.noValue hr hf hnd)
      | _ => exact Or.inl rfl
    rcases hl with hl | hl
    · exact (hm.inv inv.cinv inv.ainv).2 hl inv.tinv
    · rw [hl]; exact inv.tinv

theorem SInvAll.reach (full : Bool) (q : Nat) (ops : List Op) (hnf : NoStoreFail ops) :
    SInvAll (Heights.run (Heights.init full q) ops) := by
  suffices h : ∀ s, SInvAll s → SInvAll (Heights.run s ops) from h _ (SInvAll.init full q)
  induction ops with
  | nil => intro s hs; exact hs
  | cons op ops ih =>
    intro s hs
    exact ih (fun o ho => hnf o (List.mem_cons_of_mem _ ho)) _ (hs.step op (hnf op (by simp)))

/-- after a valid decided message at or above the controller height a record of its height is the stored highest —
    on full and light nodes alike -/
theorem top_decided_stored {s : State} (inv : SInvAll s) (h r root : Nat) (sg : List Nat) (via : Bool)
    (hq : s.q ≤ sg.length) (hge : s.c.height ≤ h) :
    ∃ b, (Heights.step s (.decided h r root sg true via)).1.s.highest = some b ∧ b.inst.height = h := by
  -- afterwards the controller height is `h`, the instance found for `h` is there and decided, and `TInv` holds
  have inv' := inv.step (.decided h r root sg true via) (fun _ _ _ _ _ _ => nofun)
  have hc := step_decided_c s h r root sg true via
  rw [processMsg_valid (m := ⟨r, root, sg⟩) _ _ _ hq] at hc
  obtain ⟨hs, hd⟩ := uponDecided_held inv.cinv h _ hc
  have hh : (Heights.step s (.decided h r root sg true via)).1.c.height = h :=
    (compacted_of_eq_or_compactAt hc).height.trans (bump_of_le hge)
  have hat := hs.2 hh.symm
  unfold AtTop at hat
  rw [hh] at hat
  cases hf : find (Heights.step s (.decided h r root sg true via)).1.c.insts h with
  | none => rw [hf] at hat; cases hat
  | some y =>
    obtain ⟨a, ha, hah⟩ := inv'.tinv y (find_some_mem hf) ((find_some_height hf).trans hh.symm) (hd y hf)
    exact ⟨a, ha, hah.trans hh⟩

end Ssv.Heights
