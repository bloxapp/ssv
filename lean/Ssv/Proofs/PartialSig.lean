/- Partial-signature collection of a duty runner (Ssv/Model/PartialSig.lean).  A message that passes validation is
   `processEntries` (what it writes: `processOne_get`; which roots it reports: `processEntries_edges`) followed by the
   reconstruct-and-submit loop, which has a closed form (`handleRoots_eq`, `quorumBranch_eq`): `step_accepted`.
   Along a run the container only gains correct shares (`GoodLE`).  Core Lean only. -/
import Ssv.Model.PartialSig
import Ssv.Common.Lemmas

namespace Ssv.PartialSig

theorem filter_len_mono (l : List Nat) (p p' : Nat → Bool) (h : ∀ x ∈ l, p x = true → p' x = true) :
    (l.filter p).length ≤ (l.filter p').length := by
  simpa only [List.countP_eq_length_filter] using List.countP_mono_left h

theorem takeWhile_of_all (l : List Nat) (p : Nat → Bool) (h : l.all p = true) : l.takeWhile p = l := by
  induction l with
  | nil => rfl
  | cons a t ih =>
    simp only [List.all_cons, Bool.and_eq_true] at h
    rw [List.takeWhile_cons_of_pos h.1, ih h.2]

section
variable (q : Nat) (cm : List Nat)

/-- the order in which the container moves along a run: a correct stored share stays -/
def GoodLE (c c' : Container) : Prop := ∀ r s, c.get r s = some true → c'.get r s = some true

theorem GoodLE.refl (c : Container) : GoodLE c c := fun _ _ h => h
theorem GoodLE.trans {a b c : Container} (h1 : GoodLE a b) (h2 : GoodLE b c) : GoodLE a c :=
  fun r s h => h2 r s (h1 r s h)

theorem setSig_get (c : Container) (r s : Nat) (v : Option Bool) (r' s' : Nat) :
    (setSig c r s v).get r' s' = if r' = r ∧ s' = s then v else c.get r' s' := rfl

theorem fallback_get (c : Container) (r r' s' : Nat) :
    (fallback c r).get r' s' = match c.get r' s' with
      | some false => if r' = r then none else some false
      | v => v := rfl

/-- what the cell of signer and root holds after `basePartialSigMsgProcessing` handled a share of quality `g` for it
    (`HasSigner` ? `resolveDuplicateSignature` : `AddSignature`): a correct stored share is kept; a wrong one is removed
    and the new share stored iff it verifies; an empty cell takes the new share whatever its quality -/
def stored : Option Bool → Bool → Option Bool
  | some true, _ => some true
  | some false, g => if g then some true else none
  | none, g => some g

theorem processOne_get (c : Container) (s r : Nat) (g : Bool) (r' s' : Nat) :
    (processOne q cm c s r g).1.get r' s' = if r' = r ∧ s' = s then stored (c.get r s) g else c.get r' s' := by
  show (if (c.get r s).isSome then resolveDuplicate c r s g else addSignature c r s g).get r' s' = _
  unfold resolveDuplicate addSignature
  cases hc : c.get r s with
  | none => rfl
  | some v =>
    cases v with
    | false => cases g <;> rfl
    | true =>
      show c.get r' s' = _
      split
      · next e => rw [e.1, e.2, hc]; rfl
      · rfl

theorem processOne_get_other (c : Container) (s r : Nat) (g : Bool) (r' s' : Nat)
    (h : ¬ (r' = r ∧ s' = s)) : (processOne q cm c s r g).1.get r' s' = c.get r' s' := by
  rw [processOne_get, if_neg h]

theorem processOne_get_good (c : Container) (s r : Nat) :
    (processOne q cm c s r true).1.get r s = some true := by
  rw [processOne_get, if_pos ⟨rfl, rfl⟩]
  cases c.get r s with
  | none => rfl
  | some v => cases v <;> rfl

theorem goodLE_processOne (c : Container) (s r : Nat) (g : Bool) :
    GoodLE c (processOne q cm c s r g).1 := by
  intro r' s' h
  rw [processOne_get]
  split
  · next e => rw [← e.1, ← e.2, h]; rfl
  · exact h

theorem processOne_edge (c : Container) (s r : Nat) (g : Bool) :
    (processOne q cm c s r g).2 = (hasQuorum q cm (processOne q cm c s r g).1 r && !hasQuorum q cm c r) := rfl

theorem goodLE_foldl_fallback (rs : List Nat) (c : Container) : GoodLE c (rs.foldl fallback c) := by
  induction rs generalizing c with
  | nil => exact GoodLE.refl c
  | cons a t ih => exact GoodLE.trans (fun r s h => by rw [fallback_get, h]) (ih (fallback c a))

/-- the correct stored shares of a root: unlike `count` (the fallback evicts wrong shares) it never falls along a run -/
def goodCount (c : Container) (r : Nat) : Nat := (cm.filter fun s => c.get r s == some true).length

theorem goodCount_mono {c c' : Container} (h : GoodLE c c') (r : Nat) :
    goodCount cm c r ≤ goodCount cm c' r := by
  apply filter_len_mono
  intro x _ hx
  simp only [beq_iff_eq] at hx ⊢
  exact h r x hx

theorem hasQuorum_of_goodCount (c : Container) (r : Nat) (h : q ≤ goodCount cm c r) :
    hasQuorum q cm c r = true := by
  have : goodCount cm c r ≤ count cm c r :=
    filter_len_mono _ _ _ fun x _ hx => by rw [beq_iff_eq.1 hx]; rfl
  simp only [hasQuorum, decide_eq_true_eq]; omega

theorem allGood_iff (c : Container) (r : Nat) :
    allGood cm c r = true ↔ ∀ s ∈ cm, c.get r s ≠ some false := by
  simp only [allGood, signersOf, List.all_eq_true, List.mem_filter, beq_iff_eq, and_imp]
  refine forall_congr' fun s => forall_congr' fun _ => ?_
  cases c.get r s with
  | none => simp
  | some v => cases v <;> simp

theorem goodCount_of_reconstructOK (c : Container) (r : Nat)
    (h : reconstructOK q cm c r = true) : q ≤ goodCount cm c r := by
  simp only [reconstructOK, Bool.and_eq_true, decide_eq_true_eq] at h
  -- no wrong share is stored, so the correct ones are all that is stored
  have : goodCount cm c r = count cm c r := congrArg List.length <| List.filter_congr fun x hx => by
    have := (allGood_iff cm c r).1 h.1 x hx
    cases hc : c.get r x with
    | none => rfl
    | some v => cases v with
      | true => rfl
      | false => exact absurd hc this
  rw [this]; exact h.2

theorem fallback_count_lt (hcm : cm.Nodup) (c : Container) (r : Nat)
    (hq : q ≤ count cm c r) (hno : reconstructOK q cm c r = false) : count cm (fallback c r) r < count cm c r := by
  have hng : ¬ allGood cm c r = true := by
    simp only [reconstructOK, Bool.and_eq_false_iff, decide_eq_false_iff_not] at hno
    rcases hno with h | h
    · simp [h]
    · exact absurd hq h
  simp only [allGood_iff, Classical.not_forall, Decidable.not_not] at hng
  obtain ⟨x, hx, hxf⟩ := hng
  -- a wrong share of `x` is stored: `x` and the signers the fallback leaves are distinct signers of before
  refine (List.nodup_cons (a := x).2 ⟨fun h => ?_, hcm.sublist List.filter_sublist⟩).length_le_of_subset
    (l₂ := signersOf cm c r) fun y hy => ?_
  · have := (List.mem_filter.1 h).2
    rw [fallback_get, hxf] at this
    simp at this
  · rcases List.mem_cons.1 hy with e | hy
    · exact List.mem_filter.2 ⟨e ▸ hx, by rw [e, hxf]; rfl⟩
    · obtain ⟨hym, hys⟩ := List.mem_filter.1 hy
      refine List.mem_filter.2 ⟨hym, ?_⟩
      rw [fallback_get] at hys
      cases hc : c.get r y with
      | none => rw [hc] at hys; simp at hys
      | some v => rfl

theorem hasQuorum_congr {c c' : Container} {r r' : Nat} (h : ∀ s, c.get r s = c'.get r' s) :
    hasQuorum q cm c r = hasQuorum q cm c' r' := by
  unfold hasQuorum count signersOf
  rw [List.filter_congr fun s _ => by rw [h s]]

theorem processEntries_goodLE (s : Nat) (es : List (Nat × Bool)) (c : Container) (acc : List Nat) :
    GoodLE c (processEntries q cm s c es acc).1 := by
  induction es generalizing c acc with
  | nil => exact GoodLE.refl c
  | cons e t ih =>
    obtain ⟨r, g⟩ := e
    simp only [processEntries]
    exact GoodLE.trans (goodLE_processOne q cm c s r g) (ih _ _)

/-- its own iteration stores a correct share of the message, the later ones keep it -/
theorem processEntries_stores_good (s : Nat) (es : List (Nat × Bool)) (c : Container)
    (acc : List Nat) (r : Nat) (h : (r, true) ∈ es) : (processEntries q cm s c es acc).1.get r s = some true := by
  induction es generalizing c acc with
  | nil => cases h
  | cons e t ih =>
    obtain ⟨r', g⟩ := e
    simp only [processEntries]
    rcases List.mem_cons.1 h with e | h
    · cases e
      exact processEntries_goodLE q cm s t _ _ r s (processOne_get_good q cm c s r)
    · exact ih _ _ h

theorem processEntries_get_other (s : Nat) (es : List (Nat × Bool)) (c : Container)
    (acc : List Nat) (r' s' : Nat) (h : s' ≠ s ∨ r' ∉ es.map (·.1)) :
    (processEntries q cm s c es acc).1.get r' s' = c.get r' s' := by
  induction es generalizing c acc with
  | nil => rfl
  | cons e t ih =>
    obtain ⟨r, g⟩ := e
    simp only [processEntries]
    rw [ih _ _ (h.imp id fun h' hm => h' (List.mem_cons_of_mem _ hm)), processOne_get_other]
    rintro ⟨rfl, rfl⟩
    exact h.elim (fun h => h rfl) fun h => h List.mem_cons_self

theorem processEntries_count_le (hcm : cm.Nodup) (s : Nat)
    (es : List (Nat × Bool)) (c : Container) (acc : List Nat) (r : Nat) :
    count cm (processEntries q cm s c es acc).1 r ≤ count cm c r + 1 := by
  -- the message writes cells of `s` only: the signers of the row afterwards are among `s` and the signers before
  refine (hcm.sublist List.filter_sublist).length_le_of_subset (l₂ := s :: signersOf cm c r) fun x hx => ?_
  obtain ⟨hxm, hxs⟩ := List.mem_filter.1 hx
  by_cases e : x = s
  · exact e ▸ List.mem_cons_self
  · rw [processEntries_get_other q cm s es c acc r x (Or.inl e)] at hxs
    exact List.mem_cons_of_mem _ (List.mem_filter.2 ⟨hxm, hxs⟩)

/-- the reported roots extend the accumulator by a sublist of the message's roots, none of which held a quorum of
    correct shares before the message (such a quorum stays, so `prevQuorum` is true in its iteration) -/
theorem processEntries_edges (s : Nat) (es : List (Nat × Bool)) (c : Container) (acc : List Nat) :
    ∃ new, (processEntries q cm s c es acc).2 = acc ++ new ∧ new.Sublist (es.map (·.1)) ∧
      ∀ r ∈ new, ¬ q ≤ goodCount cm c r := by
  induction es generalizing c acc with
  | nil => exact ⟨[], (List.append_nil acc).symm, List.Sublist.refl _, fun _ h => absurd h List.not_mem_nil⟩
  | cons e t ih =>
    obtain ⟨r, g⟩ := e
    simp only [processEntries]
    have hmono := fun r' => goodCount_mono cm (goodLE_processOne q cm c s r g) r'
    cases hedge : (processOne q cm c s r g).2 with
    | true =>
      obtain ⟨new, h1, h2, h3⟩ := ih (processOne q cm c s r g).1 (acc ++ [r])
      refine ⟨r :: new, by rw [if_pos rfl, h1, List.append_assoc]; rfl, h2.cons_cons r, fun r' hr' hq => ?_⟩
      rcases List.mem_cons.1 hr' with e | hm
      · subst e
        rw [processOne_edge, hasQuorum_of_goodCount q cm c r' hq, Bool.not_true, Bool.and_false] at hedge
        cases hedge
      · exact h3 r' hm (Nat.le_trans hq (hmono r'))
    | false =>
      obtain ⟨new, h1, h2, h3⟩ := ih (processOne q cm c s r g).1 acc
      exact ⟨new, h1, h2.cons r, fun r' hm hq => h3 r' hm (Nat.le_trans hq (hmono r'))⟩

/-- with pairwise distinct roots every iteration works on a row of its own, so a root is reported iff the message took
    it across the quorum -/
theorem processEntries_edges_eq (s : Nat) (es : List (Nat × Bool)) (c : Container)
    (acc : List Nat) (hnd : (es.map (·.1)).Nodup) :
    (processEntries q cm s c es acc).2 = acc ++ (es.map (·.1)).filter fun r =>
      hasQuorum q cm (processEntries q cm s c es acc).1 r && !hasQuorum q cm c r := by
  induction es generalizing c acc with
  | nil => simp [processEntries]
  | cons e t ih =>
    obtain ⟨r, g⟩ := e
    rw [List.map_cons, List.nodup_cons] at hnd
    -- the later iterations write other rows: row `r` stays as this iteration leaves it
    have hrow := fun acc' => hasQuorum_congr q cm fun x =>
      processEntries_get_other q cm s t (processOne q cm c s r g).1 acc' r x (Or.inr hnd.1)
    -- this iteration writes row `r` only
    have hrest : ∀ r' ∈ t.map (·.1), hasQuorum q cm (processOne q cm c s r g).1 r' = hasQuorum q cm c r' :=
      fun r' hr' => hasQuorum_congr q cm fun x => processOne_get_other q cm c s r g r' x fun e => hnd.1 (e.1 ▸ hr')
    simp only [processEntries, List.map_cons, List.filter_cons]
    rw [ih _ _ hnd.2, hrow, ← processOne_edge, List.filter_congr fun r' hr' => by rw [hrest r' hr']]
    cases (processOne q cm c s r g).2 <;> simp

theorem sharesOf_ok (c : Container) (r : Nat) (h : reconstructOK q cm c r = true) :
    ((sharesOf cm c r).all fun p => p.2 == some true) = true ∧ q ≤ (sharesOf cm c r).length := by
  simp only [reconstructOK, Bool.and_eq_true, allGood, count] at h
  exact ⟨by simp only [sharesOf, List.all_map]; exact h.1,
    by simp only [sharesOf, List.length_map]; exact of_decide_eq_true h.2⟩

/-- the loop `for _, root := range roots` in closed form.  The container does not change while the loop runs, so the
    loop gets as far as the roots reconstruct over `c`: it submits the selected ones among them, and runs to the end
    (leaving `c` alone) iff all do -/
theorem handleRoots_eq (allRoots : List Nat) (submitIf : Nat → Bool)
    (c : Container) (rs : List Nat) (acc : List Sub) :
    handleRoots q cm allRoots submitIf c rs acc =
      (if rs.all (reconstructOK q cm c) then c else allRoots.foldl fallback c,
       acc ++ ((rs.takeWhile (reconstructOK q cm c)).filter submitIf).map (fun r => ⟨r, sharesOf cm c r⟩),
       rs.all (reconstructOK q cm c)) := by
  induction rs generalizing acc with
  | nil => simp [handleRoots]
  | cons r t ih =>
    simp only [handleRoots, ih]
    cases hok : reconstructOK q cm c r
    · simp [hok]
    · cases hs : submitIf r <;> simp [hok, hs]

end

/-- the roots the reconstruct-and-submit loop runs over: `first` looks at `roots[0]` only -/
def loopRoots (st : St) (roots : List Nat) : List Nat := if st.style = .first then roots.take 1 else roots

/-- whether the loop submits a reconstructed root: always, except that the contribution runner first looks the root up
    among the expected ones -/
def submits (st : St) (r : Nat) : Bool := st.style != .loopMatch || st.expected.contains r

theorem loopRoots_sublist (st : St) (roots : List Nat) : (loopRoots st roots).Sublist roots := by
  unfold loopRoots
  split
  · exact List.take_sublist 1 roots
  · exact List.Sublist.refl roots

theorem loopRoots_singleton (st : St) (r : Nat) : loopRoots st [r] = [r] := by
  unfold loopRoots; split <;> rfl

theorem submits_of_mem (st : St) (r : Nat) (h : r ∈ st.expected) : submits st r = true := by
  simp [submits, h]

section
variable (st : St) (c1 : Container) (roots : List Nat)

/-- what `step` does once `basePartialSigMsgProcessing` has reported the roots `roots` (not none) over the container
    `c1`: every style is the loop `handleRoots`, the style `first` being the loop over `[roots[0]]` that submits
    unconditionally -/
def quorumBranch : St × Out :=
  let hr := handleRoots st.q st.cm (loopRoots st roots) (submits st) c1 (loopRoots st roots) []
  if hr.2.2 then ({ st with c := hr.1, finished := true }, .submitted hr.2.1)
  else ({ st with c := hr.1 }, .reconstructFailed hr.2.1)

/-- the `Submit*` calls of the quorum branch -/
def loopSubs : List Sub :=
  (((loopRoots st roots).takeWhile (reconstructOK st.q st.cm c1)).filter (submits st)).map
    fun r => ⟨r, sharesOf st.cm c1 r⟩

theorem quorumBranch_eq :
    quorumBranch st c1 roots =
      if (loopRoots st roots).all (reconstructOK st.q st.cm c1) then
        ({ st with c := c1, finished := true }, .submitted (loopSubs st c1 roots))
      else ({ st with c := (loopRoots st roots).foldl fallback c1 }, .reconstructFailed (loopSubs st c1 roots)) := by
  unfold quorumBranch
  rw [handleRoots_eq]
  cases (loopRoots st roots).all (reconstructOK st.q st.cm c1) <;> rfl

theorem subsOf_quorumBranch :
    subsOf (quorumBranch st c1 roots).2 = loopSubs st c1 roots := by
  rw [quorumBranch_eq]; split <;> rfl

theorem goodLE_quorumBranch : GoodLE c1 (quorumBranch st c1 roots).1.c := by
  rw [quorumBranch_eq]
  split
  · exact GoodLE.refl c1
  · exact goodLE_foldl_fallback _ c1

theorem loopSubs_roots_sublist :
    ((loopSubs st c1 roots).map (·.root)).Sublist roots := by
  simp only [loopSubs, List.map_map, Function.comp_def, List.map_id']
  exact (List.filter_sublist.trans (List.takeWhile_sublist _)).trans (loopRoots_sublist st roots)

theorem loopSubs_ok (sub : Sub) (h : sub ∈ loopSubs st c1 roots) :
    reconstructOK st.q st.cm c1 sub.root = true ∧ sub = ⟨sub.root, sharesOf st.cm c1 sub.root⟩ := by
  obtain ⟨r, hr, rfl⟩ := List.mem_map.1 h
  exact ⟨List.all_eq_true.1 List.all_takeWhile r (List.mem_filter.1 hr).1, rfl⟩

end

/-- the shares of a message as `step` hands them to `basePartialSigMsgProcessing`: root and quality -/
abbrev sharesIn (m : Msg) : List (Nat × Bool) := m.entries.map fun e => (e.2.1, e.2.2)

/-- what `validateForm` has checked of a message it lets through, guard by guard -/
structure WellFormed (cm expected : List Nat) (m : Msg) : Prop where
  signer_ne : m.signer ≠ 0
  inner : ∀ e ∈ m.entries, e.1 = m.signer
  nonempty : m.entries ≠ []
  slot : m.slotOk = true
  member : m.signer ∈ cm
  len : expected.length = m.entries.length
  perm : (m.entries.map (·.2.1)).Perm expected

theorem validateForm_none (cm expected : List Nat) (m : Msg) (h : validateForm cm expected m = none) :
    WellFormed cm expected m := by
  simp only [validateForm, ite_some_eq_none] at h
  obtain ⟨h1, h2, h3, h4, h5, h6, h7, _⟩ := h
  exact {
    signer_ne := h1
    inner := fun e he => Decidable.of_not_not fun hne => h2 (List.any_eq_true.2 ⟨e, he, bne_iff_ne.2 hne⟩)
    nonempty := fun e => h3 (e ▸ rfl)
    slot := by simpa using h4
    member := by simpa using h5
    len := Decidable.of_not_not h6
    perm := List.isPerm_iff.1 (by simpa using h7) }

section
variable (st : St) (m : Msg)

/-- what `validate` has checked when it lets a message through -/
structure Accepted : Prop where
  unfinished : st.finished = false
  decided : st.decided = true
  form : validateForm st.cm st.expected m = none

theorem validate_none (h : validate st m = none) : Accepted st m := by
  simp only [validate, ite_some_eq_none] at h
  obtain ⟨hfin, hdec, hform⟩ := h
  exact ⟨by simpa using hfin, by simpa using hdec, hform⟩

theorem step_rejected (why : Reject) (h : validate st m = some why) : step st m = (st, .rejected why) := by
  unfold step; rw [h]

theorem step_accepted (h : validate st m = none) :
    step st m =
      let pe := processEntries st.q st.cm m.signer st.c (sharesIn m) []
      if pe.2 = [] then ({ st with c := pe.1 }, .collected) else quorumBranch st pe.1 pe.2 := by
  unfold step
  rw [h]
  generalize processEntries st.q st.cm m.signer st.c (sharesIn m) [] = pe
  obtain ⟨c1, roots⟩ := pe
  obtain ⟨q, cm, expected, style, decided, c, finished⟩ := st
  cases roots with
  | nil => rfl
  | cons r t =>
    cases style with
    | first =>
      show _ = quorumBranch _ c1 (r :: t)
      simp only [quorumBranch, loopRoots, if_true, List.take_succ_cons, List.take_zero, handleRoots]
      cases reconstructOK q cm c1 r <;> rfl
    | loop => rfl
    | loopMatch => rfl

/-- with pairwise distinct expected roots: the shares are stored, then the quorum branch runs over the roots that the
    message took across the quorum -/
theorem step_accepted_nodup (h : validate st m = none) (hexp : st.expected.Nodup) :
    step st m =
      let c1 := (processEntries st.q st.cm m.signer st.c (sharesIn m) []).1
      let crossed := (m.entries.map (·.2.1)).filter fun r =>
        hasQuorum st.q st.cm c1 r && !hasQuorum st.q st.cm st.c r
      if crossed = [] then ({ st with c := c1 }, .collected) else quorumBranch st c1 crossed := by
  have hnd : ((sharesIn m).map (·.1)).Nodup := by
    rw [List.map_map]; exact (validateForm_none _ _ m (validate_none st m h).form).perm.nodup_iff.2 hexp
  rw [step_accepted st m h]
  dsimp only
  rw [processEntries_edges_eq _ _ _ _ _ _ hnd, List.map_map]
  rfl

/-- `s` is a state of the duty of `st`: a run changes the container and `finished` only -/
structure SameDuty (st s : St) : Prop where
  q : s.q = st.q
  cm : s.cm = st.cm
  expected : s.expected = st.expected
  style : s.style = st.style
  decided : s.decided = st.decided

theorem SameDuty.refl : SameDuty st st := ⟨rfl, rfl, rfl, rfl, rfl⟩

theorem SameDuty.trans {a b c : St} (h1 : SameDuty a b) (h2 : SameDuty b c) : SameDuty a c :=
  ⟨h2.q.trans h1.q, h2.cm.trans h1.cm, h2.expected.trans h1.expected, h2.style.trans h1.style,
    h2.decided.trans h1.decided⟩

theorem step_sameDuty : SameDuty st (step st m).1 := by
  cases hv : validate st m with
  | some why => rw [step_rejected st m why hv]; exact .refl st
  | none =>
    -- every branch is `{ st with c := _, finished := _ }`
    rw [step_accepted st m hv]
    dsimp only
    split
    · exact ⟨rfl, rfl, rfl, rfl, rfl⟩
    · rw [quorumBranch_eq]; split <;> exact ⟨rfl, rfl, rfl, rfl, rfl⟩

theorem step_no_panic : ∀ st', step st m ≠ (st', .panicked) := by
  intro st'
  cases hv : validate st m with
  | some why => rw [step_rejected st m why hv]; intro h; cases h
  | none =>
    rw [step_accepted st m hv]
    dsimp only
    split
    · intro h; cases h
    · rw [quorumBranch_eq]; split <;> (intro h; cases h)

/-- a submission made by a message that takes the duty from `st` to `st'`: it is reconstructed from correct shares only,
    at least `q` of them, over an expected root that held no quorum of correct shares before and holds one afterwards -/
structure SubOk (st st' : St) (sub : Sub) : Prop where
  correct : (sub.shares.all fun p => p.2 == some true) = true
  quorum : st.q ≤ sub.shares.length
  expected : sub.root ∈ st.expected
  after : st.q ≤ goodCount st.cm st'.c sub.root
  before : ¬ st.q ≤ goodCount st.cm st.c sub.root

/-- what the facts along a run need of a step from `st` with result `res` -/
structure StepFacts (res : St × Out) : Prop where
  goodLE : GoodLE st.c res.1.c
  subOk : ∀ sub ∈ subsOf res.2, SubOk st res.1 sub
  nodup : st.expected.Nodup → ((subsOf res.2).map (·.root)).Nodup

theorem step_facts : StepFacts st (step st m) := by
  cases hval : validate st m with
  | some why =>
    rw [step_rejected st m why hval]
    exact ⟨GoodLE.refl _, fun _ h => absurd h List.not_mem_nil, fun _ => List.nodup_nil⟩
  | none =>
    have hperm := (validateForm_none _ _ m (validate_none st m hval).form).perm
    have hle1 := processEntries_goodLE st.q st.cm m.signer (sharesIn m) st.c []
    obtain ⟨new, hnew, hsub, hnoedge⟩ := processEntries_edges st.q st.cm m.signer (sharesIn m) st.c []
    rw [step_accepted st m hval]
    generalize processEntries st.q st.cm m.signer st.c (sharesIn m) [] = pe at hle1 hnew ⊢
    obtain ⟨c1, roots⟩ := pe
    simp only [List.nil_append, List.map_map, Function.comp_def] at hnew hsub hle1 ⊢
    subst hnew
    split
    · exact ⟨hle1, fun _ h => absurd h List.not_mem_nil, fun _ => List.nodup_nil⟩
    · -- the reported roots are a sublist of the message's roots, a permutation of the expected ones
      have hle2 := goodLE_quorumBranch st c1 roots
      have hroots := (loopSubs_roots_sublist st c1 roots).trans hsub
      refine { goodLE := hle1.trans hle2, subOk := ?_, nodup := fun hexp => ?_ }
      · rw [subsOf_quorumBranch]
        intro sub hm
        obtain ⟨hok, hsh⟩ := loopSubs_ok st c1 roots sub hm
        have hr : sub.root ∈ roots := (loopSubs_roots_sublist st c1 roots).subset (List.mem_map_of_mem hm)
        exact {
          correct := hsh ▸ (sharesOf_ok _ _ _ _ hok).1
          quorum := hsh ▸ (sharesOf_ok _ _ _ _ hok).2
          expected := hperm.mem_iff.1 (hsub.subset hr)
          after := Nat.le_trans (goodCount_of_reconstructOK _ _ _ _ hok) (goodCount_mono _ hle2 _)
          before := hnoedge _ hr }
      · rw [subsOf_quorumBranch]
        exact hroots.nodup (hperm.nodup_iff.2 hexp)

theorem step_stores_good (r : Nat) (hval : validate st m = none) (hg : goodFor r m = true) :
    (step st m).1.c.get r m.signer = some true := by
  have hmem : (r, true) ∈ sharesIn m := by
    simp only [goodFor, List.any_eq_true, Bool.and_eq_true, beq_iff_eq] at hg
    obtain ⟨e, he, h1, h2⟩ := hg
    exact List.mem_map.2 ⟨e, he, by rw [h1, h2]⟩
  have := processEntries_stores_good st.q st.cm m.signer _ st.c [] r hmem
  rw [step_accepted st m hval]
  dsimp only
  split
  · exact this
  · exact goodLE_quorumBranch st _ _ r _ this

end

section
variable (st : St) (ms : List Msg)

theorem run_sameDuty : SameDuty st (run st ms).1 := by
  induction ms generalizing st with
  | nil => exact .refl st
  | cons m t ih => exact (step_sameDuty st m).trans (ih (step st m).1)

theorem run_goodLE : GoodLE st.c (run st ms).1.c := by
  induction ms generalizing st with
  | nil => exact GoodLE.refl _
  | cons m t ih => exact (step_facts st m).goodLE.trans (ih (step st m).1)

theorem run_cons_rejected (m : Msg) (t : List Msg) (why : Reject) (h : validate st m = some why) :
    run st (m :: t) = run st t := by
  simp only [run, step_rejected st m why h, subsOf, List.nil_append]

theorem run_finished (h : st.finished = true) : run st ms = (st, []) := by
  induction ms with
  | nil => rfl
  | cons m t ih => rw [run_cons_rejected st m t .noRunningDuty (by unfold validate; simp [h]), ih]

theorem run_safety :
    ∀ sub ∈ (run st ms).2,
      (sub.shares.all fun p => p.2 == some true) = true ∧ st.q ≤ sub.shares.length ∧ sub.root ∈ st.expected := by
  induction ms generalizing st with
  | nil => exact fun _ h => absurd h List.not_mem_nil
  | cons m t ih =>
    intro sub hsub
    rcases List.mem_append.1 hsub with h | h
    · have ok := (step_facts st m).subOk sub h
      exact ⟨ok.correct, ok.quorum, ok.expected⟩
    · have sd := step_sameDuty st m
      obtain ⟨h1, h2, h3⟩ := ih (step st m).1 sub h
      exact ⟨h1, sd.q ▸ h2, sd.expected ▸ h3⟩

/-- `R`: roots submitted earlier.  They hold a quorum of correct shares, so none of them is submitted again -/
theorem run_nodup (hexp : st.expected.Nodup) (R : List Nat) (hRnd : R.Nodup)
    (hR : ∀ r ∈ R, st.q ≤ goodCount st.cm st.c r) : (R ++ (run st ms).2.map (·.root)).Nodup := by
  induction ms generalizing st R with
  | nil => simpa [run] using hRnd
  | cons m t ih =>
    simp only [run, List.map_append]
    have sd := step_sameDuty st m
    obtain ⟨hle, hf, hnd⟩ := step_facts st m
    have hnew := hnd hexp
    rw [← List.append_assoc]
    apply ih (step st m).1 (by rw [sd.expected]; exact hexp)
    · rw [List.nodup_append]
      refine ⟨hRnd, hnew, ?_⟩
      intro x hx y hy e
      subst e
      obtain ⟨sub, hsub, rfl⟩ := List.mem_map.1 hy
      exact (hf sub hsub).before (hR _ hx)
    · intro r hr
      rw [sd.q, sd.cm]
      rcases List.mem_append.1 hr with h | h
      · exact Nat.le_trans (hR r h) (goodCount_mono _ hle r)
      · obtain ⟨sub, hsub, rfl⟩ := List.mem_map.1 h
        exact (hf sub hsub).after

theorem run_roots_nodup (hexp : st.expected.Nodup) : ((run st ms).2.map (·.root)).Nodup := by
  simpa using run_nodup st ms hexp [] List.nodup_nil (by simp)

theorem run_roots_perm (hexp : st.expected.Nodup)
    (hall : ∀ r ∈ st.expected, r ∈ (run st ms).2.map (·.root)) : ((run st ms).2.map (·.root)).Perm st.expected := by
  refine (List.perm_ext_iff_of_nodup (run_roots_nodup st ms hexp) hexp).2 fun a => ⟨fun ha => ?_, hall a⟩
  obtain ⟨sub, hsub, rfl⟩ := List.mem_map.1 ha
  obtain ⟨-, -, hexp⟩ := run_safety st ms sub hsub
  exact hexp

/-- while the duty is unfinished, every correct share that came in a well-formed message is stored: the message was
    accepted (the duty was unfinished then too), its own step stored the share, later steps only add correct shares -/
theorem run_stores_good (hdec : st.decided = true) (hf : (run st ms).1.finished = false)
    (m : Msg) (hm : m ∈ ms) (hwf : validateForm st.cm st.expected m = none) (r : Nat) (hg : goodFor r m = true) :
    (run st ms).1.c.get r m.signer = some true := by
  induction ms generalizing st with
  | nil => cases hm
  | cons m' t ih =>
    have hfin : st.finished = false := by
      cases h : st.finished with
      | false => rfl
      | true => rw [run_finished st _ h] at hf; exact absurd (h ▸ hf) (by simp)
    have sd := step_sameDuty st m'
    simp only [run] at hf ⊢
    rcases List.mem_cons.1 hm with e | h
    · exact run_goodLE _ t r _ (e ▸ step_stores_good st m r (by simp [validate, hfin, hdec, hwf]) hg)
    · exact ih (step st m').1 (sd.decided.trans hdec) hf h (by rw [sd.cm, sd.expected]; exact hwf)

/-- a duty that holds fewer than `q` shares of `r` as long as it is unfinished is finished once `q` distinct members have
    each delivered a correct share for `r` in a well-formed message: all of those would be stored -/
theorem run_finished_of_quorum (hdec : st.decided = true) (r : Nat) (G : List Nat)
    (hG : G.Nodup) (hGq : st.q ≤ G.length) (hGood : ∀ s ∈ G, SentGood st.cm st.expected r ms s)
    (hlt : (run st ms).1.finished = false → count st.cm (run st ms).1.c r < st.q) :
    (run st ms).1.finished = true := by
  cases hf : (run st ms).1.finished with
  | true => rfl
  | false =>
    have hge : G.length ≤ count st.cm (run st ms).1.c r := hG.length_le_of_subset fun s hs => by
      obtain ⟨m, hm, hms, hform, hg⟩ := hGood s hs
      refine List.mem_filter.2 ⟨hms ▸ (validateForm_none _ _ m hform).member, ?_⟩
      rw [← hms, run_stores_good st ms hdec hf m hm hform r hg]; rfl
    have := hlt hf
    omega

end

/-- the shape of a liveness argument along a run of the duty of `st0`.  `I` is kept by every accepted message that
    leaves the duty unfinished, and an accepted message that finishes the duty submits every root of `E`: then an
    unfinished run ends in `I` and a finished one has submitted `E` (refused messages change nothing, a finished duty
    refuses everything) -/
theorem run_induct (st0 : St) (I : St → Prop) (E : List Nat) (ms : List Msg)
    (hstep : ∀ st, ∀ m ∈ ms, SameDuty st0 st → I st → validate st m = none →
      ((step st m).1.finished = false ∧ I (step st m).1) ∨
      ((step st m).1.finished = true ∧ ∀ r ∈ E, r ∈ (subsOf (step st m).2).map (·.root)))
    (st : St) (hsd : SameDuty st0 st) (hI : st.finished = false → I st) :
    ((run st ms).1.finished = false → I (run st ms).1) ∧
    (st.finished = false → (run st ms).1.finished = true → ∀ r ∈ E, r ∈ (run st ms).2.map (·.root)) := by
  induction ms generalizing st with
  | nil => exact ⟨hI, fun h1 h2 => absurd (h1 ▸ h2) (by simp)⟩
  | cons m t ih =>
    have hstep' := fun s x hx => hstep s x (List.mem_cons_of_mem _ hx)
    cases hv : validate st m with
    | some why => rw [run_cons_rejected st m t why hv]; exact ih hstep' st hsd hI
    | none =>
      simp only [run]
      rcases hstep st m List.mem_cons_self hsd (hI (validate_none st m hv).unfinished) hv with ⟨f1, f2⟩ | ⟨f1, f2⟩
      · obtain ⟨i1, i2⟩ := ih hstep' (step st m).1 (hsd.trans (step_sameDuty st m)) (fun _ => f2)
        refine ⟨i1, fun _ hfinal r hr => ?_⟩
        rw [List.map_append, List.mem_append]
        exact Or.inr (i2 f1 hfinal r hr)
      · rw [run_finished _ t f1]
        exact ⟨fun h => absurd (f1 ▸ h) (by simp), fun _ _ r hr => by simpa using f2 r hr⟩

/-- one accepted message of a single-root duty that holds fewer than `q` shares: either the duty stays unfinished and
    still holds fewer than `q`, or it finishes and the root was submitted -/
theorem step_single (st : St) (m : Msg) (r0 : Nat) (hE : st.expected = [r0]) (hcm : st.cm.Nodup)
    (hval : validate st m = none) (hS : count st.cm st.c r0 < st.q) :
    ((step st m).1.finished = false ∧ count st.cm (step st m).1.c r0 < st.q) ∨
    ((step st m).1.finished = true ∧ r0 ∈ (subsOf (step st m).2).map (·.root)) := by
  obtain ⟨hfin, _, hform⟩ := validate_none st m hval
  have hroots : m.entries.map (·.2.1) = [r0] := List.perm_singleton.1 (hE ▸ (validateForm_none _ _ m hform).perm)
  have hcnt := processEntries_count_le st.q st.cm hcm m.signer (sharesIn m) st.c [] r0
  rw [step_accepted_nodup st m hval (by simp [hE])]
  generalize (processEntries st.q st.cm m.signer st.c (sharesIn m) []).1 = c1 at hcnt ⊢
  dsimp only
  rw [hroots, List.filter_cons, List.filter_nil,
    show hasQuorum st.q st.cm st.c r0 = false from decide_eq_false (Nat.not_le_of_lt hS), Bool.not_false,
    Bool.and_true]
  cases hq : hasQuorum st.q st.cm c1 r0 with
  | false =>
    -- no edge: the count did not reach `q`
    rw [if_neg Bool.false_ne_true, if_pos rfl]
    exact Or.inl ⟨hfin, Nat.lt_of_not_le (of_decide_eq_false hq)⟩
  | true =>
    rw [if_pos rfl, if_neg (List.cons_ne_nil _ _), quorumBranch_eq, loopRoots_singleton]
    cases hok : reconstructOK st.q st.cm c1 r0 with
    | true =>
      refine Or.inr ⟨by simp [hok], ?_⟩
      simp [hok, subsOf, loopSubs, loopRoots_singleton, submits_of_mem st r0 (by simp [hE])]
    | false =>
      -- edge and failed reconstruction: the fallback evicted a share
      simp only [List.all_cons, hok, List.all_nil, Bool.and_true, Bool.false_eq_true, if_false, List.foldl]
      exact Or.inl ⟨hfin, Nat.lt_of_lt_of_le (fallback_count_lt st.q st.cm hcm c1 r0 (of_decide_eq_true hq) hok)
        (Nat.le_trans hcnt hS)⟩

/-- single-root liveness, no bound on the number of faulty senders: once `q` distinct committee members have each
    delivered a correct share in a well-formed message, the root has been submitted, exactly once.  An unfinished duty
    holds fewer than `q` shares (`step_single`) yet keeps every correct share it was sent (`run_stores_good`) -/
theorem run_single_submits_once (r0 : Nat) (ms : List Msg) (st : St) (hE : st.expected = [r0]) (hcm : st.cm.Nodup)
    (hdec : st.decided = true) (hfin : st.finished = false) (hS : count st.cm st.c r0 < st.q)
    (G : List Nat) (hG : G.Nodup) (hGq : st.q ≤ G.length) (hGood : ∀ s ∈ G, SentGood st.cm [r0] r0 ms s) :
    (run st ms).2.map (·.root) = [r0] := by
  have key := run_induct st (fun s => count st.cm s.c r0 < st.q) [r0] ms
    (fun s m _ sd hc hval => by
      have := step_single s m r0 (sd.expected.trans hE) (sd.cm ▸ hcm) hval (by rw [sd.q, sd.cm]; exact hc)
      rw [sd.q, sd.cm] at this
      exact this.imp id fun h => ⟨h.1, fun r hr => List.mem_singleton.1 hr ▸ h.2⟩)
    st (.refl st) (fun _ => hS)
  have hfinal := run_finished_of_quorum st ms hdec r0 G hG hGq (by rw [hE]; exact hGood) key.1
  exact List.perm_singleton.1 (hE ▸ run_roots_perm st ms (by simp [hE]) (by rw [hE]; exact key.2 hfin hfinal))

def Clean (c : Container) : Prop := ∀ r s, c.get r s ≠ some false

theorem processEntries_clean (q : Nat) (cm : List Nat) (s : Nat) (rs : List Nat) (c : Container) (acc : List Nat)
    (h : Clean c) : Clean (processEntries q cm s c (rs.map fun r => (r, true)) acc).1 := by
  induction rs generalizing c acc with
  | nil => exact h
  | cons r t ih =>
    refine ih (processOne q cm c s r true).1 _ fun r' s' => ?_
    by_cases e : r' = r ∧ s' = s
    · rw [e.1, e.2, processOne_get_good]; simp
    · rw [processOne_get_other q cm c s r true r' s' e]; exact h r' s'

/-- invariant of a fault-free collection as long as no root has reached the quorum -/
structure FF (st : St) : Prop where
  clean : Clean st.c
  same : ∀ r ∈ st.expected, ∀ r' ∈ st.expected, ∀ s, st.c.get r s = st.c.get r' s
  below : ∀ r ∈ st.expected, hasQuorum st.q st.cm st.c r = false

theorem hasBadShare_false (m : Msg) : hasBadShare m = false ↔ ∀ e ∈ m.entries, e.2.2 = true := by
  simp only [hasBadShare, List.any_eq_false, Bool.not_eq_true', Bool.not_eq_false]

theorem entries_all_good (m : Msg) (h : hasBadShare m = false) :
    sharesIn m = (m.entries.map (·.2.1)).map fun r => (r, true) := by
  rw [List.map_map]
  exact List.map_congr_left fun e he => congrArg (Prod.mk e.2.1) ((hasBadShare_false m).1 h e he)

theorem goodFor_of_no_bad (m : Msg) (r : Nat) (h : hasBadShare m = false) (hr : r ∈ m.entries.map (·.2.1)) :
    goodFor r m = true := by
  obtain ⟨e, he, rfl⟩ := List.mem_map.1 hr
  exact List.any_eq_true.2 ⟨e, he, by rw [(hasBadShare_false m).1 h e he, beq_self_eq_true]; rfl⟩

/-- one well-formed all-correct message in a fault-free unfinished multi-root collection: either it is just stored and
    the invariant continues, or it completes the quorum of EVERY root at once and every root is submitted.  The message
    writes the same cell in every row, so the rows stay equal and cross the quorum together. -/
theorem step_ff (st : St) (m : Msg) (hexp : st.expected.Nodup) (hsty : st.style ≠ .first)
    (hval : validate st m = none) (hgood : hasBadShare m = false) (hff : FF st) :
    ((step st m).1.finished = false ∧ FF (step st m).1) ∨
    ((step st m).1.finished = true ∧ ∀ r ∈ st.expected, r ∈ (subsOf (step st m).2).map (·.root)) := by
  obtain ⟨hfin, _, hform⟩ := validate_none st m hval
  have hperm := (validateForm_none _ _ m hform).perm
  rw [step_accepted_nodup st m hval hexp, entries_all_good m hgood]
  generalize m.entries.map (·.2.1) = rs at hperm ⊢
  have hrexp : ∀ r, r ∈ rs ↔ r ∈ st.expected := fun r => hperm.mem_iff
  have e2 := processEntries_clean st.q st.cm m.signer rs st.c [] hff.clean
  have e3 := fun r hr => processEntries_stores_good st.q st.cm m.signer _ st.c [] r
    (List.mem_map_of_mem (f := fun r => (r, true)) ((hrexp r).2 hr))
  have e4 := fun r x (e : x ≠ m.signer) =>
    processEntries_get_other st.q st.cm m.signer (rs.map fun r => (r, true)) st.c [] r x (Or.inl e)
  generalize (processEntries st.q st.cm m.signer st.c (rs.map fun r => (r, true)) []).1 = c1 at e2 e3 e4 ⊢
  dsimp only
  have hsame : ∀ r ∈ st.expected, ∀ r' ∈ st.expected, ∀ x, c1.get r x = c1.get r' x := by
    intro r hr r' hr' x
    by_cases ex : x = m.signer
    · rw [ex, e3 r hr, e3 r' hr']
    · rw [e4 r x ex, e4 r' x ex]; exact hff.same r hr r' hr' x
  -- no root held a quorum before the message, so the roots that crossed are those that hold one after it
  rw [List.filter_congr fun r hr => by rw [hff.below r ((hrexp r).1 hr), Bool.not_false, Bool.and_true]]
  split
  · next hedge =>
    refine Or.inl ⟨hfin, e2, hsame, fun r hr => ?_⟩
    exact Bool.eq_false_iff.2 (List.filter_eq_nil_iff.1 hedge r ((hrexp r).2 hr))
  · next hedge =>
    -- some root crossed, so all did, and all reconstruct
    obtain ⟨r0, hr0⟩ := List.exists_mem_of_ne_nil _ hedge
    obtain ⟨hr0, hq0⟩ := List.mem_filter.1 hr0
    have hall : ∀ r ∈ rs, hasQuorum st.q st.cm c1 r = true := fun r hr => by
      rw [hasQuorum_congr st.q st.cm (hsame r ((hrexp r).1 hr) r0 ((hrexp r0).1 hr0))]; exact hq0
    rw [List.filter_eq_self.2 hall]
    have hloop : loopRoots st rs = rs := if_neg hsty
    have hok : (loopRoots st rs).all (reconstructOK st.q st.cm c1) = true := by
      rw [hloop, List.all_eq_true]
      intro r hr
      rw [reconstructOK, (allGood_iff _ _ _).2 fun s _ => e2 r s, Bool.true_and]
      exact hall r hr
    rw [quorumBranch_eq, if_pos hok, loopSubs, takeWhile_of_all _ _ hok, hloop,
      List.filter_eq_self.2 fun r hr => submits_of_mem st r ((hrexp r).1 hr)]
    exact Or.inr ⟨rfl, fun r hr => List.mem_map.2 ⟨⟨r, _⟩, List.mem_map_of_mem ((hrexp r).2 hr), rfl⟩⟩

/-- fault-free multi-root liveness: when every well-formed message carries correct shares only, once `q` distinct
    members have delivered a well-formed message every expected root has been submitted exactly once -/
theorem run_ff_submits_all (ms : List Msg) (st : St) (hexp : st.expected.Nodup) (hsty : st.style ≠ .first)
    (hdec : st.decided = true)
    (hclean : ∀ m ∈ ms, validateForm st.cm st.expected m = none → hasBadShare m = false)
    (hfin : st.finished = false) (hff : FF st) (G : List Nat) (hG : G.Nodup) (hGq : st.q ≤ G.length)
    (hsent : ∀ s ∈ G, ∃ m ∈ ms, m.signer = s ∧ validateForm st.cm st.expected m = none) :
    ((run st ms).2.map (·.root)).Perm st.expected := by
  have key := run_induct st FF st.expected ms
    (fun s m hm sd hff hval => by
      have hform := (validate_none s m hval).form
      rw [sd.cm, sd.expected] at hform
      rw [← sd.expected]
      exact step_ff s m (sd.expected ▸ hexp) (sd.style ▸ hsty) hval (hclean m hm hform) hff)
    st (.refl st) (fun _ => hff)
  refine run_roots_perm st ms hexp fun r hr => key.2 hfin ?_ r hr
  exact run_finished_of_quorum st ms hdec r G hG hGq
    (fun s hs => by
      obtain ⟨m, hm, hms, hwf⟩ := hsent s hs
      exact ⟨m, hm, hms, hwf,
        goodFor_of_no_bad m r (hclean m hm hwf) ((validateForm_none _ _ m hwf).perm.mem_iff.2 hr)⟩)
    (fun hf => by
      have sd := run_sameDuty st ms
      have := (key.1 hf).below r (sd.expected ▸ hr)
      rw [sd.q, sd.cm] at this
      exact Nat.lt_of_not_le (of_decide_eq_false this))

/-- the four committee sizes `ValidCommitteeSize` admits: the translated kernel gives the quorum `2f+1` -/
theorem quorumOf_eq (n : Nat) (hn : n = 4 ∨ n = 7 ∨ n = 10 ∨ n = 13) : quorumOf n = 2 * faultyOf n + 1 := by
  rcases hn with h | h | h | h <;> subst h <;> decide

theorem quorumOf_le (n : Nat) (hn : n = 4 ∨ n = 7 ∨ n = 10 ∨ n = 13) : quorumOf n ≤ n := by
  rcases hn with h | h | h | h <;> subst h <;> decide

theorem count_empty (cm : List Nat) (r : Nat) : count cm Container.empty r = 0 := by
  simp [count, signersOf, Container.empty]

theorem init_cm_nodup (n k : Nat) (style : Style) (d : Bool) : (init n k style d).cm.Nodup := by
  simp only [init, List.Nodup, List.pairwise_map]
  exact (List.nodup_range (n := n)).imp (fun h => by omega)

theorem init_mem_cm (n k : Nat) (style : Style) (d : Bool) (s : Nat) : s ∈ (init n k style d).cm ↔ 1 ≤ s ∧ s ≤ n := by
  show s ∈ (List.range n).map (· + 1) ↔ _
  rw [List.mem_map]
  constructor
  · rintro ⟨a, ha, rfl⟩
    exact ⟨Nat.succ_le_succ (Nat.zero_le a), List.mem_range.1 ha⟩
  · rintro ⟨h1, h2⟩
    exact ⟨s - 1, List.mem_range.2 (Nat.sub_one_lt_of_le h1 h2), Nat.sub_add_cancel h1⟩

end Ssv.PartialSig
