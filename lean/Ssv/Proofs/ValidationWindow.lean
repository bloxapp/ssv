/-
Slot and round windows in plain arithmetic (C09 clauses, C10 timing theorem): for 12-second-slot networks and a
realistic local clock (between genesis and the year 2242) the Go time arithmetic of the model does not wrap, and
the guards mean what their names say.
-/
import Ssv.Proofs.ValidationTrace

namespace Ssv.Validation
open Ssv

/-- a 12-second-slot network (every network the node supports) with a genesis time in the unix-second range -/
def Cfg12 (c : NetCfg) : Prop := c.slotDur = 12 ∧ 0 < c.slotsPerEpoch ∧ 0 < c.epochsPerPeriod ∧ c.genesis < 4294967296

/-- the node's clock shows a time between genesis and 2^33 s after the unix epoch (year 2242), with a normalised
    nanosecond part -/
def RealisticClock (c : NetCfg) (now : GoTime) : Prop :=
  (c.genesis : Int) ≤ now.sec - unixToInternal ∧ now.sec - unixToInternal < 8589934592 ∧ 0 ≤ now.nsec ∧ now.nsec < nsPerSec

def GoTime.unixSec (t : GoTime) : Int := t.sec - unixToInternal

/-- the slot the clock is in -/
def curSlot (c : NetCfg) (now : GoTime) : Int := (now.unixSec - c.genesis) / 12

/-- the nanosecond field is in `[0, 10^9)`, as in every `time.Time` -/
abbrev GoTime.Norm (t : GoTime) : Prop := 0 ≤ t.nsec ∧ t.nsec < 1000000000

theorem Cfg12.slotDur_eq {c : NetCfg} (h : Cfg12 c) : c.slotDur = 12 := h.1

theorem Cfg12.genesis_lt {c : NetCfg} (h : Cfg12 c) : c.genesis < 4294967296 := h.2.2.2

theorem RealisticClock.unixSec_range {c : NetCfg} {now : GoTime} (h : RealisticClock c now) :
    (c.genesis : Int) ≤ now.unixSec ∧ now.unixSec < 8589934592 := ⟨h.1, h.2.1⟩

theorem RealisticClock.norm {c : NetCfg} {now : GoTime} (h : RealisticClock c now) : now.Norm := h.2.2

/-- the conversions are the identity inside their range (the range written with numerals, for `omega`) -/
theorem wrapI64_of_int64 (x : Int) (h : -9223372036854775808 ≤ x ∧ x < 9223372036854775808) : wrapI64 x = x :=
  wrapI64_id x h.1 h.2

theorem wrapU64_of_uint64 (x : Int) (h : 0 ≤ x ∧ x < 18446744073709551616) : wrapU64 x = x :=
  wrapU64_id x h.1 h.2

theorem addSec_eq (s d : Int) (h : -9223372036854775808 ≤ s + d ∧ s + d < 9223372036854775808) : addSec s d = s + d := by
  unfold addSec
  simp only
  rw [wrapI64_of_int64 (s + d) h]
  have : (s + d > s) = (d > 0) := by simp only [gt_iff_lt, eq_iff_iff]; omega
  simp only [this, if_true]

/-! A normalised wall-clock time is the integer `ns` of its nanoseconds; as long as no intermediate value leaves int64,
`Add`, `Before`, `After` and `Sub` are `+`, `<`, `>` and `-` on these integers. -/

/-- nanoseconds since January 1, year 1 -/
def GoTime.ns (t : GoTime) : Int := t.sec * 1000000000 + t.nsec

theorem ns_mk (s n : Int) : (⟨s, n⟩ : GoTime).ns = s * 1000000000 + n := rfl

theorem norm_whole (s : Int) : (⟨s, 0⟩ : GoTime).Norm :=
  ⟨Int.le_refl 0, (by decide : (0 : Int) < 1000000000)⟩

/-- `Add` neither saturates nor wraps for a time within 4·10^18 s of year 1 and any Duration; the three branches are
    the carry, the borrow and the plain case of the nanosecond field -/
theorem add_ns (t : GoTime) (d : Int) (hn : t.Norm)
    (hs : -4000000000000000000000000000 < t.ns ∧ t.ns < 4000000000000000000000000000)
    (hd : -9223372036854775808 ≤ d ∧ d < 9223372036854775808) :
    (t.add d).Norm ∧ (t.add d).ns = t.ns + d := by
  have hq := Int.tmod_add_mul_tdiv d 1000000000
  have hr0 := Int.lt_tmod_of_pos d (show (0 : Int) < 1000000000 by decide)
  have hr1 := Int.tmod_lt_of_pos d (show (0 : Int) < 1000000000 by decide)
  unfold GoTime.ns at hs
  unfold GoTime.add GoTime.ns GoTime.Norm goDiv goMod nsPerSec
  generalize Int.tdiv d 1000000000 = q at *
  generalize Int.tmod d 1000000000 = r at *
  -- seconds: |t.sec| < 4·10^18 + 1 and |q| ≤ 9223372037, so `addSec` does not saturate
  have hb : (-4000000000000000001 < t.sec ∧ t.sec < 4000000000000000001) ∧ -9223372038 < q ∧ q < 9223372038 := by omega
  subst hq
  clear hs hd
  simp only
  split
  · rw [addSec_eq _ _ (by omega)]; simp only; omega
  · split
    · rw [addSec_eq _ _ (by omega)]; simp only; omega
    · rw [addSec_eq _ _ (by omega)]; simp only; omega

theorem before_iff_ns {t u : GoTime} (ht : t.Norm) (hu : u.Norm) :
    t.before u = true ↔ t.ns < u.ns := by
  simp only [GoTime.before, GoTime.ns, Bool.or_eq_true, Bool.and_eq_true, decide_eq_true_eq, beq_iff_eq]
  omega

theorem after_iff_ns {t u : GoTime} (ht : t.Norm) (hu : u.Norm) :
    t.after u = true ↔ u.ns < t.ns := by
  have : t.after u = u.before t := by unfold GoTime.after GoTime.before; rw [BEq.comm]
  rw [this, before_iff_ns hu ht]

theorem ns_inj {t u : GoTime} (ht : t.Norm) (hu : u.Norm) (h : t.ns = u.ns) : t.sec = u.sec ∧ t.nsec = u.nsec := by
  unfold GoTime.ns at h
  omega

/-- `Sub` is exact when the two times are less than nine billion seconds (285 years) apart: the difference fits a
    Duration, and the overflow test of `Sub` (`u.Add(d).Equal(t)`) succeeds -/
theorem sub_ns {t u : GoTime} (ht : t.Norm) (hu : u.Norm)
    (hs : -4000000000000000000000000000 < u.ns ∧ u.ns < 4000000000000000000000000000)
    (hd : -9000000000000000000 < t.ns - u.ns ∧ t.ns - u.ns < 9000000000000000000) : t.sub u = t.ns - u.ns := by
  have e : wrapI64 (wrapI64 (wrapI64 (t.sec - u.sec) * nsPerSec) + (t.nsec - u.nsec)) = t.ns - u.ns := by
    unfold GoTime.ns nsPerSec at *
    rw [wrapI64_of_int64 (t.sec - u.sec) (by omega), wrapI64_of_int64 (_ * _) (by omega), wrapI64_of_int64 _ (by omega)]
    omega
  obtain ⟨hn, he⟩ := add_ns u (t.ns - u.ns) hu hs (by omega)
  have : (u.add (t.ns - u.ns)).equal t = true := by
    simp only [GoTime.equal, Bool.and_eq_true, beq_iff_eq]
    exact ns_inj hn ht (by rw [he]; omega)
  simp only [GoTime.sub, e, this, if_true]

/-- nanoseconds between the start of `slot` and the clock reading (≤ 0 when the slot has not started) -/
def sinceSlotStart (c : NetCfg) (slot : Nat) (now : GoTime) : Int :=
  (now.unixSec - ((c.genesis : Int) + (slot : Int) * 12)) * 1000000000 + now.nsec

section
variable {c : NetCfg} {now : GoTime} (hc : Cfg12 c) (hr : RealisticClock c now)
include hc hr

omit hc in
/-- 715827883 = ⌈2^33 / 12⌉: the clock shows less than 2^33 unix seconds -/
theorem curSlot_range : 0 ≤ curSlot c now ∧ curSlot c now < 715827883 := by
  obtain ⟨h1, h2⟩ := hr.unixSec_range
  unfold curSlot
  omega

theorem slotAtTime_realistic : slotAtTime c now.toUnix = curSlot c now := by
  obtain ⟨h1, h2⟩ := hr.unixSec_range
  unfold slotAtTime curSlot GoTime.toUnix GoTime.unixSec at *
  rw [wrapI64_of_int64 _ (by omega), if_neg (by omega), wrapU64_of_uint64 _ (by omega), hc.slotDur_eq]
  rfl

omit hr in
/-- `GetSlotStartTime(s)` for a slot in the plausible range: no wrap-around -/
theorem slotStart_small (s : Int) (hs : 0 ≤ s ∧ s < 4294967296) :
    slotStart c s = ⟨(c.genesis : Int) + s * 12 + 62135596800, 0⟩ := by
  have hd := hc.slotDur_eq
  have hg := hc.genesis_lt
  unfold slotStart GoTime.unix unixToInternal
  rw [hd, wrapU64_of_uint64 (s * _) (by omega), wrapU64_of_uint64 _ (by omega), wrapI64_of_int64 (c.genesis + _) (by omega),
    wrapI64_of_int64 _ (by omega)]
  rfl

/-- the early-message guard in plain arithmetic: the message's slot is after the slot the clock is in. A slot more
    than one ahead is caught by the slot comparison; for the next slot the 50 ms tolerance before the end of the current
    one is less than the 12 s to its start. -/
theorem earlyMessage_iff (slot : Nat) :
    earlyMessage c slot now = true ↔ curSlot c now < slot := by
  obtain ⟨c0, c1⟩ := curSlot_range hr
  unfold earlyMessage slotEnd
  simp only [slotAtTime_realistic hc hr, wrapU64_of_uint64 (curSlot c now + 1) (by omega), g_tol]
  split
  · simp only [true_iff]; omega
  · have hg := hc.genesis_lt
    rw [slotStart_small hc (curSlot c now + 1) (by omega), slotStart_small hc slot (by omega)]
    obtain ⟨hn, he⟩ := add_ns ⟨(c.genesis : Int) + (curSlot c now + 1) * 12 + 62135596800, 0⟩ (-((50000000 : Nat) : Int))
      (norm_whole _) (by rw [ns_mk _ 0]; omega) (by decide)
    rw [before_iff_ns hn (norm_whole _), he, ns_mk _ 0, ns_mk _ 0]
    omega

theorem not_early_spec (slot : Nat) (h : earlyMessage c slot now = false) : (slot : Int) ≤ curSlot c now :=
  Int.not_lt.mp fun hlt => by rw [(earlyMessage_iff hc hr slot).mpr hlt] at h; cases h

/-- the late-message duration in plain arithmetic, for a slot that has started: the time from the deadline (start of
    slot + ttl, plus the 3 s margin and the 50 ms tolerance) to the start of the slot the clock is in.
    Both slot starts are whole seconds (`slotStart_small`); the two `Add`s are exact by `add_ns`, the `Sub` by `sub_ns`;
    what is left is linear arithmetic on nanosecond counts. -/
theorem lateMessage_eq (slot role ttl : Nat) (hslot : (slot : Int) ≤ curSlot c now) (httl : lateTtl role = some ttl) (ht : ttl ≤ 34) :
    lateMessage c slot role now = ((curSlot c now - (slot + ttl)) * 12 - 3) * 1000000000 - 50000000 := by
  obtain ⟨c0, c1⟩ := curSlot_range hr
  have hg := hc.genesis_lt
  unfold lateMessage
  simp only [httl, slotAtTime_realistic hc hr, wrapU64_of_uint64 ((slot : Int) + ttl) (by omega), g_margin, g_tol]
  rw [slotStart_small hc _ (by omega), slotStart_small hc _ (by omega)]
  obtain ⟨hn1, he1⟩ := add_ns ⟨(c.genesis : Int) + ((slot : Int) + ttl) * 12 + 62135596800, 0⟩ ((3000000000 : Nat) : Int)
    (norm_whole _) (by rw [ns_mk _ 0]; omega) (by decide)
  generalize GoTime.add _ ((3000000000 : Nat) : Int) = t1 at *
  rw [ns_mk _ 0] at he1
  obtain ⟨hn2, he2⟩ := add_ns t1 ((50000000 : Nat) : Int) hn1 (by rw [he1]; omega) (by decide)
  generalize GoTime.add t1 _ = t2 at *
  rw [he1] at he2
  clear he1 hn1
  rw [sub_ns (norm_whole _) hn2 (by rw [he2]; omega) (by rw [ns_mk _ 0, he2]; omega), ns_mk _ 0, he2]
  omega

/-- what Go computes for a started slot: the clock is after the slot's start exactly when `sinceSlotStart` is positive,
    and `now.Sub(start)` is `sinceSlotStart`, a value between 0 and 2^33 seconds -/
theorem since_slotStart (slot : Nat) (hslot : (slot : Int) ≤ curSlot c now) :
    (now.after (slotStart c slot) = true ↔ 0 < sinceSlotStart c slot now) ∧
    now.sub (slotStart c slot) = sinceSlotStart c slot now ∧
    0 ≤ sinceSlotStart c slot now ∧ sinceSlotStart c slot now < 8589934592000000000 := by
  obtain ⟨c0, c1⟩ := curSlot_range hr
  have hg := hc.genesis_lt
  have rn := hr.norm
  rw [slotStart_small hc slot (by omega)]
  have hd : now.ns - (⟨(c.genesis : Int) + (slot : Int) * 12 + 62135596800, 0⟩ : GoTime).ns = sinceSlotStart c slot now ∧
      0 ≤ sinceSlotStart c slot now ∧ sinceSlotStart c slot now < 8589934592000000000 := by
    have hcs : curSlot c now * 12 ≤ now.unixSec - c.genesis := Int.ediv_mul_le _ (by decide)
    obtain ⟨r1, r2⟩ := hr.unixSec_range
    unfold sinceSlotStart GoTime.unixSec unixToInternal GoTime.ns at *
    simp only
    omega
  rw [after_iff_ns rn (norm_whole _), sub_ns rn (norm_whole _) (by rw [ns_mk _ 0]; omega) (by omega), hd.1]
  exact ⟨by omega, rfl, hd.2⟩

end

/-- `currentEstimatedRound` in plain (floor) arithmetic: 2-second rounds up to round 8, then 2-minute rounds -/
def estRound (d : Int) : Int :=
  if d / 2000000000 + 1 ≤ 8 then d / 2000000000 + 1 else 9 + (d - 16000000000) / 120000000000

theorem estRound_range (d : Int) (h : 0 ≤ d) : 1 ≤ estRound d ∧ estRound d ≤ d / 2000000000 + 1 := by
  unfold estRound
  split <;> omega

theorem currentEstimatedRound_spec (d : Int) (h0 : 0 ≤ d) (h1 : d < 9223372036854775807) :
    currentEstimatedRound d = estRound d := by
  have hq : wrapU64 (1 + wrapU64 (d / 2000000000)) = d / 2000000000 + 1 := by
    rw [wrapU64_of_uint64 (d / 2000000000) (by omega), wrapU64_of_uint64 _ (by omega), Int.add_comm]
  unfold currentEstimatedRound estRound goDiv
  simp only [g_firstRound, g_quick, g_quickThr, g_slow, Int.cast_ofNat_Int, Int.tdiv_eq_ediv_of_nonneg h0, hq]
  split
  · rfl
  · -- slow rounds: `d - 16·10^9` and its quotient lie between 0 and `d`, so no conversion wraps
    have hd : 0 ≤ d - 16000000000 := by omega
    have hk := Int.ediv_le_self 120000000000 hd
    have hk0 := Int.ediv_nonneg hd (show (0 : Int) ≤ 120000000000 by decide)
    rw [wrapI64_of_int64 (8 * 2000000000) (by decide), show (8 : Int) * 2000000000 = 16000000000 from rfl,
      wrapI64_of_int64 (d - _) (by omega), Int.tdiv_eq_ediv_of_nonneg hd]
    generalize (d - 16000000000) / 120000000000 = k at *
    rw [wrapU64_of_uint64 k (by omega), wrapU64_of_uint64 _ (by omega)]
    omega

/-- the highest round accepted for `slot` at the clock reading `now` -/
def highestRoundSpec (c : NetCfg) (slot : Nat) (now : GoTime) : Int :=
  (if sinceSlotStart c slot now > 0 then estRound (sinceSlotStart c slot now) else 1) + 1

theorem highestAllowedRound_spec {c : NetCfg} (hc : Cfg12 c) (slot : Nat) {now : GoTime} (hr : RealisticClock c now)
    (hslot : (slot : Int) ≤ curSlot c now) : highestAllowedRound c slot now = highestRoundSpec c slot now := by
  obtain ⟨haft, hsub, h0, h1⟩ := since_slotStart hc hr slot hslot
  unfold highestAllowedRound highestRoundSpec
  simp only [hsub, g_firstRound, g_future, Int.cast_ofNat_Int]
  by_cases hp : sinceSlotStart c slot now > 0
  · rw [if_pos (haft.mpr hp), if_pos hp, currentEstimatedRound_spec _ h0 (by omega)]
    have := estRound_range _ h0
    exact wrapU64_of_uint64 _ (by omega)
  · rw [if_neg fun h => hp (haft.mp h), if_neg hp]
    rfl

theorem roundWindow_ok_iff {c : NetCfg} (hc : Cfg12 c) (m : QMsg) {now : GoTime} (hr : RealisticClock c now)
    (hslot : (m.height : Int) ≤ curSlot c now) :
    roundWindow c m now = .ok () ↔ 1 ≤ m.round ∧ (m.round : Int) ≤ highestRoundSpec c m.height now := by
  unfold roundWindow
  rw [rejectIf_ok_iff, highestAllowedRound_spec hc m.height hr hslot, Bool.or_eq_false_iff, blt_false_iff,
    decide_eq_false_iff_not, Int.not_lt, g_firstRound]

/-- `additionalTimeout` of `RoundTimer.RoundTimeout` after `r` rounds: what the real timer adds to the role's base delay -/
def timerElapsed (r : Nat) : Int :=
  if r ≤ Gen.val_QuickTimeoutThreshold then (r : Int) * Gen.val_QuickTimeout
  else (Gen.val_QuickTimeoutThreshold : Int) * Gen.val_QuickTimeout + ((r : Int) - Gen.val_QuickTimeoutThreshold) * Gen.val_SlowTimeout

theorem timerElapsed_eq (r : Nat) :
    timerElapsed r = if r ≤ 8 then (r : Int) * 2000000000 else 16000000000 + ((r : Int) - 8) * 120000000000 := rfl

theorem timerElapsed_ge (r : Nat) : (r : Int) * 2000000000 ≤ timerElapsed r := by
  rw [timerElapsed_eq]
  split <;> omega

/-- a message of round `r ≥ 2` sent at or after the deadline of round `r − 1` (any non-negative base delay: a third /
    two thirds of the slot for the slot-aligned roles, the instance start for the proposer) is estimated at round ≥ r
    by the validator, hence inside its window `[1, estimate + 1]`, with one round to spare -/
theorem timer_deadline_inside_window (r : Nat) (hr : 2 ≤ r) (since base : Int) (hb : 0 ≤ base)
    (hs : base + timerElapsed (r - 1) ≤ since) : (r : Int) ≤ estRound since := by
  rw [timerElapsed_eq] at hs
  unfold estRound
  -- a quick deadline (r − 1 ≤ 8) gives `since / 2 s + 1 ≥ r`, and where the estimate has left the quick rounds it is ≥ 9 ≥ r;
  -- a slow deadline gives `since − 16 s ≥ (r − 9) · 120 s`, so the estimate is ≥ 9 + (r − 9)
  split at hs <;> split <;> omega

end Ssv.Validation
