/-
Engine `heights` (C15): how one step can change the stored records (`Mono`, `StoreMono`: clause 3 in full), and the
vocabulary of clause 1: which op starts consensus for which slot, and which heights a node has "seen" (started or
learned decided since the last restart, plus the stored highest at restart).
-/
import Ssv.Proofs.HeightsStep

namespace Ssv.Heights

/-- the record is unchanged in (height, certificate), or replaced by one of a higher height, or — at the same
    height — by a certificate with more signers -/
def Mono (a b : Stored) : Prop :=
  (b.inst.height = a.inst.height ∧ b.cert = a.cert) ∨ a.inst.height < b.inst.height ∨
  (a.inst.height = b.inst.height ∧ a.cert.signers.length < b.cert.signers.length)

theorem Mono.refl (a : Stored) : Mono a a := Or.inl ⟨rfl, rfl⟩

/-- unchanged steps are absorbed; two proper replacements compose lexicographically in (height, number of signers) -/
theorem Mono.trans {a b c : Stored} (h1 : Mono a b) (h2 : Mono b c) : Mono a c := by
  unfold Mono at *
  rcases h1 with ⟨e1, c1⟩ | h1
  · rw [e1, c1] at h2; exact h2
  · rcases h2 with ⟨e2, c2⟩ | h2
    · rw [e2, c2]; exact Or.inr h1
    · rcases h1 with l1 | ⟨e1, s1⟩ <;> rcases h2 with l2 | ⟨e2, s2⟩
      · exact Or.inr (Or.inl (Nat.lt_trans l1 l2))
      · exact Or.inr (Or.inl (e2 ▸ l1))
      · exact Or.inr (Or.inl (e1 ▸ l2))
      · exact Or.inr (Or.inr ⟨e1.trans e2, Nat.lt_trans s1 s2⟩)

theorem Mono.height_le {a b : Stored} (h : Mono a b) : a.inst.height ≤ b.inst.height := by
  rcases h with ⟨h, _⟩ | h | ⟨h, _⟩
  · exact Nat.le_of_eq h.symm
  · exact Nat.le_of_lt h
  · exact Nat.le_of_eq h

theorem Mono.of_replaces {a b : Stored} (h : replaces (some a) b = true) : Mono a b :=
  Or.inr (replaces_some_iff.mp h)

/-- both keys at once: what the store holds as highest and under every height -/
def StoreMono (st st' : Store) : Prop :=
  (∀ a, st.highest = some a → ∃ b, st'.highest = some b ∧ Mono a b) ∧
  (∀ h a, histGet st.hist h = some a → ∃ b, histGet st'.hist h = some b ∧ Mono a b)

theorem StoreMono.refl (st : Store) : StoreMono st st :=
  ⟨fun a ha => ⟨a, ha, Mono.refl a⟩, fun _ a ha => ⟨a, ha, Mono.refl a⟩⟩

theorem StoreMono.trans {a b c : Store} (h1 : StoreMono a b) (h2 : StoreMono b c) : StoreMono a c := by
  refine ⟨?_, ?_⟩
  · intro x hx
    obtain ⟨y, hy, m1⟩ := h1.1 x hx
    obtain ⟨z, hz, m2⟩ := h2.1 y hy
    exact ⟨z, hz, m1.trans m2⟩
  · intro h x hx
    obtain ⟨y, hy, m1⟩ := h1.2 h x hx
    obtain ⟨z, hz, m2⟩ := h2.2 h y hy
    exact ⟨z, hz, m1.trans m2⟩

/-- the store itself enforces it: each key is written only if `replaces` -/
theorem storeSave_mono (st : Store) (i : Inst) (m : Msg) (th ah : Bool) : StoreMono st (storeSave st ⟨i, m⟩ th ah) := by
  refine ⟨?_, ?_⟩
  · intro a ha
    rcases storeSave_highest st i m th ah with hu | ⟨_, hr, hw⟩
    · exact ⟨a, hu.trans ha, Mono.refl a⟩
    · exact ⟨_, hw, Mono.of_replaces (ha ▸ hr)⟩
  · intro h a ha
    rcases storeSave_histGet st i m th ah h with hu | ⟨_, hr, hw⟩
    · exact ⟨a, hu.trans ha, Mono.refl a⟩
    · exact ⟨_, hw, Mono.of_replaces (ha ▸ hr)⟩

theorem saveFound_mono (c : Ctrl) (st : Store) (h : Nat) (m : Msg) : StoreMono st (saveFound c st h m) :=
  saveFound_ind h m (StoreMono.refl st) (fun i th ah _ => storeSave_mono st i m th ah)

theorem processMsg_mono (q : Nat) (c : Ctrl) (st : Store) (h : Nat) (m : Msg) (ok : Bool) :
    StoreMono st (processMsg q c st h m ok).2.1 := by
  refine processMsg_ind (P := fun p => StoreMono st p.2.1) q c st h m ok (.refl st) ?_ (.refl st)
  rw [uponDecided_store]
  split
  · exact saveFound_mono _ st h m
  · exact .refl st

theorem Move.mono {q : Nat} {l : Bool} {c c' : Ctrl} {st st' : Store} (hm : Move q l c st c' st') : StoreMono st st' := by
  induction hm with
  | refl => exact StoreMono.refl _
  | trans _ _ ih1 ih2 => exact ih1.trans ih2
  | start _ _ => exact StoreMono.refl _
  | msg h m ok => exact processMsg_mono q _ _ h m ok
  | msgLost _ _ _ _ => exact StoreMono.refl _
  | compact _ => exact StoreMono.refl _
  | save h m => exact saveFound_mono _ _ h m
  | decideSave i' _ m => exact saveFound_mono _ _ _ m
  | decideOnly _ _ _ => exact StoreMono.refl _

/-- clause 3 for one step, from ANY state: every stored record (highest, and historical per height) is kept, or
    replaced by a record of a higher height, or — at the same height — by a certificate with more signers -/
theorem step_store_mono (s : State) (op : Op) : StoreMono s.s (step s op).1.s := by
  rcases step_cs s op with ⟨_, _, _, hs⟩ | hm
  · rw [hs]; exact StoreMono.refl _
  · exact hm.mono

theorem run_store_mono (s : State) (ops : List Op) : StoreMono s.s (run s ops).s := by
  induction ops generalizing s with
  | nil => exact StoreMono.refl _
  | cons op ops ih => exact (step_store_mono s op).trans (ih _)

theorem run_highest_mono {s : State} {a : Stored} (ha : s.s.highest = some a) (ops : List Op) :
    ∃ b, (run s ops).s.highest = some b ∧ a.inst.height ≤ b.inst.height := by
  obtain ⟨b, hb, hm⟩ := (run_store_mono s ops).1 a ha
  exact ⟨b, hb, hm.height_le⟩

/-- the slot for which this op starts consensus (a QBFT instance), if it does -/
def consensusStart (s : State) (op : Op) : Option Nat :=
  match op with
  | .start slot => if (step s op).2 = .ok then some slot else none
  | .decide => if (step s op).2 = .ok then s.r.duty else none
  | _ => none

/-- heights the node starts or learns as decided by this op (a decided message counts when it is valid) -/
def learns (s : State) (op : Op) : List Nat :=
  match op with
  | .decided h _ _ signers ok _ => if ok && decide (s.q ≤ signers.length) then [h] else []
  -- a valid decided message is LEARNED when it is delivered, whether or not the store write succeeds
  | .decidedSF h _ _ signers ok _ => if ok && decide (s.q ≤ signers.length) then [h] else []
  -- (`commits` teaches nothing new: the height of the running instance was started in this process, so it is seen already)
  | _ => (consensusStart s op).toList

/-- heights seen since the last restart; a restart resets them to the stored highest height (if any) -/
def seenStep (s : State) (seen : List Nat) (op : Op) : List Nat :=
  match op with
  | .restart _ => match s.s.highest with | some a => [a.inst.height] | none => []
  | _ => seen ++ learns s op

def runSeen (s : State) (seen : List Nat) : List Op → State × List Nat
  | [] => (s, seen)
  | op :: ops => runSeen (step s op).1 (seenStep s seen op) ops

theorem consensusStart_ok {s : State} {op : Op} {slot : Nat} (h : consensusStart s op = some slot) :
    ∃ c', startNewInstance s.c slot = .ok c' ∧ (step s op).1.c = c' := by
  cases op with
  | start sl =>
    unfold consensusStart at h
    dsimp only at h
    split at h
    · rename_i hok
      cases h
      rw [step_start_eq] at hok ⊢
      by_cases hb : (beginStep s slot).2 = .ok
      · rw [if_pos hb] at hok ⊢
        obtain ⟨c', hst, hc⟩ := decideStep_ok hok
        rw [(beginStep_cs s slot).1] at hst
        exact ⟨c', hst, hc⟩
      · rw [if_neg hb] at hok; exact absurd hok hb
    · cases h
  | decide =>
    unfold consensusStart at h
    dsimp only at h
    split at h
    · rename_i hok
      rw [step_decide_eq, h] at hok ⊢
      obtain ⟨c', hst, hc⟩ := decideStep_ok hok
      exact ⟨c', hst, hc⟩
    · cases h
  | _ => cases h

end Ssv.Heights
