/- The SSZ decoder model (C08) under one postcondition: a run does not panic, and what it returns obeys the size limits. -/
import Ssv.Model.Ssz
import Ssv.Common.Digits
namespace Ssv.Ssz

@[simp] theorem bind_eq {α β} (x : Res α) (f : α → Res β) : (x >>= f) = x.bind f := rfl
@[simp] theorem pure_eq {α} (a : α) : (pure a : Res α) = .ok a := rfl
theorem ok_bind {α β} (a : α) (f : α → Res β) : (Res.ok a >>= f) = f a := rfl

structure Res.Sat {α} (x : Res α) (P : α → Prop) : Prop where
  np : x ≠ .panic
  of_ok : ∀ {a}, x = .ok a → P a

theorem Res.Sat.ok {α} {P : α → Prop} {a : α} (h : P a) : (Res.ok a).Sat P := ⟨nofun, fun e => Res.ok.inj e ▸ h⟩
theorem Res.Sat.err {α} {P : α → Prop} : (Res.err : Res α).Sat P := ⟨nofun, nofun⟩
theorem Res.Sat.of_np {α} {x : Res α} (h : x ≠ .panic) : x.Sat fun _ => True := ⟨h, fun _ => trivial⟩

theorem Res.Sat.mono {α} {x : Res α} {P P' : α → Prop} (h : x.Sat P) (hP : ∀ a, P a → P' a) : x.Sat P' :=
  ⟨h.np, fun e => hP _ (h.of_ok e)⟩

theorem Res.Sat.bind {α β} {x : Res α} {f : α → Res β} {P : α → Prop} {Q : β → Prop} (hx : x.Sat P)
    (hf : ∀ a, P a → (f a).Sat Q) : (x.bind f).Sat Q := by
  cases x with
  | ok a => exact hf a (hx.of_ok rfl)
  | err => exact .err
  | panic => exact absurd rfl hx.np

theorem Res.Sat.ite {α} {x y : Res α} {P : α → Prop} {c : Prop} [Decidable c] (hx : c → x.Sat P) (hy : ¬c → y.Sat P) :
    (if c then x else y).Sat P := by
  split
  · exact hx ‹_›
  · exact hy ‹_›

/-- an error exit is not a panic -/
theorem Res.Sat.guard {α} {x : Res α} {P : α → Prop} {c : Prop} [Decidable c] (hx : ¬c → x.Sat P) :
    (if c then .err else x).Sat P := .ite (fun _ => .err) hx

/-- `b[lo:hi]` below a position `F` that a size check or an offset guard (`¬ b.length < F`) has put inside the buffer -/
structure Sliced (b s : List Nat) (n : Nat) : Prop where
  length : s.length = n
  mem : ∀ x ∈ s, x ∈ b

theorem slice_sat {b : List Nat} {lo hi F : Nat} (h1 : lo ≤ hi) (hs : ¬ b.length < F) (hk : hi ≤ F) :
    (slice b lo hi).Sat fun s => Sliced b s (hi - lo) := by
  have h2 : hi ≤ b.length := Nat.le_trans hk (Nat.not_lt.mp hs)
  rw [slice, if_pos ⟨h1, h2⟩]
  refine .ok ⟨?_, fun x hx => List.mem_of_mem_drop (List.mem_of_mem_take hx)⟩
  rw [List.length_take, List.length_drop]
  exact Nat.min_eq_left (Nat.sub_le_sub_right h2 lo)

theorem sliceFrom_ok_len {b s : List Nat} {lo} (h : sliceFrom b lo = .ok s) : s.length = b.length - lo ∧ lo ≤ b.length := by
  by_cases hle : lo ≤ b.length
  · rw [sliceFrom, if_pos hle] at h
    exact Res.ok.inj h ▸ ⟨List.length_drop, hle⟩
  · rw [sliceFrom, if_neg hle] at h
    cases h

theorem sliceFrom_sat {b : List Nat} {lo : Nat} (h : ¬ b.length < lo) : (sliceFrom b lo).Sat fun s => s.length = b.length - lo := by
  rw [sliceFrom, if_pos (Nat.not_lt.mp h)]
  exact .ok List.length_drop

theorem leVal_eq (l : List Nat) : leVal l = ofDigitsLE 256 l := by
  induction l with
  | nil => rfl
  | cons x r ih => rw [leVal, ih]; rfl

theorem leVal_lt (l : List Nat) (h : ∀ b ∈ l, b < 256) : leVal l < 256 ^ l.length :=
  leVal_eq l ▸ ofDigitsLE_lt 256 _ l (by decide) h rfl

theorem readU64_sat {s : List Nat} (h : 8 ≤ s.length) : (readU64 s).Sat fun v => (∀ b ∈ s, b < 256) → v < 2 ^ 64 := by
  rw [readU64, if_neg (Nat.not_lt.mpr h)]
  refine .ok fun hb => ?_
  have := leVal_lt (s.take 8) fun b hb' => hb b (List.mem_of_mem_take hb')
  rwa [List.length_take, Nat.min_eq_left h] at this

theorem readOffset_sat {s : List Nat} (h : 4 ≤ s.length) : (readOffset s).Sat fun _ => True := by
  rw [readOffset, if_neg (Nat.not_lt.mpr h)]
  exact .ok trivial

theorem sliceU64_sat {b : List Nat} {lo hi F : Nat} (h1 : lo + 8 = hi) (hs : ¬ b.length < F) (hk : hi ≤ F) :
    ((slice b lo hi).bind readU64).Sat fun v => (∀ x ∈ b, x < 256) → v < 2 ^ 64 := by
  subst h1
  refine .bind (slice_sat (Nat.le_add_right ..) hs hk) fun s ⟨hlen, hmem⟩ => ?_
  rw [Nat.add_sub_cancel_left] at hlen
  exact (readU64_sat (Nat.le_of_eq hlen.symm)).mono fun _ hv hb => hv fun x hx => hb x (hmem x hx)

theorem sliceOff_sat {b : List Nat} {lo hi F : Nat} (h1 : lo + 4 = hi) (hs : ¬ b.length < F) (hk : hi ≤ F) :
    ((slice b lo hi).bind readOffset).Sat fun _ => True := by
  subst h1
  refine .bind (slice_sat (Nat.le_add_right ..) hs hk) fun s ⟨hlen, _⟩ => ?_
  rw [Nat.add_sub_cancel_left] at hlen
  exact readOffset_sat (Nat.le_of_eq hlen.symm)

theorem decodeSSV_sat (buf : List Nat) : (decodeSSV buf).Sat fun m =>
    m.msgID.length = 56 ∧ m.data.length ≤ ssvMaxData ∧ ((∀ b ∈ buf, b < 256) → m.msgType < 2 ^ 64) := by
  unfold decodeSSV
  refine .guard fun hs => ?_
  refine .bind (slice_sat (by decide) hs (by decide)) fun b0 h0 => ?_
  refine .bind (readU64_sat (Nat.le_of_eq h0.length.symm)) fun _ ht => ?_
  refine .bind (slice_sat (by decide) hs (by decide)) fun _ hid => ?_
  refine .bind (slice_sat (by decide) hs (by decide)) fun _ hob => ?_
  refine .bind (readOffset_sat (Nat.le_of_eq hob.length.symm)) fun o2 _ => ?_
  refine .guard fun h1 => ?_
  refine .guard fun _ => ?_
  refine .bind (sliceFrom_sat h1) fun _ _ => ?_
  exact .guard fun hd => .ok ⟨hid.length, Nat.not_lt.mp hd, fun hb => ht fun b hb' => hb b (h0.mem b hb')⟩

/-- a non-zero length is only returned for a buffer that holds the four bytes `UnmarshalDynamic` reads unchecked -/
theorem decodeDynamicLength_sat (buf : List Nat) (m : Nat) :
    (decodeDynamicLength buf m).Sat fun n => n ≤ m ∧ (n ≠ 0 → 4 ≤ buf.length) := by
  unfold decodeDynamicLength
  refine .ite (fun _ => .ok ⟨Nat.zero_le _, fun h => absurd rfl h⟩) fun h0 => ?_
  refine .guard fun h4 => ?_
  refine .bind (slice_sat (by decide) h4 (by decide)) fun s hs => ?_
  refine .bind (readOffset_sat (Nat.le_of_eq hs.length.symm)) fun o _ => ?_
  refine .guard fun _ => ?_
  exact .guard fun hm => .ok ⟨Nat.not_lt.mp hm, fun _ => Nat.not_lt.mp h4⟩

theorem justItem_sat (m : Nat) (b : List Nat) : (justItem m b).Sat fun x => x.length ≤ m :=
  .guard fun h => .ok (Nat.not_lt.mp h)

/-- no hypothesis on `n`, `offset` or `dst`: the loop of `UnmarshalDynamic` itself guards `src[offset:endOffset]` by
    `offset ≤ endOffset ≤ len(src)` -/
theorem dynLoop_sat {α} {P : α → Prop} (src : List Nat) {f : List Nat → Res α} (hf : ∀ b, (f b).Sat P) :
    ∀ n offset dst, (dynLoop src f n offset dst).Sat fun l => l.length = n ∧ ∀ x ∈ l, P x := by
  intro n
  induction n with
  | zero => intro _ _; exact .ok ⟨rfl, nofun⟩
  | succ n ih =>
    intro offset dst
    unfold dynLoop
    refine .bind (P := fun _ => True) ?_ fun p _ => ?_
    · refine .ite (fun _ => ?_) fun _ => .ok trivial
      refine .guard fun hl => ?_
      refine .bind (readOffset_sat (Nat.not_lt.mp hl)) fun _ _ => ?_
      exact .bind (sliceFrom_sat hl) fun _ _ => .ok trivial
    · refine .guard fun h1 => ?_
      refine .guard fun h2 => ?_
      refine .bind (slice_sat (Nat.not_lt.mp h1) h2 (Nat.le_refl _)) fun item _ => ?_
      refine .bind (hf item) fun a ha => ?_
      refine .ite (fun h => .ok ⟨h.symm, List.forall_mem_cons.mpr ⟨ha, nofun⟩⟩) fun _ => ?_
      exact .bind (ih p.1 p.2) fun rest ⟨hl, hP⟩ => .ok ⟨congrArg (· + 1) hl, List.forall_mem_cons.mpr ⟨ha, hP⟩⟩

theorem unmarshalDynamic_sat {α} {P : α → Prop} {src : List Nat} {n : Nat} {f : List Nat → Res α} (hf : ∀ b, (f b).Sat P)
    (hn : n ≠ 0 → 4 ≤ src.length) : (unmarshalDynamic src n f).Sat fun l => l.length = n ∧ ∀ x ∈ l, P x := by
  unfold unmarshalDynamic
  refine .ite (fun h0 => .ok ⟨h0.symm, nofun⟩) fun h0 => ?_
  refine .bind (readOffset_sat (hn h0)) fun _ _ => ?_
  refine .bind (sliceFrom_sat (Nat.not_lt.mpr (hn h0))) fun _ _ => ?_
  exact dynLoop_sat src hf _ _ _

/-- round `i` of a loop over `k + 1` more items of width `w` stays inside a buffer of `n` bytes, and so do the rounds after it -/
theorem stride_bounds {i k w n : Nat} (h : (i + (k + 1)) * w ≤ n) : (i + 1) * w ≤ n ∧ (i + 1 + k) * w ≤ n :=
  ⟨Nat.le_trans (Nat.mul_le_mul_right _ (Nat.add_le_add_left (Nat.le_add_left 1 k) i)) h, by rwa [Nat.add_assoc, Nat.add_comm 1 k]⟩

theorem readU64s_sat (buf : List Nat) : ∀ k i, (i + k) * 8 ≤ buf.length → (readU64s buf i k).Sat fun l => l.length = k := by
  intro k
  induction k with
  | zero => intro _ _; exact .ok rfl
  | succ k ih =>
    intro i h
    obtain ⟨h1, h2⟩ := stride_bounds h
    rw [readU64s]
    refine .bind (sliceU64_sat (Nat.succ_mul ..).symm (Nat.not_lt.mpr h1) (Nat.le_refl _)) fun _ _ => ?_
    exact .bind (ih (i + 1) h2) fun _ hr => .ok (congrArg (· + 1) hr)

theorem decodePSig_sat (buf : List Nat) : (decodePSig buf).Sat fun m =>
    m.partialSignature.length = 96 ∧ m.signingRoot.length = 32 := by
  unfold decodePSig
  refine .guard fun hs => ?_
  have hs : ¬ buf.length < psigSize := Nat.not_lt.mpr (Nat.le_of_eq (Decidable.not_not.mp hs).symm)
  refine .bind (slice_sat (by decide) hs (by decide)) fun _ hps => ?_
  refine .bind (slice_sat (by decide) hs (by decide)) fun _ hsr => ?_
  exact .bind (sliceU64_sat rfl hs (by decide)) fun _ _ => .ok ⟨hps.length, hsr.length⟩

theorem decodePSig_ok {buf : List Nat} {m : PSig} (h : decodePSig buf = .ok m) :
    m.partialSignature.length = 96 ∧ m.signingRoot.length = 32 := (decodePSig_sat buf).of_ok h

theorem readPSigs_sat (buf : List Nat) : ∀ k i, (i + k) * psigSize ≤ buf.length →
    (readPSigs buf i k).Sat fun l => l.length = k := by
  intro k
  induction k with
  | zero => intro _ _; exact .ok rfl
  | succ k ih =>
    intro i h
    obtain ⟨h1, h2⟩ := stride_bounds h
    rw [readPSigs]
    refine .bind (.bind (slice_sat (Nat.mul_le_mul_right _ (Nat.le_succ i)) (Nat.not_lt.mpr h1) (Nat.le_refl _)) fun _ _ => decodePSig_sat _) fun _ _ => ?_
    exact .bind (ih (i + 1) h2) fun _ hr => .ok (congrArg (· + 1) hr)

structure QMsg.Bounded (m : QMsg) : Prop where
  identifier : m.identifier.length ≤ maxIdentifier
  root : m.root.length = 32
  rcjCount : m.rcj.length ≤ maxJustifications
  rcjSize : ∀ j ∈ m.rcj, j.length ≤ maxJustificationSize
  pjCount : m.pj.length ≤ maxJustifications
  pjSize : ∀ j ∈ m.pj, j.length ≤ maxJustificationSize

theorem decodeQMsg_sat (buf : List Nat) : (decodeQMsg buf).Sat QMsg.Bounded := by
  unfold decodeQMsg
  refine .guard fun hs => ?_
  refine .bind (sliceU64_sat rfl hs (by decide)) fun _ _ => ?_
  refine .bind (sliceU64_sat rfl hs (by decide)) fun _ _ => ?_
  refine .bind (sliceU64_sat rfl hs (by decide)) fun _ _ => ?_
  refine .bind (sliceOff_sat rfl hs (by decide)) fun o3 _ => ?_
  refine .guard fun _ => ?_
  refine .guard fun _ => ?_
  refine .bind (slice_sat (by decide) hs (by decide)) fun _ hroot => ?_
  refine .bind (sliceU64_sat rfl hs (by decide)) fun _ _ => ?_
  refine .bind (sliceOff_sat rfl hs (by decide)) fun o6 _ => ?_
  refine .guard fun h6 => ?_
  refine .bind (sliceOff_sat rfl hs (by decide)) fun o7 _ => ?_
  refine .guard fun h7 => ?_
  -- the two offset guards are the bounds of the slices `buf[o3:o6]`, `buf[o6:o7]`, `buf[o7:]`
  obtain ⟨h6a, h6b⟩ := not_or.mp h6
  obtain ⟨h7a, h7b⟩ := not_or.mp h7
  refine .bind (slice_sat (Nat.not_lt.mp h6b) h6a (Nat.le_refl _)) fun _ _ => ?_
  refine .guard fun hid => ?_
  refine .bind (slice_sat (Nat.not_lt.mp h7b) h7a (Nat.le_refl _)) fun b6 _ => ?_
  refine .bind (decodeDynamicLength_sat _ _) fun n6 ⟨hn6, hb6⟩ => ?_
  refine .bind (unmarshalDynamic_sat (justItem_sat _) hb6) fun _ ⟨hl6, hs6⟩ => ?_
  refine .bind (sliceFrom_sat h7a) fun b7 _ => ?_
  refine .bind (decodeDynamicLength_sat _ _) fun n7 ⟨hn7, hb7⟩ => ?_
  refine .bind (unmarshalDynamic_sat (justItem_sat _) hb7) fun _ ⟨hl7, hs7⟩ => ?_
  exact .ok ⟨Nat.not_lt.mp hid, hroot.length, hl6 ▸ hn6, hs6, hl7 ▸ hn7, hs7⟩

theorem decodeSigned_sat (buf : List Nat) : (decodeSigned buf).Sat fun m =>
    m.signature.length = 96 ∧ m.signers.length ≤ maxSigners ∧ m.fullData.length ≤ maxFullData ∧ m.message.Bounded := by
  unfold decodeSigned
  refine .guard fun hs => ?_
  refine .bind (slice_sat (by decide) hs (by decide)) fun _ hsig => ?_
  refine .bind (sliceOff_sat rfl hs (by decide)) fun o1 _ => ?_
  refine .guard fun _ => ?_
  refine .guard fun _ => ?_
  refine .bind (sliceOff_sat rfl hs (by decide)) fun o2 _ => ?_
  refine .guard fun h2 => ?_
  refine .bind (sliceOff_sat rfl hs (by decide)) fun o3 _ => ?_
  refine .guard fun h3 => ?_
  obtain ⟨h2a, h2b⟩ := not_or.mp h2
  obtain ⟨h3a, h3b⟩ := not_or.mp h3
  refine .bind (slice_sat (Nat.not_lt.mp h2b) h2a (Nat.le_refl _)) fun b1 _ => ?_
  refine .guard fun _ => ?_
  refine .guard fun hc => ?_
  refine .bind (readU64s_sat _ _ _ (by rw [Nat.zero_add]; exact Nat.div_mul_le_self ..)) fun _ hsigners => ?_
  refine .bind (slice_sat (Nat.not_lt.mp h3b) h3a (Nat.le_refl _)) fun _ _ => ?_
  refine .bind (decodeQMsg_sat _) fun _ hmsg => ?_
  refine .bind (sliceFrom_sat h3a) fun _ _ => ?_
  exact .guard fun hfd => .ok ⟨hsig.length, hsigners ▸ Nat.not_lt.mp hc, Nat.not_lt.mp hfd, hmsg⟩

theorem decodePSigs_sat (buf : List Nat) : (decodePSigs buf).Sat fun m => m.messages.length ≤ maxPSigs := by
  unfold decodePSigs
  refine .guard fun hs => ?_
  refine .bind (sliceU64_sat rfl hs (by decide)) fun _ _ => ?_
  refine .bind (sliceU64_sat rfl hs (by decide)) fun _ _ => ?_
  refine .bind (sliceOff_sat rfl hs (by decide)) fun o2 _ => ?_
  refine .guard fun h2 => ?_
  refine .guard fun _ => ?_
  refine .bind (sliceFrom_sat h2) fun b _ => ?_
  refine .guard fun _ => ?_
  refine .guard fun hc => ?_
  exact .bind (readPSigs_sat _ _ _ (by rw [Nat.zero_add]; exact Nat.div_mul_le_self ..)) fun _ hl => .ok (hl ▸ Nat.not_lt.mp hc)

theorem decodeSPSig_sat (buf : List Nat) : (decodeSPSig buf).Sat fun m =>
    m.signature.length = 96 ∧ m.message.messages.length ≤ maxPSigs := by
  unfold decodeSPSig
  refine .guard fun hs => ?_
  refine .bind (sliceOff_sat rfl hs (by decide)) fun o0 _ => ?_
  refine .guard fun h0 => ?_
  refine .guard fun _ => ?_
  refine .bind (slice_sat (by decide) hs (by decide)) fun _ hsig => ?_
  refine .bind (sliceU64_sat rfl hs (by decide)) fun _ _ => ?_
  refine .bind (sliceFrom_sat h0) fun _ _ => ?_
  exact .bind (decodePSigs_sat _) fun _ hmsg => .ok ⟨hsig.length, hmsg⟩

end Ssv.Ssz
