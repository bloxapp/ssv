/-
Helper lemmas for C06 (compaction clause): trimming a container below a threshold round is invisible to every read
at or above that threshold (every read is a filter that keeps only such rounds), so an instance and a copy whose
containers agree from the thresholds on (`Sim`) answer every message and timeout alike (`StepSim`). Core Lean only.
-/
import Ssv.Model.Qbft.Run

namespace Ssv.Qbft

def trimFrom (k : Nat) (c : Container) : Container := c.filter (fun m => decide (k ≤ m.round))

def AgreeFrom (k : Nat) (c c' : Container) : Prop := trimFrom k c = trimFrom k c'

theorem AgreeFrom.refl (k : Nat) (c : Container) : AgreeFrom k c c := rfl

theorem AgreeFrom.symm {k : Nat} {c c' : Container} (h : AgreeFrom k c c') : AgreeFrom k c' c := Eq.symm h

theorem filter_trimFrom {k : Nat} {q : Msg → Bool} (hq : ∀ m, q m = true → k ≤ m.round) (c : Container) :
    (trimFrom k c).filter q = c.filter q := by
  unfold trimFrom
  rw [List.filter_filter]
  refine List.filter_congr fun m _ => ?_
  cases h : q m
  · rfl
  · exact (Bool.true_and _).trans (decide_eq_true (hq m h))

/-- every container read of the instance is a filter that keeps only rounds from some `k` on: a round, the rounds above
    one, a higher trim -/
theorem agree_filter {k : Nat} {c c' : Container} {q : Msg → Bool} (h : AgreeFrom k c c')
    (hq : ∀ m, q m = true → k ≤ m.round) : c'.filter q = c.filter q := by
  rw [← filter_trimFrom hq c, ← filter_trimFrom hq c', h]

theorem AgreeFrom.mono {k k' : Nat} {c c' : Container} (h : AgreeFrom k c c') (hk : k ≤ k') : AgreeFrom k' c c' :=
  (agree_filter h fun _ hm => Nat.le_trans hk (of_decide_eq_true hm)).symm

theorem agree_forRound {k r : Nat} {c c' : Container} (h : AgreeFrom k c c') (hr : k ≤ r) :
    forRound c' r = forRound c r :=
  agree_filter h fun _ hm => beq_iff_eq.mp hm ▸ hr

/-- messages strictly above a round (the input of `hasReceivedPartialQuorum`) -/
theorem agree_above {k r : Nat} {c c' : Container} (h : AgreeFrom k c c') (hr : k ≤ r + 1) :
    c'.filter (fun x => Nat.blt r x.round) = c.filter (fun x => Nat.blt r x.round) :=
  agree_filter h fun _ hm => Nat.le_trans hr (Nat.blt_eq.mp hm)

theorem agree_longest {k r : Nat} {c c' : Container} (h : AgreeFrom k c c') (hr : k ≤ r) (root : Nat) :
    longestUniqueSigners c' r root = longestUniqueSigners c r root := by
  unfold longestUniqueSigners
  rw [agree_forRound h hr]

theorem agree_addFirst {k : Nat} {c c' : Container} (h : AgreeFrom k c c') (m : Msg) (hm : k ≤ m.round) :
    ∃ d d' b, addFirst c m = (d, b) ∧ addFirst c' m = (d', b) ∧ AgreeFrom k d d' := by
  unfold addFirst
  rw [agree_forRound h hm]
  split
  · exact ⟨_, _, _, rfl, rfl, h⟩
  · refine ⟨_, _, _, rfl, rfl, ?_⟩
    unfold AgreeFrom trimFrom at h ⊢
    rw [List.filter_append, List.filter_append, h]

theorem not_decide_lt (a k : Nat) : (!decide (a < k)) = decide (k ≤ a) :=
  decide_not.symm.trans (decide_eq_decide.mpr Nat.not_lt)

theorem AgreeFrom.compact {k : Nat} {c c' : Container} {clear : Bool} (h : AgreeFrom k c c') (hc : clear = false) :
    AgreeFrom k c (compactContainerEdit c' k clear) := by
  subst hc
  unfold compactContainerEdit
  split
  · exact h
  · simp only [Bool.false_eq_true, if_false, not_decide_lt]
    exact h.trans (filter_trimFrom (fun _ hm => of_decide_eq_true hm) c').symm

def withC (s : State) (P Pr C RC : Container) : State :=
  { s with propose := P, prepare := Pr, commit := C, roundChange := RC }

/-- `s'` is `s` with other containers, each agreeing with that of `s` from the round it is read at: the prepares from the
    prepared round (the justification of a round-change is taken from there), the others from the current round -/
def Sim (s s' : State) : Prop :=
  ∃ P Pr C RC, s' = withC s P Pr C RC ∧ AgreeFrom s.round s.propose P ∧ AgreeFrom s.lastPreparedRound s.prepare Pr ∧
    AgreeFrom s.round s.commit C ∧ AgreeFrom s.round s.roundChange RC

theorem isPJFLR_withC (cfg : Cfg) (s : State) (P Pr C RC : Container) (rcMsg : Msg) (rcs : List Msg) (v r : Nat) :
    isProposalJustificationForLeadingRound cfg (withC s P Pr C RC) rcMsg rcs v r =
      isProposalJustificationForLeadingRound cfg s rcMsg rcs v r := rfl

theorem baseMsgValidation_withC (cfg : Cfg) (s : State) (P Pr C RC : Container) (m : Msg) :
    baseMsgValidation cfg (withC s P Pr C RC) m = baseMsgValidation cfg s m := rfl

theorem Sim.decided {s s' : State} (h : Sim s s') : s'.decided = s.decided := by
  obtain ⟨P, Pr, C, RC, rfl, _⟩ := h; rfl

/-- the lock is not ahead of the round: `uponPrepare` counts the prepares of the current round, and under `Sim` the prepare
    containers agree only from the prepared round on -/
def WF (s : State) : Prop := s.lastPreparedRound ≤ s.round

/-- same outputs and result; the states are related and the left one is still `WF`, which is what the next step asks for -/
structure StepSim (st st' : Step) : Prop where
  outs : st'.outs = st.outs
  res : st'.res = st.res
  next : Sim st.st st'.st ∧ WF st.st

variable {cfg : Cfg} {s s' : State} {m : Msg}

theorem Sim.intro {P Pr C RC : Container} (hP : AgreeFrom s.round s.propose P)
    (hPr : AgreeFrom s.lastPreparedRound s.prepare Pr) (hC : AgreeFrom s.round s.commit C)
    (hRC : AgreeFrom s.round s.roundChange RC) : Sim s (withC s P Pr C RC) :=
  ⟨P, Pr, C, RC, rfl, hP, hPr, hC, hRC⟩

theorem Sim.refl (s : State) : Sim s s := .intro rfl rfl rfl rfl

theorem StepSim.ite {p : Prop} [Decidable p] {a b a' b' : Step} (ht : p → StepSim a a') (hf : ¬p → StepSim b b') :
    StepSim (if p then a else b) (if p then a' else b') := by
  by_cases h : p
  · rw [if_pos h, if_pos h]
    exact ht h
  · rw [if_neg h, if_neg h]
    exact hf h

theorem Sim.canProcess (h : Sim s s') : canProcess cfg s' = canProcess cfg s := by
  obtain ⟨P, Pr, C, RC, rfl, _⟩ := h; rfl

theorem Sim.broadcast (h : Sim s s') (m : Msg) : broadcast cfg s' m = broadcast cfg s m := by
  unfold Qbft.broadcast
  rw [h.canProcess]

/- In the lemmas about steps the relation and `WF` come as ONE argument and everything else is implicit: the goal then
   fixes the two states before the argument is elaborated. Given separately, a hypothesis `hw : WF s` of the caller is
   elaborated first and pins the left state to `s` although the goal has an updated record there. -/
theorem okStep_sim {o : List Out} (h : Sim s s' ∧ WF s) : StepSim (okStep s o) (okStep s' o) := by
  obtain ⟨⟨P, Pr, C, RC, rfl, h⟩, hw⟩ := h
  exact ⟨rfl, rfl, ⟨P, Pr, C, RC, rfl, h⟩, hw⟩

theorem failStep_sim {o : List Out} {f : Fail} (h : Sim s s' ∧ WF s) : StepSim (failStep s o f) (failStep s' o f) := by
  cases f <;> exact ⟨rfl, rfl, h⟩

theorem sendOr_sim {a : Atom} {pre : List Out} (h : Sim s s' ∧ WF s) :
    StepSim (sendOr cfg s a m pre) (sendOr cfg s' a m pre) := by
  unfold sendOr
  rw [h.1.broadcast]
  cases wrap a (Qbft.broadcast cfg s m) with
  | ok o => exact okStep_sim h
  | error f => exact failStep_sim h

theorem uponProposal_sim (h : Sim s s' ∧ WF s) (hm : s.round ≤ m.round) :
    StepSim (uponProposal cfg s m) (uponProposal cfg s' m) := by
  -- `id` keeps `h` itself for the branch that changes nothing
  obtain ⟨⟨P, Pr, C, RC, rfl, hP, hPr, hC, hRC⟩, hwf⟩ := id h
  obtain ⟨P0, P1, b, e0, e1, hag⟩ := agree_addFirst hP m hm
  unfold uponProposal
  simp only [withC, e0, e1]
  -- a new proposal moves the instance to its round: every threshold rises to it
  exact .ite (fun _ => okStep_sim h) fun _ =>
    sendOr_sim ⟨.intro (hag.mono hm) hPr (hC.mono hm) (hRC.mono hm), Nat.le_trans hwf hm⟩

theorem uponPrepare_sim (h : Sim s s' ∧ WF s) (hm : s.round ≤ m.round) :
    StepSim (uponPrepare cfg s m) (uponPrepare cfg s' m) := by
  obtain ⟨⟨P, Pr, C, RC, rfl, hP, hPr, hC, hRC⟩, hwf⟩ := id h
  obtain ⟨P0, P1, b, e0, e1, hag⟩ := agree_addFirst hPr m (Nat.le_trans hwf hm)
  unfold uponPrepare
  simp only [withC, e0, e1, agree_forRound hPr hwf, agree_forRound hag hwf]
  refine .ite (fun _ => okStep_sim h) fun _ => .ite (fun _ => okStep_sim ⟨.intro hP hag hC hRC, hwf⟩) fun _ =>
    .ite (fun _ => okStep_sim ⟨.intro hP hag hC hRC, hwf⟩) fun _ => ?_
  cases s.accepted with
  | none => exact ⟨rfl, rfl, .intro hP hag hC hRC, hwf⟩
  | some p =>
    -- the lock moves to the current round: the prepare containers agree from there as well
    exact sendOr_sim ⟨.intro hP (hag.mono hwf) hC hRC, Nat.le_refl _⟩

theorem uponCommit_sim (h : Sim s s' ∧ WF s) (hm : s.round ≤ m.round) :
    StepSim (uponCommit cfg s m) (uponCommit cfg s' m) := by
  obtain ⟨⟨P, Pr, C, RC, rfl, hP, hPr, hC, hRC⟩, hwf⟩ := id h
  obtain ⟨C0, C1, b, e0, e1, hag⟩ := agree_addFirst hC m hm
  unfold uponCommit
  simp only [withC, e0, e1, agree_longest hag hm]
  refine .ite (fun _ => okStep_sim h) fun _ => ?_
  rcases longestUniqueSigners C0 m.round m.root with ⟨signers, msgs⟩
  refine .ite (fun _ => okStep_sim ⟨.intro hP hPr hag hRC, hwf⟩) fun _ => ?_
  cases s.accepted with
  | none => exact ⟨rfl, rfl, .intro hP hPr hag hRC, hwf⟩
  | some p =>
    dsimp only
    cases wrap Atom.aggregateFailed (aggregateCommitMsgs msgs p.fullData) with
    | error f => exact failStep_sim ⟨.intro hP hPr hag hRC, hwf⟩
    | ok agg => exact ⟨rfl, rfl, .intro hP hPr hag hRC, hwf⟩

/-- the justification of a round-change is read from the prepares of the prepared round -/
theorem createRoundChange_sim (h : Sim s s') (r : Nat) : createRoundChange cfg s' r = createRoundChange cfg s r := by
  obtain ⟨P, Pr, C, RC, rfl, hP, hPr, hC, hRC⟩ := h
  unfold createRoundChange getRoundChangeJustification
  simp only [withC, agree_forRound hPr (Nat.le_refl _)]

/-- entering a later round (timeout, partial quorum of round-changes): every threshold but the lock's rises -/
theorem Sim.enterRound (h : Sim s s' ∧ WF s) {r : Nat} (hr : s.round ≤ r) :
    Sim { s with round := r, accepted := none } { s' with round := r, accepted := none } ∧
      WF { s with round := r, accepted := none } := by
  obtain ⟨⟨P, Pr, C, RC, rfl, hP, hPr, hC, hRC⟩, hwf⟩ := h
  exact ⟨.intro (hP.mono hr) hPr (hC.mono hr) (hRC.mono hr), Nat.le_trans hwf hr⟩

theorem uponRoundTimeout_sim (h : Sim s s' ∧ WF s) : StepSim (uponRoundTimeout cfg s) (uponRoundTimeout cfg s') := by
  have hS := Sim.enterRound h (Nat.le_succ _)
  have hrc := createRoundChange_sim (cfg := cfg) h.1 (s.round + 1)
  have hb := h.1.broadcast (cfg := cfg) (createRoundChange cfg s (s.round + 1))
  unfold uponRoundTimeout
  rw [h.1.canProcess]
  refine .ite (fun _ => ⟨rfl, rfl, h⟩) fun _ => ?_
  obtain ⟨⟨P, Pr, C, RC, rfl, _⟩, _⟩ := h
  simp only [withC] at hrc hb hS ⊢
  rw [hrc, hb]
  cases wrap Atom.bcastRoundChangeFailed (broadcast cfg s (createRoundChange cfg s (s.round + 1))) with
  | ok o => exact okStep_sim hS
  | error f => exact failStep_sim hS

theorem findJustified_withC (P Pr C RC : Container) (t : Msg) (rcs : List Msg) (l : List Msg) :
    findJustified cfg (withC s P Pr C RC) t rcs l = findJustified cfg s t rcs l := by
  induction l with
  | nil => rfl
  | cons m rest ih =>
    unfold findJustified
    have e : (withC s P Pr C RC).startValue = s.startValue := rfl
    simp only [isPJFLR_withC, ih, e]

theorem hasReceivedProposalJustification_sim (h : Sim s s') (t : Msg) (ht : s.round ≤ t.round) :
    hasReceivedProposalJustification cfg s' t = hasReceivedProposalJustification cfg s t := by
  obtain ⟨P, Pr, C, RC, rfl, hP, hPr, hC, hRC⟩ := h
  unfold hasReceivedProposalJustification
  simp only [findJustified_withC, show (withC s P Pr C RC).roundChange = RC from rfl, agree_forRound hRC ht]

theorem uponChangeRoundPartialQuorum_sim (h : Sim s s' ∧ WF s) {newRound : Nat} (hn : s.round ≤ newRound) :
    StepSim (uponChangeRoundPartialQuorum cfg s newRound) (uponChangeRoundPartialQuorum cfg s' newRound) := by
  have hS := Sim.enterRound h hn
  have hrc := createRoundChange_sim (cfg := cfg) hS.1 newRound
  obtain ⟨⟨P, Pr, C, RC, rfl, _⟩, _⟩ := h
  unfold uponChangeRoundPartialQuorum
  simp only [withC] at hrc hS ⊢
  rw [hrc]
  exact sendOr_sim hS

theorem uponRoundChange_sim (h : Sim s s' ∧ WF s) (hm : s.round ≤ m.round) :
    StepSim (uponRoundChange cfg s m) (uponRoundChange cfg s' m) := by
  obtain ⟨⟨P, Pr, C, RC, rfl, hP, hPr, hC, hRC⟩, hwf⟩ := id h
  obtain ⟨R0, R1, b, e0, e1, hag⟩ := agree_addFirst hRC m hm
  have h1 : Sim { s with roundChange := R0 } { withC s P Pr C RC with roundChange := R1 } ∧ _ :=
    ⟨.intro hP hPr hC hag, hwf⟩
  have hj := hasReceivedProposalJustification_sim (cfg := cfg) h1.1 m hm
  unfold uponRoundChange
  simp only [withC, e0, e1, agree_forRound hRC hm] at hj ⊢
  refine .ite (fun _ => okStep_sim h) fun _ => .ite (fun _ => okStep_sim h1) fun _ => ?_
  -- the three reads of the round-change container: the justification search, the messages of the current round that go
  -- into the proposal, the rounds above it for the partial quorum
  rw [hj, agree_forRound hag (Nat.le_refl _), agree_above hag (Nat.le_succ _)]
  cases hasReceivedProposalJustification cfg { s with roundChange := R0 } m with
  | error f => exact failStep_sim h1
  | ok r =>
    cases r with
    | some jv => exact sendOr_sim h1
    | none =>
      exact .ite (fun _ => .ite (fun _ => okStep_sim h1) fun hlt =>
        uponChangeRoundPartialQuorum_sim h1 (Nat.le_of_lt (Nat.lt_of_not_le hlt))) fun _ => okStep_sim h1

/-- an accepted message is never for a past round: with the past-round test true the validation is an error, whether the
    check before it fails or not -/
theorem baseMsgValidation_round (u : Unit)
    (h : wrap Atom.invalidSigned (baseMsgValidation cfg s m) = .ok u) : s.round ≤ m.round := by
  refine Nat.le_of_not_lt fun hlt => ?_
  unfold baseMsgValidation at h
  rw [decide_eq_true hlt] at h
  cases hv : wrap Atom.invalidSigned (signedValidate m.toBase) with
  | error e =>
    rw [hv] at h
    cases e <;> cases h
  | ok v =>
    rw [hv] at h
    cases h

theorem processMsg_sim (h : Sim s s' ∧ WF s) : StepSim (processMsg cfg s m) (processMsg cfg s' m) := by
  have hv : baseMsgValidation cfg s' m = baseMsgValidation cfg s m := by
    obtain ⟨⟨P, Pr, C, RC, rfl, _⟩, _⟩ := h
    exact baseMsgValidation_withC ..
  unfold processMsg
  rw [h.1.canProcess, hv]
  refine .ite (fun _ => ⟨rfl, rfl, h⟩) fun _ => ?_
  cases hval : wrap Atom.invalidSigned (baseMsgValidation cfg s m) with
  | error f => exact failStep_sim h
  | ok u =>
    have hm := baseMsgValidation_round u hval
    exact .ite (fun _ => uponProposal_sim h hm) fun _ => .ite (fun _ => uponPrepare_sim h hm) fun _ =>
      .ite (fun _ => uponCommit_sim h hm) fun _ => .ite (fun _ => uponRoundChange_sim h hm) fun _ => ⟨rfl, rfl, h⟩

theorem compact_sim (h : Sim s s') (hd : s.decided = false) : Sim s (compact s') := by
  obtain ⟨P, Pr, C, RC, rfl, hP, hPr, hC, hRC⟩ := h
  -- `compact` never clears the commit container, and the other three only on a decided instance
  exact .intro (hP.compact hd) (hPr.compact hd) (hC.compact rfl) (hRC.compact hd)

/-- ops of an instance run in which compaction is only ever applied to undecided instances, and `Start` has happened before -/
def IOp.allowed : IOp → Bool
  | .deliver _ => true
  | .timeout => true
  | .stop => true
  | .compactUndecided => true
  | .compact => false
  | .start _ _ => false

theorem runI_sim {ops : List IOp} (hops : ∀ op ∈ ops, op.allowed = true) (h : Sim s s' ∧ WF s) :
    (runI cfg s' ops).2 = (runI cfg s (ops.filter (fun op => !op.isCompaction))).2 := by
  induction ops generalizing s s' with
  | nil => rfl
  | cons op rest ih =>
    have ih {s s'} := ih (s := s) (s' := s') fun o ho => hops o (List.mem_cons_of_mem _ ho)
    -- an observed op: the two steps are related, so the observation is the same and the rest follows
    have obs : ∀ {st st' : Step}, StepSim st st' →
        (⟨st'.outs, st'.res⟩ :: (runI cfg st'.st rest).2 : List IObs) =
          ⟨st.outs, st.res⟩ :: (runI cfg st.st (rest.filter fun op => !op.isCompaction)).2 :=
      fun hst => by rw [hst.outs, hst.res, ih hst.next]
    have hop := hops op List.mem_cons_self
    cases op with
    | start v hh => cases hop
    | compact => cases hop
    | compactUndecided =>
      refine ih ⟨?_, h.2⟩
      show Sim s (if s'.decided then s' else compact s')
      cases hd : s'.decided
      · exact compact_sim h.1 (h.1.decided ▸ hd)
      · exact h.1
    | deliver m => exact obs (processMsg_sim h)
    | timeout => exact obs (uponRoundTimeout_sim h)
    | stop =>
      obtain ⟨⟨P, Pr, C, RC, rfl, hP, hPr, hC, hRC⟩, hwf⟩ := h
      exact obs (st := ⟨forceStop s, [], _⟩) (st' := ⟨forceStop _, [], _⟩) ⟨rfl, rfl, .intro hP hPr hC hRC, hwf⟩

end Ssv.Qbft
