/-
For C17. The armings, armed rounds and handlers of an op list, read off the list without running the model;
what a step and a run of the timer do to the ghost log, the handler and the waiting goroutines; the invariant
`Inv`; what a callback tells about the state it came from. `Ctl`: the guards of `Controller.OnTimeout` and the
invariant `OthersQuiet`.
-/
import Ssv.Model.Timer
import Ssv.Common.Lemmas

namespace Ssv.Timer

/-- the armings an op list contains, oldest first, named 0,1,2,… in call order -/
def armingsFrom (c : Cfg) : Nat → List Op → List Pend
  | _, [] => []
  | k, .arm h r now :: ops => { id := k, round := r, deadline := deadline c h r now } :: armingsFrom c (k + 1) ops
  | k, .expire _ _ :: ops => armingsFrom c k ops
  | k, .cancel :: ops => armingsFrom c k ops
  | k, .reap _ :: ops => armingsFrom c k ops
  | k, .register _ :: ops => armingsFrom c k ops

def armings (c : Cfg) (ops : List Op) : List Pend := armingsFrom c 0 ops

/-- rounds passed to `TimeoutForRound`, in call order -/
def armRounds : List Op → List Nat
  | [] => []
  | .arm _ r _ :: ops => r :: armRounds ops
  | .expire _ _ :: ops => armRounds ops
  | .cancel :: ops => armRounds ops
  | .reap _ :: ops => armRounds ops
  | .register _ :: ops => armRounds ops

/-- the callback in force after an op list: the argument of the last `OnTimeout` call, else the one it started with -/
def handlerAfter : Option Nat → List Op → Option Nat
  | k, [] => k
  | _, .register k' :: ops => handlerAfter k' ops
  | k, .arm _ _ _ :: ops => handlerAfter k ops
  | k, .expire _ _ :: ops => handlerAfter k ops
  | k, .cancel :: ops => handlerAfter k ops
  | k, .reap _ :: ops => handlerAfter k ops

/-- the property's quantifier: the timer is armed for strictly increasing rounds -/
def IncreasingArms (ops : List Op) : Prop := (armRounds ops).Pairwise (· < ·)

instance (ops : List Op) : Decidable (IncreasingArms ops) := by unfold IncreasingArms; infer_instance

theorem armingsFrom_rounds (c : Cfg) (k : Nat) (ops : List Op) :
    (armingsFrom c k ops).map (·.round) = armRounds ops := by
  induction ops generalizing k with
  | nil => rfl
  | cons x xs ih =>
    cases x with
    | arm h r now => exact congrArg (r :: ·) (ih _)
    | _ => exact ih _

theorem armingsFrom_append (c : Cfg) (k : Nat) (a b : List Op) :
    armingsFrom c k (a ++ b) = armingsFrom c k a ++ armingsFrom c (k + (armingsFrom c k a).length) b := by
  induction a generalizing k with
  | nil => rfl
  | cons x xs ih =>
    cases x with
    | arm h r now =>
      -- the arming takes the name `k`, the rest is named from `k + 1` on
      refine (congrArg (_ :: ·) (ih (k + 1))).trans ?_
      rw [Nat.add_right_comm k 1]
      rfl
    | _ => exact ih k

theorem armingsFrom_ids (c : Cfg) (k : Nat) (ops : List Op) :
    ∀ p ∈ armingsFrom c k ops, k ≤ p.id := by
  induction ops generalizing k with
  | nil => exact fun _ hp => nomatch hp
  | cons x xs ih =>
    cases x with
    | arm h r now =>
      exact List.forall_mem_cons.mpr ⟨Nat.le_refl k, fun p hp => Nat.le_of_succ_le (ih (k + 1) p hp)⟩
    | _ => exact ih k

section
variable {c : Cfg}

theorem armings_of_prefix {ops pre post : List Op} {p : Pend} (hops : ops = pre ++ post)
    (hp : p ∈ armings c pre) : p ∈ armings c ops := by
  rw [hops, armings, armingsFrom_append]
  exact List.mem_append_left _ hp

theorem IncreasingArms.round_inj {ops : List Op} (h : IncreasingArms ops) {p q : Pend}
    (hp : p ∈ armings c ops) (hq : q ∈ armings c ops) (hr : p.round = q.round) : p = q := by
  have hlt : (armings c ops).Pairwise (fun a b => a.round < b.round) := by
    rw [← List.pairwise_map, armings, armingsFrom_rounds]; exact h
  exact List.Pairwise.forall_of_forall_of_flip (R := fun a b => a.round = b.round → a = b) (fun _ _ _ => rfl)
    (hlt.imp fun hab e => absurd e (Nat.ne_of_lt hab)) (hlt.imp fun hab e => absurd e.symm (Nat.ne_of_lt hab))
    hp hq hr

theorem roleBase_le {b : Nat} (hb : roleBase c = some b) : b ≤ c.slotDur := by
  unfold roleBase at hb
  split at hb
  · cases hb
    exact Nat.div_le_self _ _
  · split at hb
    · cases hb
      exact Nat.le_trans (Nat.mul_le_mul_left _ (by decide : 2 ≤ 3)) (Nat.div_mul_le_self _ 3)
    · cases hb

theorem deadline_of_base {b : Nat} (hb : roleBase c = some b) (h r now : Nat) :
    deadline c h r now = slotStart c h + (b + cumulative c r) := by
  rw [deadline, hb]

theorem deadline_of_default (hb : roleBase c = none) (h r now : Nat) :
    deadline c h r now = now + perRound c r := by
  rw [deadline, hb]

theorem cumulative_of_ge {r : Nat} (h : c.quickThr ≤ r) :
    cumulative c r = c.quickThr * c.quick + (r - c.quickThr) * c.slow := by
  unfold cumulative
  split
  · next h' => cases Nat.le_antisymm h' h; rw [Nat.sub_self, Nat.zero_mul, Nat.add_zero]
  · rfl

end

/-- waiting goroutines belong to armings of the log, with pairwise distinct ids below the next id to be issued;
    the armed round is the round of the latest arming -/
structure Inv (s : State) : Prop where
  pend_log : ∀ p ∈ s.pending, p ∈ s.log
  armed_last : ∀ q, s.log.getLast? = some q → s.armed = q.round
  pend_ids : (s.pending.map (·.id)).Nodup
  pend_lt : ∀ p ∈ s.pending, p.id < s.nextId

theorem Inv.init : Inv init :=
  ⟨fun _ h => (nomatch h), fun _ h => (nomatch h), List.nodup_nil, fun _ h => (nomatch h)⟩

/-- goroutines leaving keep the invariant: all four clauses pass to sublists of `pending` -/
theorem Inv.of_sublist {s : State} (hi : Inv s) {l : List Pend} (hl : l.Sublist s.pending) :
    Inv { s with pending := l } :=
  ⟨fun p hp => hi.pend_log p (hl.subset hp), hi.armed_last, hi.pend_ids.sublist (hl.map _),
   fun p hp => hi.pend_lt p (hl.subset hp)⟩

/-- ops that leave arming `id` waiting: other goroutines expiring or leaving, cancellation of the context -/
def quietFor (id : Nat) : Op → Bool
  | .expire j _ => j != id
  | .reap j => j != id
  | .cancel => true
  | .arm _ _ _ => false
  | .register _ => false

/-- arming `p` is still waiting on its timer, it is the armed round, and handler `k` is in force -/
structure Waiting (s : State) (p : Pend) (k : Nat) : Prop where
  mem : p ∈ s.pending
  armed : s.armed = p.round
  handler : s.handler = some k

theorem Waiting.filter {s : State} {p : Pend} {k j : Nat} (hw : Waiting s p k) (hj : (j != p.id) = true) :
    Waiting { s with pending := s.pending.filter (·.id != j) } p k :=
  ⟨List.mem_filter.mpr ⟨hw.mem, bne_comm.trans hj⟩, hw.armed, hw.handler⟩

theorem handlerAfter_some {k0 : Option Nat} {ops : List Op} {k : Nat} (h : handlerAfter k0 ops = some k) :
    k0 = some k ∨ Op.register (some k) ∈ ops := by
  induction ops generalizing k0 with
  | nil => exact Or.inl h
  | cons x xs ih =>
    cases x with
    | register k' =>
      rcases ih h with rfl | hm
      · exact Or.inr List.mem_cons_self
      · exact Or.inr (List.mem_cons_of_mem _ hm)
    | _ => exact (ih h).imp_right (List.mem_cons_of_mem _)

/-- what `s'`, the state after a step from `s`, keeps and adds: `new` is the arming made by the step (or `[]`),
    `k` the handler after it -/
structure StepFrame (s : State) (new : List Pend) (k : Option Nat) (s' : State) : Prop where
  log : s'.log = s.log ++ new
  nextId : s'.nextId = s.nextId + new.length
  handler : s'.handler = k
  pending : s'.pending.Sublist (s.pending ++ new)

/-- the step `op` from `s` calls back with `f`: it is the expiry, at or after the deadline, of a waiting arming,
    whose goroutine leaves -/
structure StepFired (c : Cfg) (s : State) (op : Op) (f : Fire) (now : Nat) (p : Pend) (k : Nat) : Prop where
  op_eq : op = .expire p.id now
  waiting : Waiting s p k
  due : p.deadline ≤ now
  eq : f = { id := p.id, round := p.round, time := now, handler := k }
  pending : (step c s op).1.pending = s.pending.filter (fun q => q.id != p.id)

/-- callback `f` is produced by the `expire` at time `now`, after the ops `pre`, of an arming `p` made in `pre`:
    not before `p`'s deadline, while the armed round (the round of the latest arming) is `p`'s, and it goes to
    the handler `k` then in force -/
structure FiredBy (c : Cfg) (ops : List Op) (f : Fire) (pre post : List Op) (now : Nat) (p : Pend) (k : Nat) :
    Prop where
  split : ops = pre ++ Op.expire p.id now :: post
  made : p ∈ armings c pre
  due : p.deadline ≤ now
  latest : ∀ q, (armings c pre).getLast? = some q → q.round = p.round
  handler : handlerAfter none pre = some k
  eq : f = { id := p.id, round := p.round, time := now, handler := k }

/-- arming `i` can still be called back from `s` on: its goroutine is waiting, or it has not been made yet -/
def Live (s : State) (i : Nat) : Prop := (∃ p ∈ s.pending, p.id = i) ∨ s.nextId ≤ i

section
variable (c : Cfg) (s : State)

theorem roleBase_slotTimed
    (h : c.role = Gen.timer_BNRoleAttester ∨ c.role = Gen.timer_BNRoleSyncCommittee ∨
         c.role = Gen.timer_BNRoleAggregator ∨ c.role = Gen.timer_BNRoleSyncCommitteeContribution) :
    roleBase c = some (if c.role = Gen.timer_BNRoleAttester ∨ c.role = Gen.timer_BNRoleSyncCommittee
      then c.slotDur / 3 else c.slotDur / 3 * 2) := by
  by_cases h1 : c.role = Gen.timer_BNRoleAttester ∨ c.role = Gen.timer_BNRoleSyncCommittee
  · rw [roleBase, if_pos h1, if_pos h1]
  · rw [roleBase, if_neg h1, if_pos ((or_assoc.mpr h).resolve_left h1), if_neg h1]

theorem roleBase_default
    (h : ¬ (c.role = Gen.timer_BNRoleAttester ∨ c.role = Gen.timer_BNRoleSyncCommittee ∨
            c.role = Gen.timer_BNRoleAggregator ∨ c.role = Gen.timer_BNRoleSyncCommitteeContribution)) :
    roleBase c = none := by
  simp only [not_or] at h
  obtain ⟨h1, h2, h3, h4⟩ := h
  rw [roleBase, if_neg (not_or.mpr ⟨h1, h2⟩), if_neg (not_or.mpr ⟨h3, h4⟩)]

theorem cumulative_zero : cumulative c 0 = 0 :=
  (if_pos (Nat.zero_le _)).trans (Nat.zero_mul _)

theorem cumulative_succ (r : Nat) : cumulative c (r + 1) = cumulative c r + perRound c (r + 1) := by
  by_cases h : r + 1 ≤ c.quickThr
  · rw [cumulative, if_pos h, cumulative, if_pos (Nat.le_of_succ_le h), perRound, if_pos h, Nat.succ_mul]
  · have h' : c.quickThr ≤ r := Nat.le_of_lt_succ (Nat.lt_of_not_le h)
    rw [cumulative_of_ge h', cumulative_of_ge (Nat.le_succ_of_le h'), perRound, if_neg h, Nat.succ_sub h',
      Nat.succ_mul, Nat.add_assoc]

theorem perRound_le (r : Nat) (hqs : c.quick ≤ c.slow) : perRound c r ≤ c.slow := by
  unfold perRound
  split
  · exact hqs
  · exact Nat.le_refl _

theorem cumulative_le (r : Nat) (hqs : c.quick ≤ c.slow) : cumulative c r ≤ r * c.slow := by
  induction r with
  | zero => rw [cumulative_zero]; exact Nat.zero_le _
  | succ n ih =>
    rw [cumulative_succ, Nat.succ_mul]
    exact Nat.add_le_add ih (perRound_le c _ hqs)

theorem cumulative_strictMono (hq : 0 < c.quick) (hs : 0 < c.slow) {r r' : Nat} (h : r < r') :
    cumulative c r < cumulative c r' := by
  induction r' with
  | zero => cases h
  | succ n ih =>
    have hpos : 0 < perRound c (n + 1) := by unfold perRound; split <;> assumption
    rw [cumulative_succ]
    rcases Nat.lt_succ_iff_lt_or_eq.mp h with hn | rfl
    · exact Nat.lt_add_right _ (ih hn)
    · exact Nat.lt_add_of_pos_right hpos

theorem roundDuration_le (r : Nat) (hqs : c.quick ≤ c.slow) :
    roundDuration c r ≤ c.slotDur + (r + 1) * c.slow := by
  unfold roundDuration
  cases hb : roleBase c with
  | none =>
    exact Nat.le_trans (perRound_le c r hqs)
      (Nat.le_trans (Nat.le_mul_of_pos_left _ (Nat.succ_pos r)) (Nat.le_add_left _ _))
  | some b =>
    exact Nat.add_le_add (roleBase_le hb)
      (Nat.le_trans (cumulative_le c r hqs) (Nat.mul_le_mul_right _ (Nat.le_succ r)))

/-- the timer of arming `id` delivers: nothing happens (goroutine gone, or too early), or the goroutine
    leaves and calls the handler in force iff its round is still the armed one -/
theorem step_expire (id now : Nat) :
    step c s (.expire id now) = (s, none) ∨
    ∃ p, s.pending.find? (·.id == id) = some p ∧ p.deadline ≤ now ∧
      step c s (.expire id now) = ({ s with pending := s.pending.filter (·.id != id) },
        if s.armed = p.round then s.handler.map (fun k => ⟨p.id, p.round, now, k⟩) else none) := by
  cases hfind : s.pending.find? (·.id == id) with
  | none => exact Or.inl (by simp only [step, hfind])
  | some p =>
    by_cases hdl : now < p.deadline
    · exact Or.inl (by simp only [step, hfind, if_pos hdl])
    · refine Or.inr ⟨p, rfl, Nat.le_of_not_lt hdl, ?_⟩
      simp only [step, hfind, if_neg hdl]
      cases s.handler <;> rfl

theorem step_reap (id : Nat) :
    step c s (.reap id) = (s, none) ∨
    step c s (.reap id) = ({ s with pending := s.pending.filter (·.id != id) }, none) := by
  cases h : s.cancelled
  · exact Or.inl (by simp only [step, h]; rfl)
  · exact Or.inr (by simp only [step, h]; rfl)

/-- every op in one shape: `armingsFrom c s.nextId [op]` is the new arming if `op` is an `arm` and `[]` otherwise,
    `handlerAfter s.handler [op]` the new handler if `op` is an `OnTimeout` call and `s.handler` otherwise -/
theorem step_frame (op : Op) :
    StepFrame s (armingsFrom c s.nextId [op]) (handlerAfter s.handler [op]) (step c s op).1 := by
  have hsame : ∀ l : List Pend, l.Sublist s.pending → StepFrame s [] s.handler { s with pending := l } :=
    fun l hl => ⟨(List.append_nil _).symm, rfl, rfl, hl.trans (List.sublist_append_left _ _)⟩
  cases op with
  | arm h r now => exact ⟨rfl, rfl, rfl, .refl _⟩
  | expire id now =>
    rcases step_expire c s id now with h | ⟨p, _, _, h⟩ <;> rw [h]
    · exact hsame _ (.refl _)
    · exact hsame _ List.filter_sublist
  | reap id =>
    rcases step_reap c s id with h | h <;> rw [h]
    · exact hsame _ (.refl _)
    · exact hsame _ List.filter_sublist
  | cancel => exact ⟨(List.append_nil _).symm, rfl, rfl, List.sublist_append_left _ _⟩
  | register k => exact ⟨(List.append_nil _).symm, rfl, rfl, List.sublist_append_left _ _⟩

theorem run_cons (x : Op) (xs : List Op) :
    run c s (x :: xs) = ((run c (step c s x).1 xs).1, (step c s x).2.toList ++ (run c (step c s x).1 xs).2) := rfl

theorem run_append (a b : List Op) : (run c s (a ++ b)).1 = (run c (run c s a).1 b).1 := by
  induction a generalizing s with
  | nil => rfl
  | cons x xs ih => exact ih _

/-- the ghost log of the model is exactly the model-independent list of armings -/
theorem run_log (ops : List Op) :
    (run c s ops).1.log = s.log ++ armingsFrom c s.nextId ops ∧
    (run c s ops).1.nextId = s.nextId + (armingsFrom c s.nextId ops).length := by
  induction ops generalizing s with
  | nil => exact ⟨(List.append_nil _).symm, rfl⟩
  | cons x xs ih =>
    have hf := step_frame c s x
    have happ : armingsFrom c s.nextId (x :: xs) = _ := armingsFrom_append c s.nextId [x] xs
    rw [run_cons, (ih _).1, (ih _).2, hf.log, hf.nextId, happ, List.length_append, List.append_assoc, Nat.add_assoc]
    exact ⟨rfl, rfl⟩

theorem run_init_log (ops : List Op) : (run c init ops).1.log = armings c ops :=
  (run_log c init ops).1.trans (List.nil_append _)

theorem run_init_nextId (ops : List Op) : (run c init ops).1.nextId = (armings c ops).length :=
  (run_log c init ops).2.trans (Nat.zero_add _)

/-- `t.done` after a run is the argument of the last `OnTimeout` call -/
theorem run_handler (ops : List Op) :
    (run c s ops).1.handler = handlerAfter s.handler ops := by
  induction ops generalizing s with
  | nil => rfl
  | cons x xs ih =>
    rw [run_cons, ih, (step_frame c s x).handler]
    cases x <;> rfl

end

/-- for a slot-timed role the deadline does not depend on the arming time, so it grows with the round alone -/
theorem deadline_strictMono {c : Cfg} {b : Nat} (hb : roleBase c = some b) (hq : 0 < c.quick) (hs : 0 < c.slow)
    (h now : Nat) {r r' : Nat} (hr : r < r') : deadline c h r now < deadline c h r' now := by
  rw [deadline_of_base hb, deadline_of_base hb]
  exact Nat.add_lt_add_left (Nat.add_lt_add_left (cumulative_strictMono c hq hs hr) _) _

section
variable (c : Cfg) {s : State}

theorem Inv.step (op : Op) (hi : Inv s) : Inv (step c s op).1 := by
  cases op with
  | arm h r now =>
    refine ⟨fun p hp => ?_, fun q hq => ?_, ?_, fun p hp => ?_⟩
    · exact (List.mem_append.mp hp).elim (fun h => List.mem_append_left _ (hi.pend_log p h)) (List.mem_append_right _)
    · cases List.getLast?_concat.symm.trans hq
      rfl
    · -- the new id is above every pending one
      show ((s.pending ++ [_]).map Pend.id).Nodup
      rw [List.map_append]
      refine List.nodup_append.mpr ⟨hi.pend_ids, List.pairwise_singleton _ _, fun a ha b hb => ?_⟩
      obtain ⟨p, hp, rfl⟩ := List.mem_map.mp ha
      cases List.mem_singleton.mp hb
      exact Nat.ne_of_lt (hi.pend_lt p hp)
    · rcases List.mem_append.mp hp with hp | hp
      · exact Nat.lt_succ_of_lt (hi.pend_lt p hp)
      · cases List.mem_singleton.mp hp
        exact Nat.lt_succ_self _
  | expire id now =>
    rcases step_expire c s id now with h | ⟨p, _, _, h⟩ <;> rw [h]
    · exact hi
    · exact hi.of_sublist List.filter_sublist
  | reap id =>
    rcases step_reap c s id with h | h <;> rw [h]
    · exact hi
    · exact hi.of_sublist List.filter_sublist
  | cancel => exact ⟨hi.pend_log, hi.armed_last, hi.pend_ids, hi.pend_lt⟩
  | register k => exact ⟨hi.pend_log, hi.armed_last, hi.pend_ids, hi.pend_lt⟩

theorem Inv.run (ops : List Op) (hi : Inv s) : Inv (run c s ops).1 := by
  induction ops generalizing s with
  | nil => exact hi
  | cons x xs ih => exact ih (hi.step c x)

end

section
variable {c : Cfg} {s : State} {op : Op} {f : Fire}

theorem step_fire (hf : (step c s op).2 = some f) :
    ∃ now p k, StepFired c s op f now p k := by
  cases op with
  | expire id now =>
    rcases step_expire c s id now with h | ⟨p, hfind, hdl, h⟩ <;> rw [h] at hf
    · cases hf
    · split at hf
      · rename_i harm
        obtain ⟨k, hk, hfk⟩ := Option.map_eq_some_iff.mp hf
        obtain ⟨hmem, rfl⟩ := find?_key_some Pend.id hfind
        exact ⟨now, p, k, rfl, ⟨hmem, harm, hk⟩, hdl, hfk.symm, congrArg (·.1.pending) h⟩
      · cases hf
  | reap id => rcases step_reap c s id with h | h <;> rw [h] at hf <;> cases hf
  | arm h r now => cases hf
  | cancel => cases hf
  | register k => cases hf

theorem fire_of_run {ops : List Op} (hf : f ∈ (run c s ops).2) :
    ∃ pre op post, ops = pre ++ op :: post ∧ (step c (run c s pre).1 op).2 = some f := by
  induction ops generalizing s with
  | nil => cases hf
  | cons x xs ih =>
    rw [run_cons] at hf
    rcases List.mem_append.mp hf with hf | hf
    · exact ⟨[], x, xs, rfl, Option.mem_toList.mp hf⟩
    · obtain ⟨pre, op, post, rfl, h⟩ := ih hf
      exact ⟨x :: pre, op, post, rfl, h⟩

theorem fire_spec {ops : List Op} (hf : f ∈ (run c init ops).2) :
    ∃ pre post now p k, FiredBy c ops f pre post now p k := by
  obtain ⟨pre, op, post, hops, hstep⟩ := fire_of_run hf
  obtain ⟨now, p, k, h⟩ := step_fire hstep
  have hinv := Inv.init.run c pre
  have hlog := run_init_log c pre
  refine ⟨pre, post, now, p, k, h.op_eq ▸ hops, hlog ▸ hinv.pend_log p h.waiting.mem, h.due, fun q hq => ?_, ?_, h.eq⟩
  · rw [← hinv.armed_last q (hlog ▸ hq), h.waiting.armed]
  · rw [← h.waiting.handler, run_handler]; rfl

theorem live_of_step {i : Nat} (h : Live (step c s op).1 i) : Live s i := by
  have hf := step_frame c s op
  rcases h with ⟨p, hp, rfl⟩ | h
  · rcases List.mem_append.mp (hf.pending.subset hp) with hp | hp
    · exact Or.inl ⟨p, hp, rfl⟩
    · exact Or.inr (armingsFrom_ids c _ _ p hp)
  · rw [hf.nextId] at h
    exact Or.inr (Nat.le_trans (Nat.le_add_right _ _) h)

/-- a callback uses its arming up: the goroutine leaves, and ids already issued are not issued again -/
theorem dead_of_fire (hi : Inv s) (hf : (step c s op).2 = some f) :
    Live s f.id ∧ ¬ Live (step c s op).1 f.id := by
  obtain ⟨now, p, k, hfd⟩ := step_fire hf
  obtain rfl := hfd.op_eq
  obtain rfl := hfd.eq
  refine ⟨Or.inl ⟨p, hfd.waiting.mem, rfl⟩, fun h => ?_⟩
  rcases h with ⟨q, hq, hqe⟩ | h
  · rw [hfd.pending] at hq
    exact bne_iff_ne.mp (List.mem_filter.mp hq).2 hqe
  · rw [(step_frame c s (.expire p.id now)).nextId] at h
    exact Nat.not_le_of_lt (hi.pend_lt p hfd.waiting.mem) h

end

section
variable (c : Cfg) {s : State}

/-- the second conjunct is what the induction needs: the id of a callback is live before its step and dead after
    it (`dead_of_fire`), and what is dead stays dead (`live_of_step`) -/
theorem run_fires_ids (ops : List Op) (hi : Inv s) :
    ((run c s ops).2.map (·.id)).Nodup ∧ ∀ f ∈ (run c s ops).2, Live s f.id := by
  induction ops generalizing s with
  | nil => exact ⟨List.nodup_nil, fun _ h => (nomatch h)⟩
  | cons x xs ih =>
    obtain ⟨hnd, hlive⟩ := ih (hi.step c x)
    have hlive' : ∀ f ∈ (run c (step c s x).1 xs).2, Live s f.id := fun f hf => live_of_step (hlive f hf)
    rw [run_cons]
    cases ho : (step c s x).2 with
    | none => exact ⟨hnd, hlive'⟩
    | some f0 =>
      obtain ⟨hl, hd⟩ := dead_of_fire hi ho
      refine ⟨List.nodup_cons.mpr ⟨fun hmem => ?_, hnd⟩, fun f hf => ?_⟩
      · obtain ⟨g, hg, (hge : g.id = f0.id)⟩ := List.mem_map.mp hmem
        exact hd (hge ▸ hlive g hg)
      · rcases List.mem_cons.mp hf with rfl | hf
        · exact hl
        · exact hlive' f hf

theorem waiting_step {p : Pend} {k : Nat} (op : Op)
    (hw : Waiting s p k) (hq : quietFor p.id op = true) : Waiting (step c s op).1 p k := by
  cases op with
  | arm h r now => cases hq
  | register k' => cases hq
  | cancel => exact ⟨hw.mem, hw.armed, hw.handler⟩
  | reap j =>
    rcases step_reap c s j with h | h <;> rw [h]
    · exact hw
    · exact hw.filter hq
  | expire j now =>
    rcases step_expire c s j now with h | ⟨_, _, _, h⟩ <;> rw [h]
    · exact hw
    · exact hw.filter hq

theorem waiting_run {p : Pend} {k : Nat} (ops : List Op)
    (hw : Waiting s p k) (hq : ∀ op ∈ ops, quietFor p.id op = true) : Waiting (run c s ops).1 p k := by
  induction ops generalizing s with
  | nil => exact hw
  | cons x xs ih =>
    exact ih (waiting_step c x hw (hq x List.mem_cons_self)) (fun op h => hq op (List.mem_cons_of_mem _ h))

theorem step_expire_waiting {p : Pend} {k now : Nat} (hi : Inv s) (hw : Waiting s p k)
    (hdl : p.deadline ≤ now) :
    (step c s (.expire p.id now)).2 = some { id := p.id, round := p.round, time := now, handler := k } := by
  simp only [step, find?_key_of_nodup Pend.id hw.mem hi.pend_ids, if_neg (Nat.not_lt.mpr hdl), hw.armed, hw.handler,
    if_true]

end

namespace Ctl

theorem find_setInst (l : List Inst) (h : Nat) (f : Inst → Inst) (i : Inst)
    (hf : ∀ j, (f j).height = j.height) (hfind : find l h = some i) :
    find (setInst l h f) h = some (f i) := by
  induction l with
  | nil => cases hfind
  | cons a l ih =>
    unfold find at hfind ih ⊢
    rw [List.find?_cons] at hfind
    cases hah : (a.height == h) with
    | true =>
      rw [hah] at hfind
      cases hfind
      rw [setInst, if_pos hah, List.find?_cons, hf, hah]
    | false =>
      rw [hah] at hfind
      rw [setInst, if_neg (ne_true_of_eq_false hah), List.find?_cons, hah]
      exact ih hfind

/-- a timeout event is refused without any effect, or it is fresh: the instance is stored, undecided, still
    processing and not ahead of the event, and is bumped by one round -/
theorem step_timeout_cases (s : State) (h r : Nat) :
    (∃ t, step s (.timeout h r) = (s, ⟨t, 0, []⟩)) ∨
    ∃ i, find s.insts h = some i ∧ i.round ≤ r ∧ i.decided = false ∧ canProcess s i = true ∧
      step s (.timeout h r) = ({ s with insts := setInst s.insts h (fun i => { i with round := i.round + 1 }) },
        ⟨.ok, 1, [(h, i.round + 1)]⟩) := by
  cases hf : find s.insts h with
  | none => exact Or.inl ⟨.errNilInstance, by simp only [step, hf]⟩
  | some i =>
    -- the guards in the order the code tests them
    simp only [step, hf]
    by_cases h1 : r < i.round
    · exact Or.inl ⟨_, if_pos h1⟩
    · rw [if_neg h1]
      cases h2 : i.decided
      · rw [if_neg Bool.false_ne_true]
        cases h3 : canProcess s i
        · exact Or.inl ⟨_, if_pos rfl⟩
        · exact Or.inr ⟨i, rfl, Nat.le_of_not_lt h1, h2, h3, if_neg Bool.false_ne_true⟩
      · exact Or.inl ⟨_, if_pos rfl⟩

theorem timeout_noop (s : State) (h r : Nat)
    (hno : ∀ i, find s.insts h = some i → r < i.round ∨ i.decided = true ∨ canProcess s i = false) :
    (step s (.timeout h r)).1 = s ∧ (step s (.timeout h r)).2.bcast = 0 ∧ (step s (.timeout h r)).2.arms = [] := by
  rcases step_timeout_cases s h r with ⟨t, ht⟩ | ⟨i, hf, hr, hd, hc, _⟩
  · rw [ht]; exact ⟨rfl, rfl, rfl⟩
  · rcases hno i hf with h | h | h
    · exact absurd h (Nat.not_lt.mpr hr)
    · rw [hd] at h; cases h
    · rw [hc] at h; cases h

theorem mem_insertAt {l : List Inst} {k : Nat} {x y : Inst} (h : y ∈ insertAt l k x) : y ∈ l ∨ y = x := by
  simp only [insertAt, List.mem_append, List.mem_cons] at h
  rcases h with h | h | h
  · exact Or.inl (List.mem_of_mem_take h)
  · exact Or.inr h
  · exact Or.inl (List.mem_of_mem_drop h)

theorem mem_addNew {cap : Nat} {l : List Inst} {x y : Inst} (h : y ∈ addNew cap l x) : y ∈ l ∨ y = x := by
  unfold addNew at h
  simp only at h
  split at h
  · split at h
    · simp only [List.mem_append, List.mem_singleton] at h
      exact h
    · exact Or.inl h
  · split at h
    · exact mem_insertAt (List.mem_of_mem_take h)
    · exact mem_insertAt h

theorem mem_setInst {l : List Inst} {h : Nat} {f : Inst → Inst} {y : Inst} (hy : y ∈ setInst l h f) :
    y ∈ l ∨ ∃ j ∈ l, y = f j := by
  induction l with
  | nil => cases hy
  | cons a l ih =>
    rw [setInst] at hy
    split at hy
    · rcases List.mem_cons.mp hy with rfl | hy
      · exact Or.inr ⟨a, List.mem_cons_self, rfl⟩
      · exact Or.inl (List.mem_cons_of_mem _ hy)
    · rcases List.mem_cons.mp hy with rfl | hy
      · exact Or.inl List.mem_cons_self
      · rcases ih hy with h1 | ⟨j, hj, rfl⟩
        · exact Or.inl (List.mem_cons_of_mem _ h1)
        · exact Or.inr ⟨j, List.mem_cons_of_mem _ hj, rfl⟩

/-- the invariant `Controller.OnTimeout` silently relies on (it has no height check of its own):
    `StartNewInstance` force-stops every other stored instance, `UponDecided` only ever creates or marks
    DECIDED instances, so an instance that is not the one most recently started cannot act on a timeout -/
def OthersQuiet (s : State) : Prop :=
  ∀ i ∈ s.insts, s.running ≠ some i.height → i.stopped = true ∨ i.decided = true

theorem OthersQuiet.init (cap cutoff : Nat) : OthersQuiet (init cap cutoff) :=
  fun _ hi => (nomatch hi)

theorem OthersQuiet.step (s : State) (op : Op) (hq : OthersQuiet s) : OthersQuiet (step s op).1 := by
  cases op with
  | badTimeout => exact hq
  | start h =>
    -- `StartNewInstance` refuses, or stores the new instance and force-stops the instances of every other height
    simp only [Ctl.step]
    split
    · exact hq
    split
    · exact hq
    · intro i hi hne
      obtain ⟨j, _, rfl⟩ := List.mem_map.mp hi
      by_cases hj : (j.height != h) = true
      · rw [if_pos hj]; exact Or.inl rfl
      · rw [if_neg hj] at hne
        rw [bne_iff_ne, Decidable.not_not] at hj
        exact absurd (congrArg some hj.symm) hne
  | decide h r =>
    -- a decided message only creates or marks decided instances
    intro y hy hne
    change y ∈ (match find s.insts h with | none => _ | some i => _) at hy
    split at hy
    · rcases mem_addNew hy with h1 | rfl
      · exact hq y h1 hne
      · exact Or.inr rfl
    · split at hy
      · exact hq y hy hne
      · rcases mem_setInst hy with h1 | ⟨j, _, rfl⟩
        · exact hq y h1 hne
        · exact Or.inr rfl
  | timeout h r =>
    rcases step_timeout_cases s h r with ⟨t, ht⟩ | ⟨i, _, _, _, _, ht⟩ <;> rw [ht]
    · exact hq
    · -- the bump changes the round only
      intro y hy hne
      rcases mem_setInst hy with h1 | ⟨j, hj, rfl⟩
      · exact hq y h1 hne
      · exact hq j hj hne

theorem OthersQuiet.run (s : State) (ops : List Op) (hq : OthersQuiet s) : OthersQuiet (run s ops).1 := by
  induction ops generalizing s with
  | nil => exact hq
  | cons x xs ih => exact ih _ (OthersQuiet.step s x hq)

end Ctl

end Ssv.Timer
