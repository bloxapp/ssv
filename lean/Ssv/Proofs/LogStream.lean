/-
Lemmas for engine `logstream` (property C13), core Lean only: PackLogs on the node's answer, the delivery
invariant `EntriesOK`, the batch loop, the transitions of `step` with the cursor invariant `Inv`, the potential
that bounds when the client gives up, and the historical sync. The property theorems are in Ssv/Props/C13.lean.
-/
import Ssv.Model.LogStream
namespace Ssv.LogStream

/-- the node lists each block's logs in transaction order -/
def ChainSorted (chain : Nat → List RawLog) : Prop :=
  ∀ b, (chain b).Pairwise (fun x y => x.tx ≤ y.tx)

/-- ascending for the `less` of PackLogs (block number, then transaction index); equal keys may be neighbours -/
def SortedLogs (l : List Log) : Prop := l.Pairwise (fun a b => logLess b a = false)

theorem sortLogs_of_sorted : ∀ {l : List Log}, SortedLogs l → sortLogs l = l
  | [], _ => rfl
  | [_], _ => rfl
  | x :: y :: ys, h => by
    have hx := List.pairwise_cons.mp h
    rw [sortLogs, sortLogs_of_sorted hx.2, insLog, hx.1 y List.mem_cons_self]
    rfl

def flat (chain : Nat → List RawLog) (bs : List Nat) : List Log := bs.flatMap (nonRemoved chain)

theorem valid_eq_flat (chain : Nat → List RawLog) (lo n : Nat) :
    (nodeLogs chain lo n).filter (fun l => !l.removed) = flat chain (List.range' lo n) :=
  List.filter_flatMap

theorem mem_nonRemoved_block {chain : Nat → List RawLog} {b : Nat} {l : Log} (h : l ∈ nonRemoved chain b) :
    l.block = b := by
  obtain ⟨r, _, rfl⟩ := List.mem_map.mp (List.mem_filter.mp h).1
  rfl

theorem mem_flat {chain : Nat → List RawLog} {bs : List Nat} {l : Log} (h : l ∈ flat chain bs) :
    l.block ∈ bs := by
  obtain ⟨b, hb, hl⟩ := List.mem_flatMap.mp h
  rwa [mem_nonRemoved_block hl]

theorem sorted_flat {chain : Nat → List RawLog} (hc : ChainSorted chain) {bs : List Nat}
    (h : bs.Pairwise (· < ·)) : SortedLogs (flat chain bs) := by
  refine List.pairwise_flatMap.mpr ⟨fun b _ => ?_, h.imp fun hab x hx y hy => ?_⟩
  · -- inside a block the chain's order decides
    refine ((List.pairwise_map.mpr ((hc b).imp ?_)).filter _)
    intro r r' (hr : r.tx ≤ r'.tx)
    simp only [logLess, mkLog, if_true]
    exact decide_eq_false (Nat.not_lt.mpr hr)
  · -- across blocks the block number decides
    rw [logLess, mem_nonRemoved_block hx, mem_nonRemoved_block hy, if_neg (Nat.ne_of_gt hab)]
    exact decide_eq_false (Nat.not_lt.mpr (Nat.le_of_lt hab))

/-! ## PackLogs on the node's answer -/

theorem packFrom_run (b : Nat) (rest : List Log) (hrest : ∀ l ∈ rest.head?, l.block ≠ b) :
    ∀ (ls acc : List Log), (∀ l ∈ ls, l.block = b) →
      packFrom b acc (ls ++ rest) = ⟨b, acc ++ ls⟩ :: packLoop rest
  | [], acc, _ => by
    rw [List.nil_append, List.append_nil]
    cases rest with
    | nil => rfl
    | cons r rest => rw [packFrom, if_neg (hrest r rfl)]; rfl
  | l :: ls, acc, h => by
    have ih := packFrom_run b rest hrest ls (acc ++ [l]) fun x hx => h x (List.mem_cons_of_mem _ hx)
    rw [List.cons_append, packFrom, if_pos (h l List.mem_cons_self), ih, List.append_assoc]
    rfl

/-- the entries the property expects for a list of blocks: one per block that has non-removed logs -/
def entriesOf (chain : Nat → List RawLog) (bs : List Nat) : List BlockLogs :=
  (bs.filter fun b => nonRemoved chain b ≠ []).map fun b => ⟨b, nonRemoved chain b⟩

theorem packLoop_flat (chain : Nat → List RawLog) :
    ∀ {bs : List Nat}, bs.Pairwise (· < ·) → packLoop (flat chain bs) = entriesOf chain bs
  | [], _ => rfl
  | b :: bs, h => by
    have hb := List.pairwise_cons.mp h
    have ih := packLoop_flat chain hb.2
    show packLoop (nonRemoved chain b ++ flat chain bs) = _
    cases hnr : nonRemoved chain b with
    | nil =>
      rw [entriesOf, List.filter_cons_of_neg (by exact fun h => of_decide_eq_true h hnr)]
      exact ih
    | cons l ls =>
      -- the logs of `b` are one run; what follows starts, if at all, with a log of a later block
      have hne : nonRemoved chain b ≠ [] := hnr ▸ List.cons_ne_nil l ls
      have hall : ∀ x ∈ l :: ls, x.block = b := fun x hx => mem_nonRemoved_block (hnr ▸ hx)
      have hrest : ∀ x ∈ (flat chain bs).head?, x.block ≠ b := fun x hx =>
        Nat.ne_of_gt (hb.1 _ (mem_flat (List.mem_of_mem_head? hx)))
      rw [entriesOf, List.filter_cons_of_pos (by exact decide_eq_true hne), List.map_cons, hnr, ← entriesOf, ← ih]
      rw [List.cons_append, packLoop, hall l List.mem_cons_self,
        packFrom_run b _ hrest ls [l] fun x hx => hall x (List.mem_cons_of_mem _ hx)]
      rfl

theorem packLogs_valid {chain : Nat → List RawLog} (hc : ChainSorted chain) (lo n : Nat) :
    packLogs ((nodeLogs chain lo n).filter (fun l => !l.removed)) = entriesOf chain (List.range' lo n) := by
  have hp : (List.range' lo n).Pairwise (· < ·) := List.pairwise_lt_range'
  rw [valid_eq_flat, packLogs, sortLogs_of_sorted (sorted_flat hc hp), packLoop_flat chain hp]

/-! ## the delivery invariant -/

/-- "every block in `[lo, hi)` that has non-removed logs has been delivered exactly once, with exactly these
    logs, in increasing order, and nothing else but empty markers of blocks without such logs" -/
structure EntriesOK (chain : Nat → List RawLog) (lo hi : Nat) (es : List BlockLogs) : Prop where
  incr : (es.map (·.block)).Pairwise (· < ·)
  sound : ∀ e ∈ es, lo ≤ e.block ∧ e.block < hi ∧ e.logs = nonRemoved chain e.block
  complete : ∀ b, lo ≤ b → b < hi → nonRemoved chain b ≠ [] → ∃ e ∈ es, e.block = b

theorem EntriesOK.ge {chain : Nat → List RawLog} {lo hi : Nat} {es : List BlockLogs} (h : EntriesOK chain lo hi es)
    {e : BlockLogs} (he : e ∈ es) : lo ≤ e.block := (h.sound e he).1

theorem EntriesOK.lt {chain : Nat → List RawLog} {lo hi : Nat} {es : List BlockLogs} (h : EntriesOK chain lo hi es)
    {e : BlockLogs} (he : e ∈ es) : e.block < hi := (h.sound e he).2.1

theorem EntriesOK.logs {chain : Nat → List RawLog} {lo hi : Nat} {es : List BlockLogs} (h : EntriesOK chain lo hi es)
    {e : BlockLogs} (he : e ∈ es) : e.logs = nonRemoved chain e.block := (h.sound e he).2.2

theorem EntriesOK.nil (chain : Nat → List RawLog) (lo : Nat) : EntriesOK chain lo lo [] :=
  ⟨List.Pairwise.nil, nofun, fun _ h1 h2 => absurd h2 (Nat.not_lt.mpr h1)⟩

theorem EntriesOK.append {chain : Nat → List RawLog} {lo mid hi : Nat} {a b : List BlockLogs}
    (ha : EntriesOK chain lo mid a) (hb : EntriesOK chain mid hi b) (h1 : lo ≤ mid) (h2 : mid ≤ hi) :
    EntriesOK chain lo hi (a ++ b) := by
  refine ⟨?_, ?_, ?_⟩
  · rw [List.map_append, List.pairwise_append]
    refine ⟨ha.incr, hb.incr, fun x hx y hy => ?_⟩
    obtain ⟨e, he, rfl⟩ := List.mem_map.mp hx
    obtain ⟨f, hf, rfl⟩ := List.mem_map.mp hy
    exact Nat.lt_of_lt_of_le (ha.lt he) (hb.ge hf)
  · intro e he
    rcases List.mem_append.mp he with he | he
    · exact ⟨ha.ge he, Nat.lt_of_lt_of_le (ha.lt he) h2, ha.logs he⟩
    · exact ⟨Nat.le_trans h1 (hb.ge he), hb.lt he, hb.logs he⟩
  · intro x hx1 hx2 hnr
    by_cases hm : x < mid
    · obtain ⟨e, he, hb'⟩ := ha.complete x hx1 hm hnr
      exact ⟨e, List.mem_append_left _ he, hb'⟩
    · obtain ⟨e, he, hb'⟩ := hb.complete x (Nat.le_of_not_lt hm) hx2 hnr
      exact ⟨e, List.mem_append_right _ he, hb'⟩

theorem EntriesOK.extend {chain : Nat → List RawLog} {lo hi hi' : Nat} {es : List BlockLogs}
    (h : EntriesOK chain lo hi es) (hle : hi ≤ hi')
    (hempty : ∀ b, hi ≤ b → b < hi' → nonRemoved chain b = []) : EntriesOK chain lo hi' es :=
  ⟨h.incr, fun e he => ⟨h.ge he, Nat.lt_of_lt_of_le (h.lt he) hle, h.logs he⟩,
   fun b h1 h2 hnr => by
     by_cases hb : b < hi
     · exact h.complete b h1 hb hnr
     · exact absurd (hempty b (Nat.le_of_not_lt hb) h2) hnr⟩

theorem cursorAfter_nil (cur : Nat) : cursorAfter cur [] = cur := rfl

theorem cursorAfter_concat (cur : Nat) (es : List BlockLogs) (e : BlockLogs) :
    cursorAfter cur (es ++ [e]) = e.block + 1 := by
  rw [cursorAfter, List.foldl_append]; rfl

theorem lastAfter_concat (r : Nat) (es : List BlockLogs) (e : BlockLogs) :
    lastAfter r (es ++ [e]) = e.block := by
  rw [lastAfter, List.foldl_append]; rfl

theorem cursorAfter_eq_lastAfter {es : List BlockLogs} (h : es ≠ []) (c r : Nat) :
    cursorAfter c es = lastAfter r es + 1 := by
  rcases List.eq_nil_or_concat es with rfl | ⟨es', e, rfl⟩
  · exact absurd rfl h
  · rw [List.concat_eq_append, cursorAfter_concat, lastAfter_concat]

/-- after forwarding `es` the cursor is past every forwarded block and not past `hi`:
    still "everything below the cursor, nothing at or above" -/
theorem EntriesOK.shrink {chain : Nat → List RawLog} {lo hi : Nat} {es : List BlockLogs}
    (h : EntriesOK chain lo hi es) (hle : lo ≤ hi) :
    EntriesOK chain lo (cursorAfter lo es) es ∧ lo ≤ cursorAfter lo es ∧ cursorAfter lo es ≤ hi := by
  rcases List.eq_nil_or_concat es with rfl | ⟨es', e, rfl⟩
  · exact ⟨EntriesOK.nil chain lo, Nat.le_refl _, hle⟩
  · rw [List.concat_eq_append] at h ⊢
    rw [cursorAfter_concat]
    have he : e ∈ es' ++ [e] := List.mem_append_right _ List.mem_cons_self
    -- the last entry of a strictly increasing list dominates
    have hlast : ∀ x ∈ es' ++ [e], x.block < e.block + 1 := by
      intro x hx
      obtain ⟨-, -, hcross⟩ := List.pairwise_append.mp (List.map_append ▸ h.incr)
      rcases List.mem_append.mp hx with hx | hx
      · exact Nat.lt_succ_of_lt (hcross _ (List.mem_map_of_mem hx) _ List.mem_cons_self)
      · rw [List.mem_singleton.mp hx]; exact Nat.lt_succ_self _
    exact ⟨⟨h.incr, fun x hx => ⟨h.ge hx, hlast x hx, h.logs hx⟩,
      fun b h1 h2 => h.complete b h1 (Nat.lt_of_lt_of_le h2 (h.lt he))⟩, Nat.le_succ_of_le (h.ge he), h.lt he⟩

theorem filter_block_of_incr {l : List BlockLogs} (hp : (l.map (·.block)).Pairwise (· < ·)) {x : BlockLogs}
    (hx : x ∈ l) : l.filter (fun e => e.block = x.block) = [x] := by
  obtain ⟨l₁, l₂, rfl⟩ := List.append_of_mem hx
  rw [List.map_append, List.map_cons, List.pairwise_append, List.pairwise_cons] at hp
  obtain ⟨-, ⟨hafter, -⟩, hbefore⟩ := hp
  have h₁ : l₁.filter (fun e => decide (e.block = x.block)) = [] := List.filter_eq_nil_iff.mpr fun z hz =>
    mt of_decide_eq_true (Nat.ne_of_lt (hbefore _ (List.mem_map_of_mem hz) _ List.mem_cons_self))
  have h₂ : l₂.filter (fun e => decide (e.block = x.block)) = [] := List.filter_eq_nil_iff.mpr fun z hz =>
    mt of_decide_eq_true (Nat.ne_of_gt (hafter _ (List.mem_map_of_mem hz)))
  rw [List.filter_append, List.filter_cons_of_pos (by exact decide_eq_true rfl), h₁, h₂]
  rfl

/-- strictly increasing block numbers: a block number selects at most one entry, and `complete` makes it one -/
theorem EntriesOK.unique {chain : Nat → List RawLog} {lo hi : Nat} {es : List BlockLogs}
    (h : EntriesOK chain lo hi es) {b : Nat} (h1 : lo ≤ b) (h2 : b < hi) (hnr : nonRemoved chain b ≠ []) :
    es.filter (fun e => e.block = b) = [⟨b, nonRemoved chain b⟩] := by
  obtain ⟨e, he, rfl⟩ := h.complete b h1 h2 hnr
  rw [filter_block_of_incr h.incr he, ← h.logs he]

theorem entriesOf_ok (chain : Nat → List RawLog) (lo n : Nat) :
    EntriesOK chain lo (lo + n) (entriesOf chain (List.range' lo n)) := by
  refine ⟨?_, fun e he => ?_, fun b h1 h2 hnr => ?_⟩
  · rw [entriesOf, List.map_map]
    exact List.pairwise_map.mpr (List.Pairwise.filter _ List.pairwise_lt_range')
  · obtain ⟨b, hb, rfl⟩ := List.mem_map.mp he
    have := List.mem_range'_1.mp (List.mem_filter.mp hb).1
    exact ⟨this.1, this.2, rfl⟩
  · exact ⟨_, List.mem_map_of_mem
      (List.mem_filter.mpr ⟨List.mem_range'_1.mpr ⟨h1, h2⟩, decide_eq_true hnr⟩), rfl⟩

theorem batchEntries_ok {cfg : Cfg} (hc : ChainSorted cfg.chain) {lo hi : Nat} (h : lo ≤ hi) :
    EntriesOK cfg.chain lo (hi + 1) (batchEntries cfg lo hi) := by
  obtain ⟨n, hn⟩ : ∃ n, hi + 1 = lo + n := Nat.exists_eq_add_of_le (Nat.le_succ_of_le h)
  rw [batchEntries, hn, Nat.add_sub_cancel_left]
  split
  · -- no non-removed log in the whole range: the marker names `hi`
    rename_i hemp
    rw [valid_eq_flat, List.isEmpty_iff, flat, List.flatMap_eq_nil_iff] at hemp
    have hhi : hi < lo + n := hn ▸ Nat.lt_succ_self hi
    exact ⟨List.pairwise_singleton _ _,
      fun e he => by
        rw [List.mem_singleton.mp he]
        exact ⟨h, hhi, (hemp hi (List.mem_range'_1.mpr ⟨h, hhi⟩)).symm⟩,
      fun b h1 h2 hnr => absurd (hemp b (List.mem_range'_1.mpr ⟨h1, h2⟩)) hnr⟩
  · rw [packLogs_valid hc]
    exact entriesOf_ok cfg.chain lo n

/-! ## fetchLogsInBatches -/

theorem fetchLoop_past {cfg : Cfg} {lo endB : Nat} (h : endB < lo) (fuel : Nat) (arm : Option Nat) :
    fetchLoop cfg fuel lo endB arm = ⟨[], arm, true, []⟩ := by
  cases fuel with
  | zero => rw [fetchLoop, decide_eq_true h]
  | succ f => rw [fetchLoop, if_pos h]

theorem fetchLoop_fail {cfg : Cfg} {lo endB : Nat} (h : lo ≤ endB) (fuel : Nat) :
    ∃ calls, fetchLoop cfg (fuel + 1) lo endB (some 0) = ⟨[], none, false, calls⟩ :=
  ⟨_, by rw [fetchLoop, if_neg (Nat.not_lt.mpr h)]; rfl⟩

/-- the upper end of a batch, as the Go loop clamps it -/
theorem clamp_succ {a e : Nat} (ha : 1 ≤ a) : (if a - 1 > e then e else a - 1) + 1 = min a (e + 1) := by
  obtain ⟨a, rfl⟩ := Nat.exists_eq_add_of_le' ha
  rw [Nat.add_sub_cancel, Nat.add_min_add_right, Nat.min_def]
  by_cases h : a ≤ e
  · rw [if_neg (Nat.not_lt.mpr h), if_pos h]
  · rw [if_pos (Nat.lt_of_not_le h), if_neg h]

theorem fetchLoop_step {cfg : Cfg} (hb : 1 ≤ cfg.batch) {lo endB : Nat} (h : lo ≤ endB) (fuel : Nat)
    {arm : Option Nat} (harm : arm ≠ some 0) :
    ∃ hi, lo ≤ hi ∧ hi + 1 = min (lo + cfg.batch) (endB + 1) ∧
      fetchLoop cfg (fuel + 1) lo endB arm =
        let r := fetchLoop cfg fuel (lo + cfg.batch) endB (arm.map (· - 1))
        ⟨batchEntries cfg lo hi ++ r.entries, r.arm, r.ok, ⟨lo, hi, true⟩ :: r.calls⟩ := by
  have hhi := clamp_succ (a := lo + cfg.batch) (e := endB) (Nat.le_trans hb (Nat.le_add_left _ _))
  have hlo : lo + 1 ≤ min (lo + cfg.batch) (endB + 1) :=
    Nat.le_min.mpr ⟨Nat.add_le_add_left hb lo, Nat.succ_le_succ h⟩
  rw [← hhi] at hlo
  refine ⟨_, Nat.le_of_succ_le_succ hlo, hhi, ?_⟩
  rw [fetchLoop, if_neg (Nat.not_lt.mpr h)]
  obtain _ | _ | k := arm
  · rfl
  · exact absurd rfl harm
  · rfl

/-- safety of a fetch of `[lo, endB]`: whatever fails, the entries produced cover exactly `[lo, reach)` for some
    `reach`, and the whole range when no error is reported -/
def Covers (cfg : Cfg) (lo endB : Nat) (r : FetchRes) : Prop :=
  ∃ reach, lo ≤ reach ∧ reach ≤ endB + 1 ∧ EntriesOK cfg.chain lo reach r.entries ∧
    (r.ok = true → reach = endB + 1)

theorem Covers.nil (cfg : Cfg) {lo endB : Nat} (h : lo ≤ endB + 1) {arm : Option Nat} {ok : Bool}
    {calls : List Call} (hok : ok = true → lo = endB + 1) : Covers cfg lo endB ⟨[], arm, ok, calls⟩ :=
  ⟨lo, Nat.le_refl _, h, EntriesOK.nil _ _, hok⟩

/-- the loop from `lo` covers `[lo, reach)`; stated with `min lo (endB + 1)` so that the induction also covers a
    loop entered past `endB`, which produces nothing -/
theorem fetchLoop_ok {cfg : Cfg} (hb : 1 ≤ cfg.batch) (hc : ChainSorted cfg.chain) (endB fuel lo : Nat)
    (arm : Option Nat) : Covers cfg (min lo (endB + 1)) endB (fetchLoop cfg fuel lo endB arm) := by
  induction fuel generalizing lo arm with
  | zero => exact Covers.nil cfg (Nat.min_le_right _ _) fun h => Nat.min_eq_right (of_decide_eq_true h)
  | succ fuel ih =>
    by_cases h : endB < lo
    · rw [fetchLoop_past h]
      exact Covers.nil cfg (Nat.min_le_right _ _) fun _ => Nat.min_eq_right h
    have h := Nat.le_of_not_lt h
    by_cases harm : arm = some 0
    · obtain ⟨_, heq⟩ := fetchLoop_fail (cfg := cfg) h fuel
      rw [harm, heq]
      exact Covers.nil cfg (Nat.min_le_right _ _) nofun
    · obtain ⟨hi, hlo, hhi, heq⟩ := fetchLoop_step hb h fuel harm
      obtain ⟨reach, hge, hle, hrest, hfull⟩ := ih (lo + cfg.batch) (arm.map (· - 1))
      rw [← hhi] at hge hrest
      rw [heq, Nat.min_eq_left (Nat.le_succ_of_le h)]
      exact ⟨reach, Nat.le_trans (Nat.le_succ_of_le hlo) hge, hle,
        (batchEntries_ok hc hlo).append hrest (Nat.le_succ_of_le hlo) hge, hfull⟩

/-- 1 while a fetch failure is armed: the failure it will cause is counted in advance (see `pot`) -/
def armed (a : Option Nat) : Nat := if a.isSome then 1 else 0

theorem armed_map (f : Nat → Nat) (a : Option Nat) : armed (a.map f) = armed a := by
  cases a <;> rfl

/-- fault accounting of a fetch: without error it arms nothing, and an error is the armed failure going off -/
structure ArmSpent (arm : Option Nat) (r : FetchRes) : Prop where
  quiet : r.ok = true → armed r.arm ≤ armed arm
  spent : r.ok = false → armed arm = 1 ∧ r.arm = none

theorem fetchLoop_arm {cfg : Cfg} (hb : 1 ≤ cfg.batch) (endB fuel lo : Nat) (arm : Option Nat)
    (h : endB + 1 ≤ fuel + lo) : ArmSpent arm (fetchLoop cfg fuel lo endB arm) := by
  induction fuel generalizing lo arm with
  | zero =>
    rw [fetchLoop_past (Nat.lt_of_succ_le (Nat.zero_add lo ▸ h))]
    exact ⟨fun _ => Nat.le_refl _, nofun⟩
  | succ fuel ih =>
    by_cases hlo : endB < lo
    · rw [fetchLoop_past hlo]
      exact ⟨fun _ => Nat.le_refl _, nofun⟩
    have hlo := Nat.le_of_not_lt hlo
    by_cases harm : arm = some 0
    · obtain ⟨_, heq⟩ := fetchLoop_fail (cfg := cfg) hlo fuel
      rw [harm, heq]
      exact ⟨nofun, fun _ => ⟨rfl, rfl⟩⟩
    · obtain ⟨hi, -, -, heq⟩ := fetchLoop_step hb hlo fuel harm
      -- the fuel is the number of blocks still to fetch: a turn uses one unit and moves on by at least one block
      have hfuel : fuel + 1 + lo ≤ fuel + (lo + cfg.batch) := by
        rw [Nat.add_assoc, Nat.add_comm 1 lo]
        exact Nat.add_le_add_left (Nat.add_le_add_left hb lo) fuel
      have ih := ih (lo + cfg.batch) (arm.map (· - 1)) (Nat.le_trans h hfuel)
      rw [heq]
      exact ⟨armed_map _ arm ▸ ih.quiet, armed_map _ arm ▸ ih.spent⟩

theorem fetchBatches_eq (cfg : Cfg) {lo endB : Nat} (h : lo ≤ endB) (arm : Option Nat) :
    fetchBatches cfg lo endB arm = fetchLoop cfg (endB + 1 - lo) lo endB arm :=
  if_neg (Nat.not_lt.mpr h)

theorem fetchBatches_ok {cfg : Cfg} (hb : 1 ≤ cfg.batch) (hc : ChainSorted cfg.chain) {lo endB : Nat}
    (h : lo ≤ endB) (arm : Option Nat) : Covers cfg lo endB (fetchBatches cfg lo endB arm) := by
  have := fetchLoop_ok hb hc endB (endB + 1 - lo) lo arm
  rwa [Nat.min_eq_left (Nat.le_succ_of_le h), ← fetchBatches_eq cfg h] at this

theorem fetchBatches_arm {cfg : Cfg} (hb : 1 ≤ cfg.batch) {lo endB : Nat} (h : lo ≤ endB) (arm : Option Nat) :
    ArmSpent arm (fetchBatches cfg lo endB arm) := by
  rw [fetchBatches_eq cfg h]
  exact fetchLoop_arm hb endB _ lo arm (Nat.le_of_eq (Nat.sub_add_cancel (Nat.le_succ_of_le h)).symm)

theorem fetchBatches_none_ok {cfg : Cfg} (hb : 1 ≤ cfg.batch) {lo endB : Nat} (h : lo ≤ endB) :
    (fetchBatches cfg lo endB none).ok = true := by
  cases hok : (fetchBatches cfg lo endB none).ok with
  | true => rfl
  | false => exact absurd ((fetchBatches_arm hb h none).spent hok).1 nofun

/-! ## the error path of StreamLogs -/

/-- what the error path leaves alone: what was delivered, the cursor and the armed fetch failure -/
structure Kept (s t : St) : Prop where
  out : t.out = s.out
  cursor : t.cursor = s.cursor
  armFetch : t.armFetch = s.armFetch

theorem Kept.trans {s t u : St} (h : Kept s t) (h' : Kept t u) : Kept s u :=
  ⟨h'.out.trans h.out, h'.cursor.trans h.cursor, h'.armFetch.trans h.armFetch⟩

theorem afterError_kept (s : St) : Kept s (afterError s) := by
  unfold afterError
  dsimp only
  by_cases ht : s.tries + 1 > maxTries
  · rw [if_pos ht]; exact ⟨rfl, rfl, rfl⟩
  · rw [if_neg ht]; exact ⟨rfl, rfl, rfl⟩

theorem resub_kept : ∀ (k : Nat) (s : St), Kept s (resub k s)
  | 0, _ => ⟨rfl, rfl, rfl⟩
  | k + 1, s => by
    rw [resub]
    by_cases hab : s.aborted = true
    · rw [if_pos hab]; exact ⟨rfl, rfl, rfl⟩
    · rw [if_neg hab]
      exact (⟨rfl, rfl, rfl⟩ : Kept s { s with armSub := k }).trans ((afterError_kept _).trans (resub_kept k _))

theorem failPath_kept (s : St) : Kept s (failPath s) :=
  (afterError_kept s).trans (resub_kept _ _)

theorem failPath_armFetch (s : St) : (failPath s).armFetch = s.armFetch := (failPath_kept s).armFetch

/-! ## the transitions of `step` -/

def deliver (s : St) (es : List BlockLogs) (c : Nat) (a : Option Nat) : St :=
  { s with out := s.out ++ es, cursor := c, armFetch := a }

/-- the state after a head whose fetch of `[s.cursor, toB]` came back as `r`: every entry is forwarded; without an
    error the cursor goes to `toB + 1`, with one it stops just past the last forwarded entry and the error path runs -/
def afterFetch (s : St) (toB : Nat) (r : FetchRes) : St :=
  if r.ok then deliver s r.entries (toB + 1) r.arm
  else failPath (deliver s r.entries (cursorAfter s.cursor r.entries) r.arm)

theorem step_aborted (cfg : Cfg) {s : St} (h : s.aborted = true) (op : Op) : (step cfg s op).1 = s := by
  cases op <;> exact congrArg Prod.fst (if_pos h)

theorem step_alive (cfg : Cfg) {s : St} (h : s.aborted = false) (op : Op) :
    (step cfg s op).1 =
      match op with
      | .head n =>
        if cfg.follow ≤ n ∧ s.cursor ≤ n - cfg.follow then
          afterFetch s (n - cfg.follow) (fetchBatches cfg s.cursor (n - cfg.follow) s.armFetch)
        else s
      | .subErr | .connDrop => failPath s
      | .fetchErr k => { s with armFetch := some k }
      | .subFail => { s with armSub := s.armSub + 1 } := by
  have hna : ¬ s.aborted = true := by rw [h]; exact Bool.false_ne_true
  cases op with
  | head n =>
    rw [step, if_neg hna]
    dsimp only
    by_cases h1 : n < cfg.follow
    · rw [if_pos h1, if_neg fun h => Nat.not_le.mpr h1 h.1]
    rw [if_neg h1]
    by_cases h2 : n - cfg.follow < s.cursor
    · rw [if_pos h2, if_neg fun h => Nat.not_le.mpr h2 h.2]
    rw [if_neg h2, if_pos (And.intro (Nat.le_of_not_lt h1) (Nat.le_of_not_lt h2))]
    exact apply_ite Prod.fst _ _ _
  | _ => exact congrArg Prod.fst (if_neg hna)

/-! ## the cursor invariant -/

/-- "everything in `[start, cursor)` has been delivered exactly once, nothing at or above the cursor" -/
structure Inv (cfg : Cfg) (start : Nat) (s : St) : Prop where
  ok : EntriesOK cfg.chain start s.cursor s.out
  ge : start ≤ s.cursor

theorem inv_init (cfg : Cfg) (start : Nat) : Inv cfg start (init start) :=
  ⟨EntriesOK.nil _ _, Nat.le_refl _⟩

theorem Inv.kept {cfg : Cfg} {start : Nat} {s t : St} (h : Inv cfg start s) (k : Kept s t) : Inv cfg start t :=
  ⟨k.out ▸ k.cursor ▸ h.ok, k.cursor ▸ h.ge⟩

theorem Inv.deliver {cfg : Cfg} {start : Nat} {s : St} (h : Inv cfg start s) {es : List BlockLogs} {c : Nat}
    (hes : EntriesOK cfg.chain s.cursor c es) (hc : s.cursor ≤ c) (a : Option Nat) :
    Inv cfg start (deliver s es c a) :=
  ⟨h.ok.append hes h.ge hc, Nat.le_trans h.ge hc⟩

theorem Inv.afterFetch {cfg : Cfg} {start : Nat} {s : St} (h : Inv cfg start s) {toB : Nat} {r : FetchRes}
    (hr : Covers cfg s.cursor toB r) :
    Inv cfg start (afterFetch s toB r) ∧ s.cursor ≤ (afterFetch s toB r).cursor := by
  obtain ⟨reach, hge, -, hcov, hfull⟩ := hr
  unfold LogStream.afterFetch
  by_cases hok : r.ok = true
  · rw [if_pos hok]
    rw [hfull hok] at hge hcov
    exact ⟨h.deliver hcov hge _, hge⟩
  · rw [if_neg hok]
    -- what was forwarded before the error covers the blocks up to the cursor it left
    obtain ⟨hes, hle, -⟩ := hcov.shrink hge
    refine ⟨(h.deliver hes hle _).kept (failPath_kept _), ?_⟩
    rw [(failPath_kept _).cursor]
    exact hle

theorem inv_step {cfg : Cfg} (hb : 1 ≤ cfg.batch) (hc : ChainSorted cfg.chain) {start : Nat} {s : St}
    (h : Inv cfg start s) (op : Op) :
    Inv cfg start (step cfg s op).1 ∧ s.cursor ≤ (step cfg s op).1.cursor := by
  cases hab : s.aborted with
  | true => rw [step_aborted cfg hab]; exact ⟨h, Nat.le_refl _⟩
  | false =>
    rw [step_alive cfg hab]
    cases op with
    | subErr | connDrop => exact ⟨h.kept (failPath_kept s), Nat.le_of_eq (failPath_kept s).cursor.symm⟩
    | fetchErr k | subFail => exact ⟨⟨h.ok, h.ge⟩, Nat.le_refl _⟩
    | head n =>
      dsimp only
      by_cases hn : cfg.follow ≤ n ∧ s.cursor ≤ n - cfg.follow
      case neg => rw [if_neg hn]; exact ⟨h, Nat.le_refl _⟩
      rw [if_pos hn]
      exact h.afterFetch (fetchBatches_ok hb hc hn.2 s.armFetch)

theorem run_append (cfg : Cfg) (s : St) (a b : List Op) : run cfg s (a ++ b) = run cfg (run cfg s a) b :=
  List.foldl_append

theorem run_cons (cfg : Cfg) (s : St) (o : Op) (b : List Op) :
    run cfg s (o :: b) = run cfg (step cfg s o).1 b := rfl

theorem inv_run {cfg : Cfg} (hb : 1 ≤ cfg.batch) (hc : ChainSorted cfg.chain) {start : Nat} :
    ∀ (ops : List Op) {s : St}, Inv cfg start s →
      Inv cfg start (run cfg s ops) ∧ s.cursor ≤ (run cfg s ops).cursor
  | [], _, h => ⟨h, Nat.le_refl _⟩
  | o :: ops, _, h =>
    have h1 := inv_step hb hc h o
    have h2 := inv_run hb hc ops h1.1
    ⟨h2.1, Nat.le_trans h1.2 h2.2⟩

theorem inv_streamLogs {cfg : Cfg} (hb : 1 ≤ cfg.batch) (hc : ChainSorted cfg.chain) (start : Nat) (ops : List Op) :
    Inv cfg start (streamLogs cfg start ops) :=
  (inv_run hb hc ops (inv_init cfg start)).1

theorem step_head_reaches {cfg : Cfg} (hb : 1 ≤ cfg.batch) {s : St} {n : Nat}
    (hab : s.aborted = false) (harm : s.armFetch = none) (hfol : cfg.follow ≤ n) :
    n - cfg.follow < (step cfg s (.head n)).1.cursor := by
  rw [step_alive cfg hab]
  dsimp only
  by_cases hn : cfg.follow ≤ n ∧ s.cursor ≤ n - cfg.follow
  · rw [if_pos hn, harm, afterFetch, if_pos (fetchBatches_none_ok hb hn.2)]
    exact Nat.lt_succ_self _
  · rw [if_neg hn]
    exact Nat.lt_of_not_le fun h => hn ⟨hfol, h⟩

/-! ## when StreamLogs gives up -/

def isFault : Op → Nat
  | .head _ => 0
  | _ => 1

def faults (ops : List Op) : Nat := (ops.map isFault).sum

/-- potential: failures counted so far plus failures still armed; `maxTries + 1` once the client gave up.
    No step raises it by more than the event is a fault. -/
def pot (s : St) : Nat := if s.aborted then maxTries + 1 else s.tries + s.armSub + armed s.armFetch

theorem pot_alive {s : St} (h : s.aborted = false) : pot s = s.tries + s.armSub + armed s.armFetch := by
  rw [pot, h]; rfl

theorem pot_afterError {s : St} (hab : s.aborted = false) :
    pot (afterError s) ≤ pot s + 1 ∧ (afterError s).armSub = s.armSub := by
  -- the bound as `(tries + 1) + armSub + armed armFetch`: the error path raises `tries` by one, resets it, or gives up
  rw [pot_alive hab, Nat.add_right_comm _ _ 1, Nat.add_right_comm _ _ 1]
  unfold afterError
  dsimp only
  by_cases ht : s.tries + 1 > maxTries
  · rw [if_pos ht]
    exact ⟨Nat.le_trans ht (Nat.le_trans (Nat.le_add_right _ _) (Nat.le_add_right _ _)), rfl⟩
  · rw [if_neg ht,
      pot_alive (s := { s with tries := if s.cursor > s.callStart then 0 else s.tries + 1, callStart := s.cursor }) hab]
    refine ⟨Nat.add_le_add_right (Nat.add_le_add_right ?_ _) _, rfl⟩
    -- progress resets the counter
    split
    · exact Nat.zero_le _
    · exact Nat.le_refl _

/-- every armed subscribe failure is paid for in advance by `armSub` -/
theorem pot_resub : ∀ (k : Nat) (s : St), s.armSub = k → pot (resub k s) ≤ pot s
  | 0, s, hk => by
    rw [resub, ← hk]
    exact Nat.le_refl _
  | k + 1, s, hk => by
    rw [resub]
    by_cases hab : s.aborted = true
    · rw [if_pos hab]
      exact Nat.le_refl _
    · rw [if_neg hab]
      have hab := Bool.eq_false_iff.mpr hab
      have ⟨h1, h1'⟩ := pot_afterError (s := { s with armSub := k }) hab
      rw [pot_alive (s := { s with armSub := k }) hab] at h1
      rw [pot_alive hab, hk]
      exact Nat.le_trans (pot_resub k _ h1') (Nat.le_trans h1 (Nat.le_of_eq (Nat.add_right_comm _ _ _)))

theorem pot_failPath {s : St} (hab : s.aborted = false) : pot (failPath s) ≤ pot s + 1 :=
  Nat.le_trans (pot_resub _ _ rfl) (pot_afterError hab).1

theorem pot_afterFetch {s : St} (hab : s.aborted = false) (toB : Nat) {r : FetchRes} (hr : ArmSpent s.armFetch r) :
    pot (afterFetch s toB r) ≤ pot s := by
  unfold afterFetch
  cases hok : r.ok with
  | true =>
    -- a fetch without error arms nothing
    rw [if_pos rfl, pot_alive hab, pot_alive (s := deliver s _ _ _) hab]
    exact Nat.add_le_add_left (hr.quiet hok) _
  | false =>
    -- the error is the armed failure going off: disarming it pays for the failure the error path counts
    obtain ⟨hwas, hnow⟩ := hr.spent hok
    rw [if_neg Bool.false_ne_true]
    refine Nat.le_trans (pot_failPath (s := deliver s _ _ _) hab) ?_
    rw [pot_alive hab, pot_alive (s := deliver s _ _ _) hab, hwas]
    show _ + armed r.arm + 1 ≤ _
    rw [hnow]
    exact Nat.le_refl _

theorem pot_step {cfg : Cfg} (hb : 1 ≤ cfg.batch) (s : St) (op : Op) :
    pot (step cfg s op).1 ≤ pot s + isFault op := by
  cases hab : s.aborted with
  | true => rw [step_aborted cfg hab]; exact Nat.le_add_right _ _
  | false =>
    rw [step_alive cfg hab]
    cases op with
    | subErr | connDrop => exact pot_failPath hab
    | fetchErr k =>
      rw [pot_alive hab, pot_alive (s := { s with armFetch := some k }) hab]
      exact Nat.add_le_add_left (Nat.le_add_left _ _) _
    | subFail =>
      rw [pot_alive hab, pot_alive (s := { s with armSub := s.armSub + 1 }) hab]
      exact Nat.le_of_eq (Nat.add_right_comm (s.tries + s.armSub) 1 _)
    | head n =>
      dsimp only
      by_cases hn : cfg.follow ≤ n ∧ s.cursor ≤ n - cfg.follow
      case neg => rw [if_neg hn]; exact Nat.le_refl _
      rw [if_pos hn]
      exact pot_afterFetch hab _ (fetchBatches_arm hb hn.2 s.armFetch)

theorem pot_run (cfg : Cfg) (hb : 1 ≤ cfg.batch) :
    ∀ (ops : List Op) (s : St), pot (run cfg s ops) ≤ pot s + faults ops
  | [], s => Nat.le_refl _
  | o :: ops, s => by
    have := Nat.le_trans (pot_run cfg hb ops _) (Nat.add_le_add_right (pot_step hb s o) _)
    rwa [Nat.add_assoc] at this

theorem no_abort_of_faults_le_two {cfg : Cfg} (hb : 1 ≤ cfg.batch) (start : Nat) (ops : List Op)
    (h : faults ops ≤ 2) : (streamLogs cfg start ops).aborted = false := by
  have hp : pot (streamLogs cfg start ops) ≤ 0 + faults ops := pot_run cfg hb ops (init start)
  cases hab : (streamLogs cfg start ops).aborted with
  | false => rfl
  | true =>
    rw [pot, hab, if_pos rfl, Nat.zero_add] at hp
    exact absurd (Nat.le_trans hp h) (by decide)

/-! ## the handler's check, historical fetch and the hand-over -/

theorem handleStream_incr : ∀ (es : List BlockLogs) (db ret : Nat),
    (es.map (·.block)).Pairwise (· < ·) → (∀ e ∈ es, db < e.block) →
    handleStream db ret es = some (lastAfter db es, lastAfter ret es)
  | [], db, ret, _, _ => rfl
  | e :: es, db, ret, hp, hdb => by
    obtain ⟨hhead, htail⟩ := List.pairwise_cons.mp (List.map_cons ▸ hp)
    rw [handleStream, if_neg (Nat.not_le.mpr (hdb e List.mem_cons_self)),
      handleStream_incr es e.block e.block htail fun x hx => hhead x.block (List.mem_map_of_mem hx)]
    rfl

theorem EntriesOK.handler_accepts {chain : Nat → List RawLog} {lo hi : Nat} {es : List BlockLogs}
    (h : EntriesOK chain lo hi es) {db : Nat} (hdb : db < lo) (ret : Nat) : handleStream db ret es ≠ none := by
  rw [handleStream_incr es db ret h.incr fun e he => Nat.lt_of_lt_of_le hdb (h.ge he)]
  nofun

theorem handleStream_last : ∀ (es : List BlockLogs) (db ret d l : Nat),
    handleStream db ret es = some (d, l) → l = lastAfter ret es
  | [], db, ret, d, l, h => (Prod.mk.inj (Option.some.inj h)).2.symm
  | e :: es, db, ret, d, l, h => by
    rw [handleStream] at h
    by_cases hd : db ≥ e.block
    · rw [if_pos hd] at h; cases h
    · rw [if_neg hd] at h
      exact handleStream_last es _ _ d l h

/-- a guard that did not stop an `Except` computation was passed -/
theorem ok_of_ite_error {ε α : Type} {c : Prop} [Decidable c] {e : ε} {x : Except ε α} {v : α}
    (h : (if c then .error e else x) = .ok v) : ¬ c ∧ x = .ok v := by
  by_cases hc : c
  · rw [if_pos hc] at h; cases h
  · rw [if_neg hc] at h; exact ⟨hc, h⟩

/-- the tests a successful `SyncHistory` went through -/
theorem syncHistory_ok_cases {cfg : Cfg} {db fromB : Nat} {cur arm : Option Nat} {hist : List BlockLogs} {last : Nat}
    (h : syncHistory cfg db fromB cur arm = .ok (hist, last)) :
    ∃ H d, cur = some H ∧ cfg.follow ≤ H ∧ fromB ≤ H - cfg.follow ∧
      (fetchBatches cfg fromB (H - cfg.follow) arm).ok = true ∧
      hist = (fetchBatches cfg fromB (H - cfg.follow) arm).entries ∧
      handleStream db 0 hist = some (d, last) ∧ last ≠ 0 ∧ fromB ≤ last := by
  unfold syncHistory at h
  cases hf : fetchHistorical cfg fromB cur arm with
  | error e => rw [hf] at h; cases h
  | ok r =>
    rw [hf] at h
    dsimp only at h
    cases hh : handleStream db 0 r.entries with
    | none => rw [hh] at h; cases h
    | some p =>
      rw [hh] at h
      obtain ⟨hzero, h⟩ := ok_of_ite_error h
      obtain ⟨hreplay, h⟩ := ok_of_ite_error h
      obtain ⟨hfetch, h⟩ := ok_of_ite_error h
      cases h
      cases cur with
      | none => cases hf
      | some H =>
        -- `fetchHistorical` at `some H` is its two tests around `fetchBatches`, by unfolding
        obtain ⟨hfol, hf⟩ := ok_of_ite_error (hf : (if H < cfg.follow then _ else _) = _)
        obtain ⟨hrange, hf⟩ := ok_of_ite_error hf
        cases hf
        exact ⟨H, p.1, rfl, Nat.le_of_not_lt hfol, Nat.le_of_not_lt hrange,
          eq_true_of_ne_false (Bool.not_eq_true' _ ▸ hfetch), rfl, hh, hzero, Nat.le_of_not_lt hreplay⟩

/-- a successful `SyncHistory` handed the handler exactly the blocks of `[fromB, H − follow]`, and its
    `lastProcessedBlock` is the last block among them that has an entry -/
theorem syncHistory_ok {cfg : Cfg} (hb : 1 ≤ cfg.batch) (hc : ChainSorted cfg.chain)
    {db fromB : Nat} {cur arm : Option Nat} {hist : List BlockLogs} {last : Nat}
    (h : syncHistory cfg db fromB cur arm = .ok (hist, last)) :
    ∃ H, cur = some H ∧ cfg.follow ≤ H ∧ fromB ≤ last ∧ last ≤ H - cfg.follow ∧
      EntriesOK cfg.chain fromB (H - cfg.follow + 1) hist ∧ EntriesOK cfg.chain fromB (last + 1) hist := by
  obtain ⟨H, d, rfl, hfol, hrange, hok, rfl, hh, hzero, hreplay⟩ := syncHistory_ok_cases h
  obtain ⟨reach, hge, -, hcov, hfull⟩ := fetchBatches_ok hb hc hrange arm
  rw [hfull hok] at hge hcov
  have hl := handleStream_last _ _ _ _ _ hh
  -- `last ≠ 0` is the last delivered block number, so something was delivered and the cursor after it is `last + 1`
  have hne : (fetchBatches cfg fromB (H - cfg.follow) arm).entries ≠ [] := fun he => hzero (by rw [hl, he]; rfl)
  obtain ⟨hes, -, hle⟩ := hcov.shrink hge
  rw [cursorAfter_eq_lastAfter hne fromB 0, ← hl] at hes hle
  exact ⟨H, rfl, hfol, hreplay, Nat.le_of_succ_le_succ hle, hcov, hes⟩

end Ssv.LogStream
