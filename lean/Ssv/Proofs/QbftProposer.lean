/-
Tie of the model's round-robin leader arithmetic to the kernel TRANSLATED from ssv-spec `RoundRobinProposer` on every run
(Ssv/Gen/Kernels.lean): they agree wherever the 64-bit additions do not overflow; the model additionally wraps
`firstRoundIndex + int(round) - 1` at 64 bits like Go does (the translated kernel computes in unbounded integers).
Core Lean only.
-/
import Ssv.Model.Qbft.Proposer
import Ssv.Gen.Kernels

namespace Ssv.Qbft

theorem toInt64_eq_gen (x : Nat) (h : x < two64) : toInt64 x = Gen.toInt64 (x : Int) := by
  unfold toInt64 Gen.toInt64 two64 two63 at *
  have : x % 18446744073709551616 = x := Nat.mod_eq_of_lt h
  simp only [this]
  split <;> split <;> omega

theorem wrap64_of_range (i : Int) (h0 : -9223372036854775808 ≤ i) (h1 : i < 9223372036854775808) : wrap64 i = i := by
  unfold wrap64 toInt64 two64 two63
  dsimp only
  split <;> omega

/-- for heights and rounds below 2^64 whose signed sum does not leave the int64 range the model's index is the translated kernel -/
theorem proposerIndex_eq_kernel (n height round : Nat) (hn : 0 < n) (hh : height < two64) (hr : round < two64)
    (hlo : -9223372036854775808 + (n : Int) + 1 ≤ toInt64 round) (hhi : toInt64 round + (n : Int) < 9223372036854775808) :
    proposerIndex n height round = Gen.k_RoundRobinProposerIndex (round : Int) (height : Int) (n : Int) := by
  unfold proposerIndex Gen.k_RoundRobinProposerIndex firstHeight firstRound
  rw [← toInt64_eq_gen height hh, ← toInt64_eq_gen round hr, show toInt64 Gen.qbft_FirstRound = 1 by decide]
  have hnpos : (0 : Int) < n := by omega
  have hcond : decide ((height : Int) ≠ 0) = (height != Gen.qbft_FirstHeight) := by
    by_cases hz : height = 0 <;> simp [hz, Gen.qbft_FirstHeight]
  dsimp only
  rw [hcond, Int.zero_add]
  -- both sides add the round to the same first-round index, which lies strictly between -n and n, so nothing wraps
  generalize hf : (if (height != Gen.qbft_FirstHeight) = true then (toInt64 height).tmod n else 0) = first
  have hb : -(n : Int) < first ∧ first < n := by
    subst hf
    split
    · exact ⟨by have := Int.lt_tmod_of_pos (toInt64 height) hnpos; omega, Int.tmod_lt_of_pos _ hnpos⟩
    · omega
  rw [wrap64_of_range (first + toInt64 round) (by omega) (by omega), wrap64_of_range _ (by omega) (by omega)]

end Ssv.Qbft
