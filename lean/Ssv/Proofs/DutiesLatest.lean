/- "Only the most recently fetched assignment is dispatched": every run, any handler, no assumption on the events. -/
import Ssv.Proofs.DutiesSafety

namespace Ssv.Duties

/-- fold of the only-latest monitor over a list of atoms -/
def lrun (k : Kind) (n : Net) (m : LMon) (as : List Atom) : LMon := as.foldl (LMon.step k n) m

theorem lrun_append (k : Kind) (n : Net) (m : LMon) (a b : List Atom) :
    lrun k n m (a ++ b) = lrun k n (lrun k n m a) b := List.foldl_append ..
@[simp] theorem lrun_nil (k : Kind) (n : Net) (m : LMon) : lrun k n m [] = m := rfl
@[simp] theorem lrun_cons (k : Kind) (n : Net) (m : LMon) (a : Atom) (l : List Atom) :
    lrun k n m (a :: l) = lrun k n (LMon.step k n m a) l := rfl

/-- a successful fetch for `p` makes its answer the latest assignment of `p` -/
theorem LMon.step_fetch_ok_latest (k : Kind) (n : Net) (m : LMon) (p arg : Nat) (c : List Nat) (ds : List Duty) (e : Nat) :
    (LMon.step k n m (.fetch p arg (.ok c ds))).latest e = if e = p then some (assigned k c ds) else m.latest e := rfl

/-- every in-committee descriptor of the store belongs to the latest successfully fetched assignment of its
    epoch (period) -/
def SubL (k : Kind) (s : Store) (m : LMon) : Prop :=
  ∀ e ∈ s, e.inC = true →
    ∃ A, m.latest e.ep = some A ∧ ∃ d ∈ A, d.vidx = e.vidx ∧ d.tag = e.tag ∧ (isSync k = true ∨ d.slot = e.slot)

structure LInv (k : Kind) (s : Store) (m : LMon) : Prop where
  sub : SubL k s m
  ok : m.ok = true

/-- the exec atom of a tick passes the monitor: a dispatched duty comes from an in-committee descriptor of the
    tick's epoch (period), which `SubL` finds in the latest assignment -/
theorem LInv.exec {k : Kind} {s : Store} {m : LMon} (n : Net) (slot clock : Nat) (h : LInv k s m) :
    LInv k s (LMon.step k n m (execAtom k n slot clock s)) := by
  refine ⟨h.sub, ?_⟩
  simp only [execAtom, LMon.step, h.ok, Bool.true_and, List.all_eq_true]
  intro x hx
  obtain ⟨e, he, hsel, rfl⟩ := mem_execDuties.mp hx
  obtain ⟨hep, hc, hs, _⟩ := sel_iff.mp hsel
  obtain ⟨A, hA, d, hd, hdv, hdt, hds⟩ := h.sub e he hc
  rw [← hep, hA]
  simp only [List.any_eq_true, sameDuty, Bool.and_eq_true, beq_iff_eq, Bool.or_eq_true]
  refine ⟨d, hd, ⟨hdv.symm, hdt.symm⟩, ?_⟩
  rcases hs with hs | hs
  · exact Or.inl hs
  · exact hds.imp id fun hds => (hs.symm.trans hds.symm)

/-- a fetch replaces the epoch's (period's) descriptors by the answer, which becomes the latest assignment -/
theorem LInv.fetch {k : Kind} {s : Store} {m : LMon} (n : Net) (ep arg : Nat) (r : FetchRes) (h : LInv k s m) :
    LInv k (fetchStore k s ep r) (LMon.step k n m (.fetch ep arg r)) := by
  cases r with
  | noIdx => exact h
  | fail => exact h
  | ok c ds =>
    refine ⟨fun e he hc => ?_, h.ok⟩
    rw [LMon.step_fetch_ok_latest]
    rcases mem_addAll_inv _ _ he with h1 | ⟨d, hd, rfl⟩
    · obtain ⟨h2, hne⟩ := mem_reset.mp h1
      rw [if_neg hne]
      exact h.sub e h2 hc
    · refine ⟨assigned k c ds, if_pos rfl, d, (mem_assigned ep).mpr ⟨hd, hc⟩, rfl, rfl, ?_⟩
      cases hk : isSync k
      · refine Or.inr ?_
        show d.slot = (if isSync k = true then 0 else d.slot)
        rw [hk]; rfl
      · exact Or.inl rfl

theorem Fetches.linv {k : Kind} {s s' : Store} {o : List Atom} (h : Fetches k s s' o) (n : Net) {m : LMon}
    (hi : LInv k s m) : LInv k s' (lrun k n m o) := by
  induction h with
  | refl => exact hi
  | reset ep _ ih => exact ⟨fun e he => ih.sub e (mem_reset.mp he).1, ih.ok⟩
  | fetch ep arg r _ ih =>
    rw [lrun_append]
    exact ih.fetch n ep arg r

theorem step_linv (k : Kind) (n : Net) {rs : RState} {m : LMon} (e : Event) (h : LInv k rs.st.store m) :
    LInv k (step k n rs e).1.st.store (lrun k n m (step k n rs e).2) := by
  cases e with
  | tick slot clock r1 r2 =>
    obtain ⟨s1, o1, o2, h1, h2, hout⟩ := step_tick_trace k n rs slot clock r1 r2
    rw [hout, lrun_append, lrun_cons]
    exact h2.linv n ((h1.linv n h).exec n slot clock)
  | reorg s p c =>
    obtain ⟨h1, hout⟩ := step_reorg_trace k n rs s p c
    rw [hout]
    exact h1.linv n h
  | indices c =>
    obtain ⟨h1, hout⟩ := step_indices_trace k n rs c
    rw [hout]
    exact h1.linv n h

theorem onlyLatest_runFrom (k : Kind) (n : Net) : ∀ (evs : List Event) (rs : RState) (m : LMon), LInv k rs.st.store m →
    (lrun k n m (runFrom k n rs evs)).ok = true := by
  intro evs
  induction evs with
  | nil => intro rs m h; exact h.ok
  | cons e es ih =>
    intro rs m h
    simp only [runFrom, lrun_append]
    exact ih _ _ (step_linv k n e h)

theorem onlyLatest_run (k : Kind) (n : Net) (clock0 : Nat) (r0 : FetchRes) (evs : List Event) :
    onlyLatestOK k n (run k n clock0 r0 evs) = true := by
  unfold onlyLatestOK run
  rw [List.foldl_append]
  exact onlyLatest_runFrom k n evs _ _ ((init_fetches k n clock0 r0).linv n ⟨fun _ he => (nomatch he), rfl⟩)

end Ssv.Duties
