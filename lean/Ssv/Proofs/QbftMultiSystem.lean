/-
C01 all heights — the invariant `InvM` of the multi-height system: every controller's container is strictly descending with
at most two heights, and for EVERY height the projected ghost trace satisfies Layer A's rules. Every enabled action is one
`MStep`: one correct operator's controller acts at one height.
-/
import Ssv.Proofs.QbftNodeRules2
import Ssv.Proofs.QbftMultiCtrl2

namespace Ssv.Qbft.M
open Ssv.Qbft Ssv.Qbft.B

/-- side conditions on the parameters, those of `B.Params.Valid`: at most f Byzantine members; the committee size fits a Go
    `int` (so that the translated quorum kernel does not wrap) -/
structure Params.Valid (P : Params) : Prop where
  byz : P.byz.length ≤ P.f
  size : P.f < 2 ^ 61

theorem Params.Valid.at {P : Params} (hP : P.Valid) (h : Nat) : (P.at h).Valid := ⟨hP.byz, hP.size⟩

theorem cfg_at (P : Params) (h : Nat) (i : Op P) : (P.at h).cfg i = P.cfg i := rfl

theorem capacity_two (P : Params) (i : Op P) : (P.cfg i).capacity = 2 := rfl

theorem proj_append {N : Type} (h : Nat) (T T' : List (Nat × Ev N)) : proj h (T ++ T') = proj h T ++ proj h T' := by
  simp [proj, List.filter_append]

theorem proj_cons {N : Type} (h h0 : Nat) (e : Ev N) (T : List (Nat × Ev N)) :
    proj h ((h0, e) :: T) = if h0 = h then e :: proj h T else proj h T := by
  unfold proj
  rw [List.filter_cons]
  by_cases hh : h0 = h
  · rw [if_pos hh, if_pos (beq_iff_eq.2 hh)]; rfl
  · rw [if_neg hh, if_neg (fun x => hh (beq_iff_eq.1 x))]

theorem proj_map {N : Type} (h h0 : Nat) (evs : List (Ev N)) :
    proj h (evs.map (fun e => (h0, e))) = if h = h0 then evs else [] := by
  induction evs with
  | nil => split <;> rfl
  | cons e rest ih =>
    rw [List.map_cons, proj_cons, ih]
    by_cases hh : h = h0
    · rw [if_pos hh.symm, if_pos hh, if_pos hh]
    · rw [if_neg (fun x => hh x.symm), if_neg hh, if_neg hh]

theorem mem_proj {N : Type} {h : Nat} {T : List (Nat × Ev N)} {e : Ev N} : e ∈ proj h T ↔ (h, e) ∈ T := by
  simp only [proj, List.mem_map, List.mem_filter]
  constructor
  · rintro ⟨⟨a, b⟩, ⟨hm, ha⟩, rfl⟩
    have : a = h := by simpa using ha
    subst this; exact hm
  · intro hm
    exact ⟨(h, e), ⟨hm, by simp⟩, rfl⟩

/-- the ghost trace of height `h`, typed over the system's operator type -/
def trP (P : Params) (h : Nat) (T : List (Nat × Ev (Op P))) : List (Ev (Op P)) := proj h T

theorem trP_step (P : Params) (h : Nat) (T : List (Nat × Ev (Op P))) (h0 : Nat) (evs : List (Ev (Op P))) :
    trP P h (T ++ evs.map (fun e => (h0, e))) = trP P h T ++ (if h = h0 then evs else []) := by
  unfold trP
  rw [proj_append, proj_map]

theorem mem_trP {P : Params} {h : Nat} {T : List (Nat × Ev (Op P))} {e : Ev (Op P)} : e ∈ trP P h T ↔ (h, e) ∈ T := mem_proj

/-- log invariant: every logged broadcast is reflected in the trace of its height -/
def LogInv (P : Params) (log : List Msg) (T : List (Nat × Ev (Op P))) : Prop :=
  ∀ m ∈ log, ∀ h, m.height = h → LogOK (P.at h) (trP P h T) m

theorem backedT_of {P : Params} {log : List Msg} {T : List (Nat × Ev (Op P))} (hlog : LogInv P log T) {b : Base}
    (hb : B.backed (P.at 0) log b = true) (h : Nat) : BackedT (P.at h) (trP P h T) b := by
  intro hh hid hs j hj hmem
  -- `M.authentic` is `B.authentic (P.at 0)`; `backed` ignores the height of the parameters, so `hb` reads at `P.at h` too.
  -- `j` broadcast a message `m'` with the same signed content; the log invariant of `m'` is about `j` and the height `h`
  obtain ⟨m', hm', esig, etype, eheight, eround, eroot, edr⟩ :=
    backed_get (P := P.at h) hb hs hid (opId j) hmem ((honestId_iff (P.at h) j).2 hj)
  obtain ⟨i, _, hsig, _, hP, hK, hRC⟩ := hlog m' hm' h (eheight.trans hh)
  cases opId_inj (P := P.at h) (List.cons.inj (hsig.symm.trans esig)).1
  rw [← etype, ← eround, ← eroot, ← edr]
  exact ⟨hP, hK, hRC⟩

theorem authT_of {P : Params} {log : List Msg} {T : List (Nat × Ev (Op P))} (hlog : LogInv P log T) {m : Msg}
    (ha : authentic P log m = true) (h : Nat) (hid : m.ident = ownIdent) : AuthT (P.at h) (trP P h T) m :=
  .of_backed (P' := P.at 0) (fun _ hb => backedT_of hlog hb h) ha hid

/-- state of operator i at height h: the node invariant of the stored instance (no instance: no events yet), or no instance
    and the height is blocked for good -/
def NodeSt (P : B.Params) (T : List (Ev (B.Op P))) (i : B.Op P) (c : Ctrl) (h : Nat) : Prop :=
  NodeInvO P T i (instAt h c) ∨ (instAt h c = none ∧ Blocked h c)

/-- the Layer-A context of one height of a multi-height state -/
def ctxH {P : Params} (hP : P.Valid) (σ : Sys P) (h : Nat) : QAbs.Ctx (Op P) :=
  ctxT (P.at h) (hP.at h) (trP P h σ.trace)

structure InvM (P : Params) (hP : P.Valid) (σ : Sys P) : Prop where
  shape : ∀ i, CInv (σ.ctrl i)
  log : LogInv P σ.log σ.trace
  node : ∀ i, P.honest i = true → ∀ h, NodeSt (P.at h) (trP P h σ.trace) i (σ.ctrl i) h
  rules : ∀ h, QAbs.Rules (ctxH hP σ h)

/-- what one enabled action does: one correct operator's controller takes a step at one height -/
structure MStep (P : Params) (σ σ' : Sys P) (i : Op P) (h0 : Nat) (c' : Ctrl) (outs : List Out)
    (evs : List (Ev (Op P))) : Prop where
  hi : P.honest i = true
  eq : σ' = σ.update i c' outs h0 evs
  cinv : CInv c'
  blocked : ∀ h, Blocked h (σ.ctrl i) → Blocked h c'
  main : HStep (P.cfg i) h0 (AuthT (P.at h0) (trP P h0 σ.trace)) i (σ.ctrl i) c' (bcasts outs) evs
  other : ∀ h, h ≠ h0 → OStep h (σ.ctrl i) c'

theorem step_mstep {P : Params} (hP : P.Valid) (σ : Sys P) (hinv : InvM P hP σ) (a : Action P) (hen : enabled σ a = true) :
    ∃ i h0 c' outs evs, MStep P σ (step σ a) i h0 c' outs evs := by
  cases a with
  | start i h v =>
    have st := ctrl_start_multi (P.cfg i) (capacity_two P i) (AuthT (P.at h) (trP P h σ.trace)) i (σ.ctrl i) h v
      (hinv.shape i)
    exact ⟨i, h, _, _, _, hen, rfl, st.cinv, st.blocked, st.main, st.other⟩
  | deliver i m =>
    have hen' : P.honest i = true ∧ authentic P σ.log m = true := by
      simpa [enabled] using hen
    have st := ctrl_processMsg_multi (P.cfg i) (capacity_two P i) (AuthT (P.at m.height) (trP P m.height σ.trace)) i
      (σ.ctrl i) m (hinv.shape i) (fun hid => authT_of hinv.log hen'.2 m.height hid)
    exact ⟨i, m.height, _, _, _, hen'.1, rfl, st.cinv, st.blocked, st.main, st.other⟩
  | timeout i h r =>
    have st := ctrl_onTimeout_multi (P.cfg i) (AuthT (P.at h) (trP P h σ.trace)) i (σ.ctrl i) h r (hinv.shape i)
    exact ⟨i, h, _, _, _, hen, rfl, st.cinv, st.blocked, st.main, st.other⟩

end Ssv.Qbft.M
