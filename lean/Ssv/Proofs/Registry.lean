/-
The registry model (properties C11, C12) seen from the registry state. The interpreter's steps act component-wise;
`Effect` lists what one event can do to the registry, and the facts about blocks and runs (memory map and transaction
in step, nonces, where stored operators and shares come from) are proved rule by rule from it. Core Lean only.
-/
import Ssv.Model.Registry
import Ssv.Model.RegistryCrash
import Ssv.Common.Lemmas

namespace Ssv.Registry

theorem runSteps_nil (n : Node) : runSteps n [] = n := rfl
theorem runSteps_append (n : Node) (a b : List Step) : runSteps n (a ++ b) = runSteps (runSteps n a) b :=
  List.foldl_append

theorem runSteps_eq (n : Node) (l : List Step) :
    runSteps n l = ⟨l.foldl stepReg n.reg, l.foldl stepWal n.wal, l.foldl stepHist n.hist⟩ := by
  induction l generalizing n with
  | nil => rfl
  | cons s l ih => exact ih (applyStep n s)

theorem runSteps_reg (n : Node) (l : List Step) : (runSteps n l).reg = l.foldl stepReg n.reg :=
  congrArg Node.reg (runSteps_eq n l)

theorem runSteps_wal (n : Node) (l : List Step) : (runSteps n l).wal = l.foldl stepWal n.wal :=
  congrArg Node.wal (runSteps_eq n l)

theorem runSteps_hist (n : Node) (l : List Step) : (runSteps n l).hist = l.foldl stepHist n.hist :=
  congrArg Node.hist (runSteps_eq n l)

/-- a component that sees neither key-manager calls nor wallet writes ignores how the calls expand -/
theorem foldl_expand {α : Type} (f : α → Step → α)
    (hadd : ∀ a k, f a (.kmAdd k) = a) (hrem : ∀ a k, f a (.kmRemove k) = a)
    (hset : ∀ a k, f a (.memIdxSet k) = a) (hdel : ∀ a k, f a (.memIdxDel k) = a)
    (hsave : ∀ a k, f a (.saveAccount k) = a) (hdrop : ∀ a k, f a (.deleteAccount k) = a)
    (hwal : ∀ a, f a .saveWallet = a)
    (w : Wal) (a : α) (s : Step) : (expand w s).foldl f a = f a s := by
  unfold expand
  split
  next k =>
    split
    · exact (hadd a k).symm
    · simp only [List.foldl_cons, List.foldl_nil, hset, hsave, hwal, hadd]
  next k =>
    split
    · simp only [List.foldl_cons, List.foldl_nil, hdrop, hdel, hwal, hrem]
    · exact (hrem a k).symm
  · rfl

theorem foldl_stepReg_expand (w : Wal) (r : RegMem) (s : Step) : (expand w s).foldl stepReg r = stepReg r s :=
  foldl_expand stepReg (fun _ _ => rfl) (fun _ _ => rfl) (fun _ _ => rfl) (fun _ _ => rfl) (fun _ _ => rfl)
    (fun _ _ => rfl) (fun _ => rfl) w r s

theorem foldl_stepReg_flatMap_expand (w : Wal) (r : RegMem) (l : List Step) :
    (l.flatMap (expand w)).foldl stepReg r = l.foldl stepReg r := by
  induction l generalizing r with
  | nil => rfl
  | cons s l ih => rw [List.flatMap_cons, List.foldl_append, foldl_stepReg_expand, ih, List.foldl_cons]

theorem foldl_stepHist_expand (w : Wal) (h : Hist) (s : Step) : (expand w s).foldl stepHist h = stepHist h s :=
  foldl_expand stepHist (fun _ _ => rfl) (fun _ _ => rfl) (fun _ _ => rfl) (fun _ _ => rfl) (fun _ _ => rfl)
    (fun _ _ => rfl) (fun _ => rfl) w h s

theorem foldl_stepHist_flatMap_expand (w : Wal) (h : Hist) (l : List Step) :
    (l.flatMap (expand w)).foldl stepHist h = l.foldl stepHist h := by
  induction l generalizing h with
  | nil => rfl
  | cons s l ih => rw [List.flatMap_cons, List.foldl_append, foldl_stepHist_expand, ih, List.foldl_cons]

def regEvent (me blk : Nat) (r : RegMem) (e : Event) : RegMem :=
  (regSteps me blk (viewOf r) e).1.foldl stepReg r

def regOutcome (me blk : Nat) (r : RegMem) (e : Event) : Outcome := (regSteps me blk (viewOf r) e).2

theorem runMacro_eq_runSteps (n : Node) (l : List Step) : runMacro n l = runSteps n (macroTrace n l) := by
  induction l generalizing n with
  | nil => rfl
  | cons s l ih => simp only [runMacro, macroTrace, runSteps_append, ih]

theorem runMacro_reg (n : Node) (l : List Step) : (runMacro n l).reg = l.foldl stepReg n.reg := by
  induction l generalizing n with
  | nil => rfl
  | cons s l ih => simp only [runMacro, ih, runSteps_reg, foldl_stepReg_expand, List.foldl_cons]

theorem runMacro_hist (n : Node) (l : List Step) : (runMacro n l).hist = l.foldl stepHist n.hist := by
  induction l generalizing n with
  | nil => rfl
  | cons s l ih => simp only [runMacro, ih, runSteps_hist, foldl_stepHist_expand, List.foldl_cons]

theorem applyEvent_reg (me blk : Nat) (n : Node) (e : Event) :
    (applyEvent me blk n e).1.reg = regEvent me blk n.reg e :=
  runMacro_reg n _

theorem applyEvent_outcome (me blk : Nat) (n : Node) (e : Event) :
    (applyEvent me blk n e).2 = regOutcome me blk n.reg e := rfl

theorem applyEvent_hist (me blk : Nat) (n : Node) (e : Event) :
    (applyEvent me blk n e).1.hist = (regSteps me blk (viewOf n.reg) e).1.foldl stepHist n.hist :=
  runMacro_hist n _

/-- the key-manager call of a handler is a wallet matter: the registry sees only the two saves -/
theorem foldl_createSteps (self : Nat) (sh : Share) (r : RegMem) :
    (createSteps self sh).foldl stepReg r =
      { r with txn := { r.txn with shares := upsertShare sh r.txn.shares }, shares := upsertShare sh r.shares } := by
  unfold createSteps kmAddSteps
  cases sh.sharePk with
  | none => rfl
  | some k => dsimp only; cases belongs self sh <;> rfl

theorem foldl_removeSteps (self : Nat) (sh : Share) (r : RegMem) :
    (removeSteps self sh).foldl stepReg r =
      { r with txn := { r.txn with shares := eraseShare sh.pk r.txn.shares }, shares := eraseShare sh.pk r.shares } := by
  unfold removeSteps kmRemoveSteps
  cases sh.sharePk with
  | none => rfl
  | some k => dsimp only; cases belongs self sh <;> rfl

def upsertShares (l : List Share) (acc : List Share) : List Share := l.foldl (fun acc s => upsertShare s acc) acc

theorem foldl_txnShares (l : List Share) (r : RegMem) :
    (l.map Step.txnShare).foldl stepReg r = { r with txn := { r.txn with shares := upsertShares l r.txn.shares } } := by
  induction l generalizing r with
  | nil => rfl
  | cons s l ih => exact ih _

/-- registry effect of ClusterLiquidated (b = true) / ClusterReactivated (b = false): the flag is set in the memory
    map, the changed shares are written through the transaction and saved to the memory map -/
def clusterEffect (r : RegMem) (owner : Nat) (ops : List Nat) (b : Bool) : RegMem :=
  let own := clusterShares (viewOf r) owner ops
  let upd := own.map (fun s => { s with liquidated := b })
  { r with txn := { r.txn with shares := upsertShares upd r.txn.shares },
           shares := upsertShares upd (setLiquidated (own.map (·.pk)) b r.shares) }

theorem setLiquidated_nil (b : Bool) (l : List Share) : setLiquidated [] b l = l := List.map_id'' (fun _ => rfl) l

theorem foldl_clusterSteps (r : RegMem) (owner : Nat) (ops : List Nat) (b : Bool) :
    (clusterSteps (viewOf r) owner ops b).1.foldl stepReg r = clusterEffect r owner ops b := by
  unfold clusterSteps clusterEffect
  cases clusterShares (viewOf r) owner ops with
  | nil => exact (congrArg (fun l => { r with shares := l }) (setLiquidated_nil b r.shares)).symm
  | cons x xs =>
    simp only [List.isEmpty_cons, Bool.false_eq_true, ↓reduceIte]
    rw [List.foldl_append, List.foldl_append, foldl_txnShares]; rfl

/-- steps an event handler can emit (never the marker write, the commit, or a bare wallet write) -/
def Step.handler : Step → Bool
  | .putRecipient _ | .putOperator _ | .txnShare _ | .txnDelShare _ => true
  | .setSelf _ | .memLiquidate _ _ | .memShares _ | .memDelShare _ => true
  | .kmAdd _ | .kmRemove _ | .cleanInst _ | .cleanHigh _ => true
  | _ => false

theorem createSteps_handler (self : Nat) (sh : Share) : (createSteps self sh).all Step.handler = true := by
  unfold createSteps kmAddSteps
  cases sh.sharePk with
  | none => rfl
  | some k => dsimp only; cases belongs self sh <;> rfl

theorem removeSteps_handler (self : Nat) (sh : Share) : (removeSteps self sh).all Step.handler = true := by
  unfold removeSteps kmRemoveSteps
  cases sh.sharePk with
  | none => rfl
  | some k => dsimp only; cases belongs self sh <;> rfl

theorem clusterSteps_handler (v : View) (owner : Nat) (ops : List Nat) (b : Bool) :
    (clusterSteps v owner ops b).1.all Step.handler = true := by
  unfold clusterSteps
  cases clusterShares v owner ops with
  | nil => rfl
  | cons x xs =>
    simp only [List.isEmpty_cons, Bool.false_eq_true, ↓reduceIte, List.all_append, List.all_map]
    -- the first and the last step evaluate to `true`; those in between are all `txnShare`
    exact (Bool.and_true _).trans ((Bool.true_and _).trans (List.all_eq_true.2 fun _ _ => rfl))

/-- BumpNonce, written through the transaction -/
def bumpReg (r : RegMem) (owner : Nat) : RegMem :=
  { r with txn := { r.txn with recips := upsertRecip (bumped r.txn.recips owner) r.txn.recips } }

/-- What one event can do to the registry state: one rule per way through the handlers, the guards that matter
    later as hypotheses. Whatever is rejected, ignored or without a write falls under `same`. -/
inductive Effect (me : Nat) (r : RegMem) : Event → RegMem → Prop
  | same {e : Event} (hadd : ∀ o pk sn len ms, e ≠ .validatorAdded o pk sn len ms)
      (hrem : ∀ o pk ops sh, e = .validatorRemoved o pk ops → findShare r.shares pk = some sh → o ≠ sh.owner) :
      Effect me r e r
  | opAdded (id owner pk : Nat) (hguard : (r.self != 0 && pk == me && r.self != id) = false)
      (hnew : hasOp r.db.ops id = false) :
      Effect me r (.operatorAdded id owner pk)
        { r with txn := { r.txn with ops := upsertOp ⟨id, pk, owner⟩ r.txn.ops },
                 self := if pk == me then id else r.self }
  | addRejected (owner pk : Nat) (sn : Option Nat) (len : Nat) (ms : List Member) :
      Effect me r (.validatorAdded owner pk sn len ms) (bumpReg r owner)
  | added (owner pk : Nat) (sn : Option Nat) (len : Nat) (ms : List Member) (own : Option Nat)
      (hv : validateOperators r.txn.ops (ms.map (·.op)) = none) (hl : len = expectedSharesLen ms.length)
      (hs : sn = some (nextNonce r.txn.recips owner)) (hf : findShare r.shares pk = none)
      (hc : scanCommittee r.self ms = .ok own) :
      Effect me r (.validatorAdded owner pk sn len ms)
        { bumpReg r owner with
            txn := { (bumpReg r owner).txn with shares := upsertShare (newShare r.self owner pk ms own) r.txn.shares },
            shares := upsertShare (newShare r.self owner pk ms own) r.shares }
  | removed (owner pk : Nat) (ops : List Nat) (sh : Share) (hf : findShare r.shares pk = some sh) (ho : owner = sh.owner) :
      Effect me r (.validatorRemoved owner pk ops)
        { r with txn := { r.txn with shares := eraseShare sh.pk r.txn.shares }, shares := eraseShare sh.pk r.shares }
  | liquidated (owner : Nat) (ops : List Nat) : Effect me r (.clusterLiquidated owner ops) (clusterEffect r owner ops true)
  | reactivated (owner : Nat) (ops : List Nat) : Effect me r (.clusterReactivated owner ops) (clusterEffect r owner ops false)
  | fee (owner fee : Nat) (x : Recipient) (ho : x.owner = owner)
      (hn : x.nonce = (findRecip r.txn.recips owner).bind (·.nonce)) :
      Effect me r (.feeRecipientUpdated owner fee) { r with txn := { r.txn with recips := upsertRecip x r.txn.recips } }

/-- the events whose handlers never write a share -/
def Event.sharesFree : Event → Bool
  | .validatorAdded .. | .validatorRemoved .. | .clusterLiquidated .. | .clusterReactivated .. => false
  | _ => true

theorem Effect.skip {me : Nat} {r : RegMem} {e : Event} (h : e.sharesFree = true) : Effect me r e r := by
  refine .same (fun _ _ _ _ _ he => ?_) (fun _ _ _ _ he => ?_) <;> rw [he] at h <;> cases h

/-- One walk through the guards of every handler. Whatever they say: the registry changes by one of the rules of
    `Effect`, only handler steps are emitted, and the outcome is `malformed`, `processed` or `ignored` — only the log
    without topics panics. -/
theorem regSteps_spec (me blk : Nat) (r : RegMem) (e : Event) :
    Effect me r e (regEvent me blk r e) ∧ (regSteps me blk (viewOf r) e).1.all Step.handler = true ∧
    (e ≠ .noTopics → (regOutcome me blk r e).isPanic = false) := by
  cases e with
  | operatorAdded id owner pk =>
    simp only [regEvent, regOutcome, regSteps]
    cases hg : ((viewOf r).self != 0 && pk == me && (viewOf r).self != id) with
    | true => exact ⟨.skip rfl, rfl, fun _ => rfl⟩
    | false =>
      cases hn : hasOp (viewOf r).cops id with
      | true => exact ⟨.skip rfl, rfl, fun _ => rfl⟩
      | false =>
        -- the own id is set by a step of its own, emitted only if `pk == me`; the rule has the `if` in the state
        have := Effect.opAdded (me := me) (r := r) id owner pk hg hn
        revert this
        cases pk == me <;> exact fun h => ⟨h, rfl, fun _ => rfl⟩
  | operatorRemoved id =>
    simp only [regEvent, regOutcome, regSteps]
    cases hasOp (viewOf r).ops id <;> exact ⟨.skip rfl, rfl, fun _ => rfl⟩
  | validatorAdded owner pk sn len ms =>
    simp only [regEvent, regOutcome, regSteps, addSteps]
    cases hv : validateOperators (viewOf r).ops (ms.map (·.op)) with
    | some t => exact ⟨.addRejected owner pk sn len ms, rfl, fun _ => rfl⟩
    | none =>
      dsimp only
      cases hl : len != expectedSharesLen ms.length with
      | true => exact ⟨.addRejected owner pk sn len ms, rfl, fun _ => rfl⟩
      | false =>
        cases hs : sn != some (nextNonce (viewOf r).recips owner) with
        | true => exact ⟨.addRejected owner pk sn len ms, rfl, fun _ => rfl⟩
        | false =>
          cases hf : findShare (viewOf r).shares pk with
          | some sh =>
            dsimp only
            cases owner != sh.owner <;> exact ⟨.addRejected owner pk sn len ms, rfl, fun _ => rfl⟩
          | none =>
            dsimp only
            cases hc : scanCommittee (viewOf r).self ms with
            | error t => exact ⟨.addRejected owner pk sn len ms, rfl, fun _ => rfl⟩
            | ok own =>
              refine ⟨?_, createSteps_handler _ _, fun _ => rfl⟩
              show Effect me r _ (([Step.putRecipient _] ++ createSteps _ _).foldl stepReg r)
              rw [List.foldl_append, foldl_createSteps]
              exact .added owner pk sn len ms own hv (bne_eq_false_iff_eq.1 hl) (bne_eq_false_iff_eq.1 hs) hf hc
  | validatorRemoved owner pk ops =>
    simp only [regEvent, regOutcome, regSteps]
    cases hf : findShare (viewOf r).shares pk with
    | none =>
      exact ⟨.same (fun _ _ _ _ _ => nofun) (fun _ _ _ sh h hf' => by cases h; cases hf.symm.trans hf'), rfl, fun _ => rfl⟩
    | some sh =>
      dsimp only
      cases ho : owner != sh.owner with
      | true =>
        exact ⟨.same (fun _ _ _ _ _ => nofun)
          (fun _ _ _ sh' h hf' => by cases h; cases hf.symm.trans hf'; exact bne_iff_ne.1 ho), rfl, fun _ => rfl⟩
      | false =>
        refine ⟨?_, removeSteps_handler _ sh, fun _ => rfl⟩
        show Effect me r _ ((removeSteps _ sh).foldl stepReg r)
        rw [foldl_removeSteps]
        exact .removed owner pk ops sh hf (bne_eq_false_iff_eq.1 ho)
  | validatorExited owner pk ops =>
    simp only [regEvent, regOutcome, regSteps]
    cases findShare (viewOf r).shares pk with
    | none => exact ⟨.skip rfl, rfl, fun _ => rfl⟩
    | some sh =>
      dsimp only
      cases owner != sh.owner with
      | true => exact ⟨.skip rfl, rfl, fun _ => rfl⟩
      | false =>
        cases belongs (viewOf r).self sh with
        | false => exact ⟨.skip rfl, rfl, fun _ => rfl⟩
        | true => cases sh.bmeta <;> exact ⟨.skip rfl, rfl, fun _ => rfl⟩
  | clusterLiquidated owner ops =>
    refine ⟨?_, clusterSteps_handler _ owner ops true, fun _ => rfl⟩
    show Effect me r _ ((clusterSteps (viewOf r) owner ops true).1.foldl stepReg r)
    rw [foldl_clusterSteps]; exact .liquidated owner ops
  | clusterReactivated owner ops =>
    refine ⟨?_, clusterSteps_handler _ owner ops false, fun _ => rfl⟩
    show Effect me r _ ((clusterSteps (viewOf r) owner ops false).1.foldl stepReg r)
    rw [foldl_clusterSteps]; exact .reactivated owner ops
  | feeRecipientUpdated owner fee =>
    simp only [regEvent, regOutcome, regSteps]
    cases hf : findRecip (viewOf r).recips owner with
    | none =>
      exact ⟨.fee owner fee ⟨owner, fee, none⟩ rfl (congrArg (·.bind (·.nonce)) hf).symm, rfl, fun _ => rfl⟩
    | some x =>
      dsimp only
      cases x.fee == fee with
      | true => exact ⟨.skip rfl, rfl, fun _ => rfl⟩
      | false =>
        exact ⟨.fee owner fee { x with fee := fee } (find?_key_some Recipient.owner hf).2 (congrArg (·.bind (·.nonce)) hf).symm,
          rfl, fun _ => rfl⟩
  | noTopics => exact ⟨.skip rfl, rfl, fun h => absurd rfl h⟩
  | _ => exact ⟨.skip rfl, rfl, fun _ => rfl⟩

theorem regEvent_effect (me blk : Nat) (r : RegMem) (e : Event) : Effect me r e (regEvent me blk r e) :=
  (regSteps_spec me blk r e).1

-- every `View` is `viewOf` of some `RegMem`
theorem regSteps_handler (me blk : Nat) (v : View) (e : Event) : ∀ s ∈ (regSteps me blk v e).1, s.handler = true :=
  List.all_eq_true.1 (regSteps_spec me blk ⟨{ ops := v.cops }, { ops := v.ops, recips := v.recips }, v.shares, v.self⟩ e).2.1

theorem regOutcome_no_panic (me blk : Nat) (r : RegMem) {e : Event} (h : e ≠ .noTopics) :
    (regOutcome me blk r e).isPanic = false :=
  (regSteps_spec me blk r e).2.2 h

def regEvents (me blk : Nat) : RegMem → List Event → RegMem × Bool
  | r, [] => (r, false)
  | r, e :: es =>
    if (regOutcome me blk r e).isPanic then (regEvent me blk r e, true)
    else regEvents me blk (regEvent me blk r e) es

def beginReg (r : RegMem) : RegMem := { r with txn := r.db }

def commitReg (r : RegMem) (m : Nat) : RegMem :=
  { r with txn := { r.txn with marker := some m }, db := { r.txn with marker := some m } }

def regBlock (me : Nat) (r : RegMem) (b : Block) : RegMem × BlockStatus :=
  if decide (r.db.marker.getD 0 ≥ b.number) then (r, .refused)
  else
    let q := regEvents me b.number (beginReg r) b.events
    if q.2 then (beginReg q.1, .panicked) else (commitReg q.1 b.number, .ok)

def regRun (me : Nat) : RegMem → List Block → RegMem × Bool
  | r, [] => (r, true)
  | r, b :: bs =>
    match (regBlock me r b).2 with
    | .ok => regRun me (regBlock me r b).1 bs
    | _ => ((regBlock me r b).1, false)

theorem runEvents_reg (me blk : Nat) (n : Node) (es : List Event) :
    (runEvents me blk n es).1.reg = (regEvents me blk n.reg es).1 ∧
    (runEvents me blk n es).2.2 = (regEvents me blk n.reg es).2 := by
  induction es generalizing n with
  | nil => exact ⟨rfl, rfl⟩
  | cons e es ih =>
    simp only [runEvents, regEvents, applyEvent_outcome]
    by_cases hp : (regOutcome me blk n.reg e).isPanic = true
    · simp only [hp, ↓reduceIte, applyEvent_reg, and_self]
    · simp only [hp, Bool.false_eq_true, ↓reduceIte]
      rw [← applyEvent_reg]; exact ih _

theorem beginTxn_reg (n : Node) : (beginTxn n).reg = beginReg n.reg := rfl

theorem beginTxn_eq (n : Node) (h : n.reg.txn = n.reg.db) : beginTxn n = n := by
  obtain ⟨⟨db, txn, shares, self⟩, wal, hist⟩ := n
  cases (h : txn = db)
  rfl

theorem commit_reg (n : Node) (m : Nat) : (runSteps n [.putMarker m, .commit]).reg = commitReg n.reg m := rfl

theorem commit_wal (n : Node) (m : Nat) : (runSteps n [.putMarker m, .commit]).wal = n.wal := rfl

theorem applyBlock_reg (me : Nat) (n : Node) (b : Block) :
    (applyBlock me n b).1.reg = (regBlock me n.reg b).1 ∧ (applyBlock me n b).2.1 = (regBlock me n.reg b).2 := by
  have h := runEvents_reg me b.number (beginTxn n) b.events
  rw [beginTxn_reg] at h
  simp only [applyBlock, regBlock, inferior, h.2]
  cases decide (n.reg.db.marker.getD 0 ≥ b.number) with
  | true => exact ⟨rfl, rfl⟩
  | false =>
    cases (regEvents me b.number (beginReg n.reg) b.events).2 with
    | true => exact ⟨congrArg beginReg h.1, rfl⟩
    | false => exact ⟨congrArg (commitReg · b.number) h.1, rfl⟩

theorem run_reg (me : Nat) (n : Node) (bs : List Block) :
    (run me n bs).1.reg = (regRun me n.reg bs).1 ∧ (run me n bs).2 = (regRun me n.reg bs).2 := by
  induction bs generalizing n with
  | nil => exact ⟨rfl, rfl⟩
  | cons b bs ih =>
    have h := applyBlock_reg me n b
    simp only [run, regRun, h.2]
    cases (regBlock me n.reg b).2 with
    | ok => rw [← h.1]; exact ih _
    | refused => exact ⟨h.1, rfl⟩
    | panicked => exact ⟨h.1, rfl⟩

theorem applyBlock_ok_eq (me : Nat) (n : Node) (b : Block) (h : (applyBlock me n b).2.1 = .ok) :
    inferior n b = false ∧ (runEvents me b.number (beginTxn n) b.events).2.2 = false ∧
    (applyBlock me n b).1 = runSteps (runEvents me b.number (beginTxn n) b.events).1 [.putMarker b.number, .commit] := by
  revert h
  simp only [applyBlock]
  cases inferior n b with
  | true => exact nofun
  | false =>
    cases (runEvents me b.number (beginTxn n) b.events).2.2 with
    | true => exact nofun
    | false => exact fun _ => ⟨rfl, rfl, rfl⟩

/-- Induction over a run that is processed completely. `B evs n`: the node `n` between blocks, `P evs n`: inside a
    block, both after the events `evs`. Begin-transaction takes `B` to `P`, an event that does not panic keeps `P`,
    marker write and commit take `P` back to `B`. -/
theorem run_induction (me : Nat) (B P : List Event → Node → Prop)
    (hBP : ∀ evs n, B evs n → P evs (beginTxn n))
    (hP : ∀ evs n blk e, P evs n → (eventOutcome me blk n e).isPanic = false → P (evs ++ [e]) (applyEvent me blk n e).1)
    (hPB : ∀ evs n m, P evs n → B evs (runSteps n [.putMarker m, .commit]))
    (bs : List Block) (n : Node) (h0 : B [] n) (hok : (run me n bs).2 = true) : B (flatten bs) (run me n bs).1 := by
  have hev : ∀ (blk : Nat) (es : List Event) (pre : List Event) (n : Node), P pre n →
      (runEvents me blk n es).2.2 = false → P (pre ++ es) (runEvents me blk n es).1 := by
    intro blk es pre n
    fun_induction runEvents me blk n es generalizing pre with
    | case1 n => intro h _; rw [List.append_nil]; exact h
    | case2 n e es r hp => exact fun _ => nofun
    | case3 n e es r hp q ih =>
      intro h hnp
      rw [List.append_cons]
      exact ih (pre ++ [e]) (hP pre n blk e h (Bool.not_eq_true _ ▸ hp)) hnp
  have hrun : ∀ (bs : List Block) (pre : List Event) (n : Node), B pre n → (run me n bs).2 = true →
      B (pre ++ flatten bs) (run me n bs).1 := by
    intro bs pre n
    fun_induction run me n bs generalizing pre with
    | case1 n => intro h _; rw [flatten, List.flatMap_nil, List.append_nil]; exact h
    | case2 n b bs r hs ih =>
      intro h hok
      obtain ⟨_, hnp, heq⟩ := applyBlock_ok_eq me n b hs
      have h2 := hPB _ _ b.number (hev b.number b.events pre (beginTxn n) (hBP pre n h) hnp)
      rw [← heq] at h2
      rw [flatten, List.flatMap_cons, ← List.append_assoc]
      exact ih (pre ++ b.events) h2 hok
    | case3 n b bs r hs => exact fun _ => nofun
  exact hrun bs [] n h0 hok

def NodupPk (l : List Share) : Prop := (l.map (·.pk)).Nodup

theorem upsertShare_pks (s : Share) (l : List Share) :
    (upsertShare s l).map (·.pk) = if s.pk ∈ l.map (·.pk) then l.map (·.pk) else l.map (·.pk) ++ [s.pk] := by
  fun_induction upsertShare s l with
  | case1 => rfl
  | case2 x xs h =>
    have : x.pk = s.pk := beq_iff_eq.1 h
    rw [List.map_cons, List.map_cons, if_pos (this ▸ List.mem_cons_self), this]
  | case3 x xs h ih =>
    have hne : ¬ s.pk = x.pk := fun e => h (beq_iff_eq.2 e.symm)
    rw [List.map_cons, ih, List.map_cons]
    by_cases hm : s.pk ∈ xs.map (·.pk)
    · rw [if_pos hm, if_pos (List.mem_cons_of_mem _ hm)]
    · rw [if_neg hm, if_neg (fun h' => (List.mem_cons.1 h').elim hne hm)]; rfl

theorem nodupPk_upsert (s : Share) (l : List Share) (hn : NodupPk l) : NodupPk (upsertShare s l) := by
  unfold NodupPk at *
  rw [upsertShare_pks]
  split
  · exact hn
  · rename_i h
    exact List.nodup_append.2 ⟨hn, List.pairwise_singleton _ _, fun a ha b hb => by rw [List.mem_singleton.1 hb]; exact fun e => h (e ▸ ha)⟩

theorem nodupPk_erase (pk : Nat) (l : List Share) (hn : NodupPk l) : NodupPk (eraseShare pk l) :=
  List.Pairwise.sublist ((List.filter_sublist).map _) hn

theorem nodupPk_map {g : Share → Share} (hpk : ∀ x, (g x).pk = x.pk) {l : List Share} (hn : NodupPk l) :
    NodupPk (l.map g) := by
  unfold NodupPk
  rw [List.map_map, show (fun x : Share => x.pk) ∘ g = fun x => x.pk from funext hpk]
  exact hn

theorem upsertShare_map {f : Share → Share} (hpk : ∀ x, (f x).pk = x.pk) {l : List Share} (hn : NodupPk l)
    {x : Share} (hx : x ∈ l) : upsertShare (f x) l = l.map (fun s => if s.pk = x.pk then f s else s) := by
  induction l with
  | nil => cases hx
  | cons z zs ih =>
    have hn' : z.pk ∉ zs.map (·.pk) ∧ NodupPk zs := List.nodup_cons.1 hn
    by_cases hz : z.pk = x.pk
    · -- then `x` is `z`, and the tail holds no second share with this key
      have htail : ∀ s ∈ zs, ¬ s.pk = x.pk := fun s hs e => hn'.1 (List.mem_map.2 ⟨s, hs, e.trans hz.symm⟩)
      have hxz : x = z := (List.mem_cons.1 hx).resolve_right (fun h => htail x h rfl)
      subst hxz
      have : zs.map (fun s => if s.pk = x.pk then f s else s) = zs := by
        rw [List.map_congr_left (fun s hs => if_neg (htail s hs)), List.map_id']
      rw [upsertShare, if_pos (by rw [hpk]; exact beq_self_eq_true _), List.map_cons, if_pos rfl, this]
    · have hxs : x ∈ zs := (List.mem_cons.1 hx).resolve_left (fun e => hz (e ▸ rfl))
      simp only [upsertShare, hpk, beq_iff_eq, hz, ↓reduceIte, List.map_cons, ih hn'.2 hxs]

theorem nodupPk_setLiquidated (pks : List Nat) (b : Bool) {l : List Share} (hn : NodupPk l) :
    NodupPk (setLiquidated pks b l) :=
  nodupPk_map (fun s => by split <;> rfl) hn

/-- In a list without duplicate keys, the bulk upsert of modified members is the map that modifies exactly them
    (`f` keeps keys and is idempotent). -/
theorem upsertShares_map {f : Share → Share} (hpk : ∀ x, (f x).pk = x.pk) (hff : ∀ x, f (f x) = f x)
    (u l : List Share) (hn : NodupPk l) (hu : ∀ y ∈ u, ∃ x ∈ l, y = f x) :
    upsertShares u l = l.map (fun s => if (u.map (·.pk)).contains s.pk then f s else s) := by
  induction u generalizing l with
  | nil => exact (List.map_id' l).symm
  | cons y ys ih =>
    obtain ⟨x, hx, rfl⟩ := hu _ List.mem_cons_self
    have hn1 : NodupPk (l.map (fun s => if s.pk = x.pk then f s else s)) :=
      nodupPk_map (fun s => by split <;> simp only [hpk]) hn
    have hu1 : ∀ y ∈ ys, ∃ x' ∈ l.map (fun s => if s.pk = x.pk then f s else s), y = f x' := by
      intro y' hy'
      obtain ⟨x', hx', rfl⟩ := hu y' (List.mem_cons_of_mem _ hy')
      refine ⟨_, List.mem_map_of_mem hx', ?_⟩
      split
      · exact (hff x').symm
      · rfl
    show upsertShares ys (upsertShare (f x) l) = _
    rw [upsertShare_map hpk hn hx, ih _ hn1 hu1, List.map_map]
    apply List.map_congr_left
    intro s _
    by_cases hs : s.pk = x.pk
    · simp only [Function.comp, hs, ↓reduceIte, hpk, hff, ite_self, List.map_cons, List.contains_cons, beq_self_eq_true,
        Bool.true_or]
    · have : (s.pk == x.pk) = false := beq_false_of_ne hs
      simp only [Function.comp, hs, ↓reduceIte, List.map_cons, List.contains_cons, hpk, this, Bool.false_or]

/-- in a list without duplicate keys, saving shares that are stored already changes nothing -/
theorem upsertShares_of_mem (u l : List Share) (hn : NodupPk l) (hu : ∀ y ∈ u, y ∈ l) : upsertShares u l = l := by
  induction u with
  | nil => rfl
  | cons y ys ih =>
    have : upsertShare y l = l :=
      (upsertShare_map (f := id) (fun _ => rfl) hn (hu y List.mem_cons_self)).trans
        ((List.map_congr_left (fun s _ => ite_self s)).trans (List.map_id' l))
    show upsertShares ys (upsertShare y l) = l
    rw [this]; exact ih (fun y hy => hu y (List.mem_cons_of_mem _ hy))

/-- The in-memory mutation of processClusterEvent followed by Save, and the Save through the transaction, both
    end in the list with the flag set on the cluster's shares. -/
theorem cluster_sync (l own : List Share) (b : Bool) (hl : NodupPk l) (hown : ∃ p, own = l.filter p) :
    upsertShares (own.map (fun s => { s with liquidated := b })) l = setLiquidated (own.map (·.pk)) b l ∧
    upsertShares (own.map (fun s => { s with liquidated := b })) (setLiquidated (own.map (·.pk)) b l) =
      setLiquidated (own.map (·.pk)) b l := by
  obtain ⟨p, rfl⟩ := hown
  constructor
  · have hu : ∀ y ∈ (l.filter p).map (fun s : Share => { s with liquidated := b }),
        ∃ x ∈ l, y = { x with liquidated := b } := by
      intro y hy
      obtain ⟨x, hx, rfl⟩ := List.mem_map.1 hy
      exact ⟨x, (List.mem_filter.1 hx).1, rfl⟩
    rw [upsertShares_map (f := fun s => { s with liquidated := b }) (fun _ => rfl) (fun _ => rfl) _ l hl hu, List.map_map]; rfl
  · -- the mutated list holds the shares of the cluster with the flag set already
    refine upsertShares_of_mem _ _ (nodupPk_setLiquidated _ b hl) (fun y hy => ?_)
    obtain ⟨x, hx, rfl⟩ := List.mem_map.1 hy
    refine List.mem_map.2 ⟨x, (List.mem_filter.1 hx).1, ?_⟩
    rw [if_pos (List.contains_iff_mem.2 (List.mem_map_of_mem hx))]

/-- registry state inside a block: the memory map holds what the open transaction holds, no key twice -/
structure SharesSync (r : RegMem) : Prop where
  eq : r.shares = r.txn.shares
  nodup : NodupPk r.shares

theorem clusterEffect_of_sync (r : RegMem) (owner : Nat) (ops : List Nat) (b : Bool) (h : SharesSync r) :
    clusterEffect r owner ops b =
      { r with txn := { r.txn with shares := setLiquidated ((clusterShares (viewOf r) owner ops).map (·.pk)) b r.shares },
               shares := setLiquidated ((clusterShares (viewOf r) owner ops).map (·.pk)) b r.shares } := by
  obtain ⟨e1, e2⟩ := cluster_sync r.shares (clusterShares (viewOf r) owner ops) b h.nodup ⟨_, rfl⟩
  simp only [clusterEffect, ← h.eq, e1, e2]

theorem Effect.sync {me : Nat} {r r' : RegMem} {e : Event} (he : Effect me r e r') (h : SharesSync r) : SharesSync r' := by
  cases he with
  | added owner pk sn len ms own => exact ⟨congrArg (upsertShare _) h.eq, nodupPk_upsert _ _ h.nodup⟩
  | removed owner pk ops sh => exact ⟨congrArg (eraseShare _) h.eq, nodupPk_erase _ _ h.nodup⟩
  | liquidated owner ops | reactivated owner ops =>
    rw [clusterEffect_of_sync r owner ops _ h]; exact ⟨rfl, nodupPk_setLiquidated _ _ h.nodup⟩
  | _ => exact ⟨h.eq, h.nodup⟩

/-- registry state between blocks: nothing pending, memory equals the database -/
def RegBoundary (r : RegMem) : Prop := r.txn = r.db ∧ r.shares = r.db.shares ∧ NodupPk r.shares

theorem RegBoundary.txn {r : RegMem} (h : RegBoundary r) : r.txn = r.db := h.1
theorem RegBoundary.shares {r : RegMem} (h : RegBoundary r) : r.shares = r.db.shares := h.2.1
theorem RegBoundary.nodup {r : RegMem} (h : RegBoundary r) : NodupPk r.shares := h.2.2

theorem RegBoundary.begin {r : RegMem} (h : RegBoundary r) : SharesSync (beginReg r) := ⟨h.shares, h.nodup⟩

theorem SharesSync.commit {r : RegMem} (h : SharesSync r) (m : Nat) : RegBoundary (commitReg r m) := ⟨rfl, h.eq, h.nodup⟩

/-- number of (parsed) ValidatorAdded events of the owner -/
def countAdds (owner : Nat) : List Event → Nat
  | [] => 0
  | .validatorAdded o _ _ _ _ :: es => (if o = owner then 1 else 0) + countAdds owner es
  | _ :: es => countAdds owner es

theorem countAdds_append (owner : Nat) (a b : List Event) : countAdds owner (a ++ b) = countAdds owner a + countAdds owner b := by
  fun_induction countAdds owner a with
  | case1 => exact (Nat.zero_add _).symm
  | case2 o pk sn len ms es ih =>
    show (if o = owner then 1 else 0) + countAdds owner (es ++ b) = _
    rw [ih, Nat.add_assoc]
  | case3 e es h ih => rw [List.cons_append, countAdds.eq_3 _ _ _ h, ih]

theorem countAdds_single {e : Event} (o : Nat) (h : ∀ o pk sn len ms, e ≠ .validatorAdded o pk sn len ms) :
    countAdds o [e] = 0 := by
  cases e with
  | validatorAdded o pk sn len ms => exact absurd rfl (h o pk sn len ms)
  | _ => rfl

/-- Lookup after an upsert in a keyed list; `hnil`, `hcons` are the defining equations of `upsertShare`, `upsertRecip`. -/
theorem find?_key_upsert {α : Type} (key : α → Nat) (ups : α → List α → List α) (hnil : ∀ x, ups x [] = [x])
    (hcons : ∀ x y ys, ups x (y :: ys) = if key y == key x then x :: ys else y :: ups x ys) (x : α) (l : List α) (k : Nat) :
    (ups x l).find? (fun y => key y == k) = if key x = k then some x else l.find? (fun y => key y == k) := by
  induction l with
  | nil => rw [hnil]; exact find?_key_cons key x [] k
  | cons y ys ih =>
    rw [hcons]
    by_cases hy : key y = key x
    · rw [if_pos (beq_iff_eq.2 hy), find?_key_cons, find?_key_cons, hy]
      by_cases h : key x = k <;> simp only [h, ↓reduceIte]
    · rw [if_neg (fun e => hy (beq_iff_eq.1 e)), find?_key_cons, ih, find?_key_cons]
      by_cases h : key y = k
      · rw [if_pos h, if_pos h, if_neg (fun e => hy (h.trans e.symm))]
      · rw [if_neg h, if_neg h]

theorem findRecip_upsert (x : Recipient) (rs : List Recipient) (o : Nat) :
    findRecip (upsertRecip x rs) o = if x.owner = o then some x else findRecip rs o :=
  find?_key_upsert Recipient.owner upsertRecip (fun _ => rfl) (fun _ _ _ => rfl) x rs o

/-- BumpNonce stores, under the owner, the nonce GetNextNonce returned -/
theorem bumped_spec (rs : List Recipient) (o : Nat) :
    (bumped rs o).owner = o ∧ (bumped rs o).nonce = some (nextNonce rs o) := by
  unfold bumped nextNonce
  cases h : findRecip rs o with
  | none => exact ⟨rfl, rfl⟩
  | some r => dsimp only; cases r.nonce <;> exact ⟨(find?_key_some Recipient.owner h).2, rfl⟩

theorem nextNonce_lt (rs : List Recipient) (o : Nat) : nextNonce rs o < nonceMod := by
  have hpos : 0 < nonceMod := by decide
  unfold nextNonce
  cases findRecip rs o with
  | none => exact hpos
  | some r =>
    dsimp only
    cases r.nonce with
    | none => exact hpos
    | some k => exact Nat.mod_lt _ hpos

/-- GetNextNonce reads nothing but the nonce field of the owner's record -/
theorem nextNonce_upsert (x : Recipient) (rs : List Recipient) (o : Nat) :
    nextNonce (upsertRecip x rs) o =
      if x.owner = o then (match x.nonce with | none => 0 | some k => (k + 1) % nonceMod) else nextNonce rs o := by
  unfold nextNonce
  rw [findRecip_upsert]
  by_cases h : x.owner = o
  · rw [if_pos h, if_pos h]; rfl
  · rw [if_neg h, if_neg h]

theorem nextNonce_bump (rs : List Recipient) (o o' : Nat) :
    nextNonce (upsertRecip (bumped rs o) rs) o' =
      if o = o' then (nextNonce rs o + 1) % nonceMod else nextNonce rs o' := by
  rw [nextNonce_upsert, (bumped_spec rs o).1, (bumped_spec rs o).2]

/-- the nonce an owner is expected to sign next moves exactly with the owner's ValidatorAdded events -/
theorem Effect.nonce {me : Nat} {r r' : RegMem} {e : Event} (h : Effect me r e r') (o : Nat) :
    nextNonce r'.txn.recips o = (nextNonce r.txn.recips o + countAdds o [e]) % nonceMod := by
  have hid : nextNonce r.txn.recips o = (nextNonce r.txn.recips o + 0) % nonceMod :=
    (Nat.mod_eq_of_lt (nextNonce_lt _ _)).symm
  cases h with
  | same hadd _ => rw [countAdds_single o hadd]; exact hid
  | addRejected owner pk sn len ms | added owner pk sn len ms own =>
    show nextNonce (upsertRecip (bumped r.txn.recips owner) r.txn.recips) o =
      (nextNonce r.txn.recips o + ((if owner = o then 1 else 0) + 0)) % nonceMod
    rw [nextNonce_bump]
    by_cases h : owner = o
    · rw [if_pos h, if_pos h, h]
    · rw [if_neg h, if_neg h]; exact hid
  | fee owner fee x ho hn =>
    -- the record written carries the nonce field the owner's record had
    show nextNonce (upsertRecip x r.txn.recips) o = _
    rw [nextNonce_upsert]
    split
    · rename_i hox
      have : (match x.nonce with | none => 0 | some k => (k + 1) % nonceMod) = nextNonce r.txn.recips o := by
        rw [← hox, ho, hn]
        unfold nextNonce
        cases findRecip r.txn.recips owner <;> rfl
      rw [this]; exact hid
    · exact hid
  | _ => exact hid

theorem Effect.nonce_after {me : Nat} {r r' : RegMem} {e : Event} (he : Effect me r e r') {k evs o}
    (h : nextNonce r.txn.recips o = (k + countAdds o evs) % nonceMod) :
    nextNonce r'.txn.recips o = (k + countAdds o (evs ++ [e])) % nonceMod := by
  rw [he.nonce, h, countAdds_append, Nat.mod_add_mod, Nat.add_assoc]

theorem findShare_pk {l : List Share} {pk : Nat} {s : Share} (h : findShare l pk = some s) : s.pk = pk :=
  (find?_key_some Share.pk h).2

theorem findShare_cons (y : Share) (l : List Share) (pk : Nat) :
    findShare (y :: l) pk = if y.pk = pk then some y else findShare l pk :=
  find?_key_cons Share.pk y l pk

theorem findShare_upsert (s : Share) (l : List Share) (pk : Nat) :
    findShare (upsertShare s l) pk = if s.pk = pk then some s else findShare l pk :=
  find?_key_upsert Share.pk upsertShare (fun _ => rfl) (fun _ _ _ => rfl) s l pk

theorem findShare_erase (k : Nat) (l : List Share) (pk : Nat) :
    findShare (eraseShare k l) pk = if k = pk then none else findShare l pk := by
  induction l with
  | nil => exact (ite_self _).symm
  | cons y ys ih =>
    by_cases hy : y.pk = k
    · have : eraseShare k (y :: ys) = eraseShare k ys := List.filter_cons_of_neg (by simp [hy])
      rw [this, ih, findShare_cons, hy]
      by_cases h : k = pk <;> simp only [h, ↓reduceIte]
    · have : eraseShare k (y :: ys) = y :: eraseShare k ys := List.filter_cons_of_pos (by simpa using hy)
      rw [this, findShare_cons, ih, findShare_cons]
      by_cases h : y.pk = pk
      · rw [if_pos h, if_pos h, if_neg (fun e => hy (h.trans e.symm))]
      · rw [if_neg h, if_neg h]

theorem findShare_setLiquidated (pks : List Nat) (b : Bool) (l : List Share) (pk : Nat) :
    findShare (setLiquidated pks b l) pk =
      (findShare l pk).map (fun s => if pks.contains s.pk then { s with liquidated := b } else s) :=
  find?_key_map Share.pk _ (fun s => by split <;> rfl) l pk

theorem nodupB_iff (l : List Nat) : nodupB l = true ↔ l.Nodup := by
  induction l with
  | nil => simp [nodupB]
  | cons x xs ih => simp [nodupB, List.nodup_cons, ih]

theorem hasOp_iff (l : List OperatorRec) (id : Nat) : hasOp l id = true ↔ ∃ o ∈ l, o.id = id := by
  simp [hasOp]

theorem mem_upsertOp (o : OperatorRec) (l : List OperatorRec) (x : OperatorRec) :
    x ∈ upsertOp o l → x = o ∨ x ∈ l := by
  fun_induction upsertOp o l with
  | case1 => exact fun h => Or.inl (List.mem_singleton.1 h)
  | case2 y ys _ => exact fun h => (List.mem_cons.1 h).imp_right (List.mem_cons_of_mem _)
  | case3 y ys _ ih =>
    exact fun h => (List.mem_cons.1 h).elim (fun e => Or.inr (e ▸ List.mem_cons_self))
      (fun h => (ih h).imp_right (List.mem_cons_of_mem _))

theorem hasOp_upsert (o : OperatorRec) (l : List OperatorRec) (id : Nat) (h : hasOp (upsertOp o l) id = true) :
    id = o.id ∨ hasOp l id = true := by
  obtain ⟨x, hx, hid⟩ := (hasOp_iff _ _).1 h
  rcases mem_upsertOp o l x hx with rfl | hx
  · exact Or.inl hid.symm
  · exact Or.inr ((hasOp_iff _ _).2 ⟨x, hx, hid⟩)

theorem upsertOp_of_not_has (o : OperatorRec) (l : List OperatorRec) (h : hasOp l o.id = false) : upsertOp o l = l ++ [o] := by
  fun_induction upsertOp o l with
  | case1 => rfl
  | case2 y ys hy => rw [hasOp, List.any_cons, hy] at h; cases h
  | case3 y ys hy ih =>
    rw [hasOp, List.any_cons, Bool.or_eq_false_iff] at h
    rw [ih h.2]; rfl

/-- what the member loop guarantees about the node's own member -/
theorem scanCommittee_some (self : Nat) (ms : List Member) (k : Nat) (h : scanCommittee self ms = .ok (some k)) :
    ∃ m ∈ ms, m.op = self ∧ m.decryptOk = true ∧ m.keyMatches = true ∧ m.key = k := by
  fun_induction scanCommittee self ms generalizing k with
  | case1 => cases h
  | case2 m rest hop ih =>
    obtain ⟨m', hm', hrest⟩ := ih k h
    exact ⟨m', List.mem_cons_of_mem _ hm', hrest⟩
  | case3 => cases h
  | case4 => cases h
  | case5 => cases h
  | case6 m rest hop hd hk k' hr ih =>
    -- a later member with the node's id provided the key
    cases h
    obtain ⟨m', hm', hrest⟩ := ih _ hr
    exact ⟨m', List.mem_cons_of_mem _ hm', hrest⟩
  | case7 m rest hop hd hk hr ih =>
    cases h
    exact ⟨m, List.mem_cons_self, by simpa using hop, by simpa using hd, by simpa using hk, rfl⟩

/-- The registration rules, for one ValidatorAdded event `(owner, pk, sn, len, ms)` that follows the events `pre`
    (`n0` = nonce each owner was expected to sign at the start, `ops0` = operators stored at the start). -/
structure AddOk (n0 : Nat → Nat) (ops0 : List OperatorRec) (pre : List Event)
    (owner : Nat) (sn : Option Nat) (len : Nat) (ms : List Member) : Prop where
  /-- valid owner signature over the nonce expected THEN: every earlier ValidatorAdded of the owner counted once -/
  nonce : sn = some ((n0 owner + countAdds owner pre) % nonceMod)
  /-- committee of valid size -/
  size : validCommitteeSize ms.length = true ∧ ms.length ≤ Gen.eventhandler_maxOperators
  /-- distinct operators -/
  distinct : (ms.map (·.op)).Nodup
  /-- that exist (were added before) -/
  exist : ∀ m ∈ ms, hasOp ops0 m.op = true ∨ ∃ o p, Event.operatorAdded m.op o p ∈ pre
  /-- correctly sized share data -/
  length : len = expectedSharesLen ms.length

/-- A stored share (its key, owner, committee, own operator id and own share key) is explained by the events
    `evs`: some ValidatorAdded event of the same owner and key passed every check, the share is what that event
    says, the node's own share (if any) was decryptable and matched its public key, and no ValidatorRemoved of that
    owner and key came later. -/
def AddWitness (n0 : Nat → Nat) (ops0 : List OperatorRec) (evs : List Event)
    (pk owner : Nat) (committee : List (Nat × Nat)) (operatorId : Nat) (sharePk : Option Nat) : Prop :=
  ∃ pre post sn len ms,
    evs = pre ++ Event.validatorAdded owner pk sn len ms :: post ∧
    AddOk n0 ops0 pre owner sn len ms ∧
    committee = ms.map (fun m => (m.op, m.key)) ∧
    (operatorId ≠ 0 → ∃ m ∈ ms, m.op = operatorId ∧ m.decryptOk = true ∧ m.keyMatches = true ∧ sharePk = some m.key) ∧
    (∀ e ∈ post, ∀ ops, e ≠ Event.validatorRemoved owner pk ops)

theorem AddWitness.extend {n0 ops0 evs pk owner committee operatorId sharePk} (e : Event)
    (h : AddWitness n0 ops0 evs pk owner committee operatorId sharePk)
    (hne : ∀ ops, e ≠ Event.validatorRemoved owner pk ops) :
    AddWitness n0 ops0 (evs ++ [e]) pk owner committee operatorId sharePk := by
  obtain ⟨pre, post, sn, len, ms, he, hok, hc, hown, hpost⟩ := h
  refine ⟨pre, post ++ [e], sn, len, ms, by simp [he], hok, hc, hown, ?_⟩
  intro e' he' ops
  rcases List.mem_append.1 he' with h | h
  · exact hpost e' h ops
  · simp at h; subst h; exact hne ops

/-- where stored operators come from -/
def OpsProv (ops0 : List OperatorRec) (evs : List Event) (ops : List OperatorRec) : Prop :=
  ∀ id, hasOp ops id = true → hasOp ops0 id = true ∨ ∃ o p, Event.operatorAdded id o p ∈ evs

theorem OpsProv.mono {ops0 evs ops} (h : OpsProv ops0 evs ops) (e : Event) : OpsProv ops0 (evs ++ [e]) ops := by
  intro id hid
  rcases h id hid with h | ⟨o, p, h⟩
  · exact Or.inl h
  · exact Or.inr ⟨o, p, List.mem_append_left _ h⟩

theorem Effect.opsProv {me : Nat} {r r' : RegMem} {e : Event} (h : Effect me r e r') {ops0 : List OperatorRec}
    {evs : List Event} (hp : OpsProv ops0 evs r.txn.ops) : OpsProv ops0 (evs ++ [e]) r'.txn.ops := by
  cases h with
  | opAdded id owner pk _ _ =>
    intro i hi
    rcases hasOp_upsert _ _ _ hi with rfl | hi
    · exact Or.inr ⟨owner, pk, List.mem_append_right _ List.mem_cons_self⟩
    · exact hp.mono _ i hi
  | _ => exact hp.mono _

theorem validateOperators_none (ops : List OperatorRec) (ids : List Nat) (h : validateOperators ops ids = none) :
    ids.length ≤ Gen.eventhandler_maxOperators ∧ validCommitteeSize ids.length = true ∧ nodupB ids = true ∧
    ids.all (hasOp ops) = true := by
  -- every guard, in source order, did not fire
  obtain ⟨h1, h⟩ := ite_some_eq_none.mp h
  obtain ⟨_, h⟩ := ite_some_eq_none.mp h
  obtain ⟨h3, h⟩ := ite_some_eq_none.mp h
  obtain ⟨h4, h⟩ := ite_some_eq_none.mp h
  obtain ⟨h5, _⟩ := ite_some_eq_none.mp h
  exact ⟨Nat.le_of_not_gt h1, by simpa using h3, by simpa using h4, by simpa using h5⟩

/-- where stored shares come from -/
def SharesProv (n0 : Nat → Nat) (ops0 : List OperatorRec) (evs : List Event) (shares : List Share) : Prop :=
  ∀ pk sh, findShare shares pk = some sh → AddWitness n0 ops0 evs sh.pk sh.owner sh.committee sh.operatorId sh.sharePk

/-- What the events `evs` explain of a store `t` (the open transaction inside a block, the database between blocks)
    and of the memory map, in a run that began with expected nonces `n0` and stored operators `ops0`. -/
structure Prov (n0 : Nat → Nat) (ops0 : List OperatorRec) (evs : List Event) (t : Reg) (shares : List Share) : Prop where
  nonce : ∀ o, nextNonce t.recips o = (n0 o + countAdds o evs) % nonceMod
  ops : OpsProv ops0 evs t.ops
  shares : SharesProv n0 ops0 evs shares

/-- the share created by a ValidatorAdded event that passed every guard is explained by that event -/
theorem newShare_witness (r : RegMem) (owner pk : Nat) (sn : Option Nat) (len : Nat) (ms : List Member) (own : Option Nat)
    (n0 : Nat → Nat) (ops0 : List OperatorRec) (evs : List Event)
    (hv : validateOperators r.txn.ops (ms.map (·.op)) = none) (hl : len = expectedSharesLen ms.length)
    (hs : sn = some (nextNonce r.txn.recips owner)) (hc : scanCommittee r.self ms = .ok own)
    (hnonce : ∀ o, nextNonce r.txn.recips o = (n0 o + countAdds o evs) % nonceMod)
    (hops : OpsProv ops0 evs r.txn.ops) :
    AddWitness n0 ops0 (evs ++ [.validatorAdded owner pk sn len ms]) pk owner (ms.map (fun m => (m.op, m.key)))
      (if own.isSome then r.self else 0) own := by
  obtain ⟨hmax, hsize, hdistinct, hexist⟩ := validateOperators_none _ _ hv
  rw [List.length_map] at hmax hsize
  refine ⟨evs, [], sn, len, ms, rfl, ?_, rfl, ?_, fun _ h => nomatch h⟩
  · exact ⟨by rw [hs, hnonce], ⟨hsize, hmax⟩, (nodupB_iff _).1 hdistinct,
      fun m hm => hops m.op (List.all_eq_true.1 hexist m.op (List.mem_map_of_mem hm)), hl⟩
  · intro hne
    cases own with
    | none => exact absurd rfl hne
    | some k =>
      obtain ⟨m, hm, hop, hd, hk, hkey⟩ := scanCommittee_some _ _ _ hc
      exact ⟨m, hm, hop, hd, hk, congrArg some hkey.symm⟩

theorem Effect.sharesProv {me : Nat} {r r' : RegMem} {e : Event} (h : Effect me r e r') {n0 ops0 evs}
    (hs : SharesSync r) (hp : Prov n0 ops0 evs r.txn r.shares) : SharesProv n0 ops0 (evs ++ [e]) r'.shares := by
  have hsh := hp.shares
  -- unchanged shares + an event that is not a removal of a stored share by its owner
  have keep : (∀ pk sh, findShare r.shares pk = some sh → ∀ ops, e ≠ Event.validatorRemoved sh.owner sh.pk ops) →
      SharesProv n0 ops0 (evs ++ [e]) r.shares :=
    fun hne pk sh hf => (hsh pk sh hf).extend e (hne pk sh hf)
  cases h with
  | same _ hrem =>
    refine keep (fun pk sh hf ops he => hrem _ _ _ sh he ?_ rfl)
    rw [findShare_pk hf]; exact hf
  | added owner pk sn len ms own hv hl hs hf hc =>
    intro pk' sh hf'
    rw [findShare_upsert] at hf'
    split at hf'
    · cases hf'; exact newShare_witness r owner pk sn len ms own n0 ops0 evs hv hl hs hc hp.nonce hp.ops
    · exact (hsh pk' sh hf').extend _ (fun _ => nofun)
  | removed owner pk ops sh0 hf0 ho =>
    intro pk' sh hf
    rw [findShare_erase] at hf
    split at hf
    · cases hf
    · rename_i hp
      refine (hsh pk' sh hf).extend _ (fun ops' he => ?_)
      -- the removed key is the key of `sh`, which was found under `pk'`
      cases he
      exact hp ((findShare_pk hf0).trans (findShare_pk hf))
  | liquidated owner ops | reactivated owner ops =>
    rw [clusterEffect_of_sync r owner ops _ hs]
    intro pk' sh' hf
    change findShare (setLiquidated _ _ r.shares) pk' = some sh' at hf
    rw [findShare_setLiquidated] at hf
    cases hfs : findShare r.shares pk' with
    | none => rw [hfs] at hf; cases hf
    | some sh =>
      -- the share found is the old one with at most the flag changed, and a witness does not speak of the flag
      rw [hfs] at hf
      cases hf
      dsimp only; split <;> exact (hsh pk' sh hfs).extend _ (fun _ => nofun)
  | _ => exact keep (fun _ _ _ _ => nofun)

theorem Effect.share_disappears {me : Nat} {r r' : RegMem} {e : Event} (he : Effect me r e r') {pk : Nat} {sh : Share}
    (hs : SharesSync r) (hf : findShare r.shares pk = some sh) (hgone : findShare r'.shares pk = none) :
    ∃ ops, e = Event.validatorRemoved sh.owner pk ops := by
  cases he with
  | added owner pk' sn len ms own =>
    rw [findShare_upsert] at hgone
    split at hgone
    · cases hgone
    · cases hf.symm.trans hgone
  | removed owner pk' ops sh0 hf0 ho =>
    rw [findShare_erase] at hgone
    split at hgone
    · -- the erased key is the key looked up: the share found is the one removed
      rename_i hp
      have hpk : pk = pk' := hp.symm.trans (findShare_pk hf0)
      subst hpk
      cases hf.symm.trans hf0
      exact ⟨ops, by rw [ho]⟩
    · cases hf.symm.trans hgone
  | liquidated owner ops | reactivated owner ops =>
    rw [clusterEffect_of_sync r owner ops _ hs] at hgone
    change findShare (setLiquidated _ _ r.shares) pk = none at hgone
    rw [findShare_setLiquidated, hf] at hgone
    cases hgone
  | _ => cases hf.symm.trans hgone

theorem Effect.prov {me : Nat} {r r' : RegMem} {e : Event} (he : Effect me r e r') {n0 ops0 evs}
    (hs : SharesSync r) (hp : Prov n0 ops0 evs r.txn r.shares) : Prov n0 ops0 (evs ++ [e]) r'.txn r'.shares where
  nonce o := he.nonce_after (hp.nonce o)
  ops := he.opsProv hp.ops
  shares := he.sharesProv hs hp

/-- the commit copies the transaction to the database and changes only the marker, of which `Prov` does not speak -/
theorem Prov.commit {n0 ops0 evs} {r : RegMem}
    (h : Prov n0 ops0 evs r.txn r.shares) (m : Nat) : Prov n0 ops0 evs (commitReg r m).db (commitReg r m).shares :=
  ⟨h.nonce, h.ops, h.shares⟩

theorem run_addSound (me : Nat) (n : Node) (bs : List Block) (hb : RegBoundary n.reg) (hempty : n.reg.db.shares = [])
    (hok : (run me n bs).2 = true) :
    SharesProv (fun o => nextNonce n.reg.db.recips o) n.reg.db.ops (flatten bs) (run me n bs).1.reg.shares := by
  have := run_induction me
    (fun evs x => RegBoundary x.reg ∧ Prov (fun o => nextNonce n.reg.db.recips o) n.reg.db.ops evs x.reg.db x.reg.shares)
    (fun evs x => SharesSync x.reg ∧ Prov (fun o => nextNonce n.reg.db.recips o) n.reg.db.ops evs x.reg.txn x.reg.shares)
    -- `beginTxn` copies the database to the transaction
    (fun _ _ h => ⟨h.1.begin, h.2⟩)
    (fun _ x blk e h _ => by
      rw [applyEvent_reg]
      have he := regEvent_effect me blk x.reg e
      exact ⟨he.sync h.1, he.prov h.1 h.2⟩)
    (fun _ _ m h => ⟨h.1.commit m, h.2.commit m⟩)
    bs n
    ⟨hb, { nonce := fun o => (Nat.mod_eq_of_lt (nextNonce_lt _ _)).symm
           ops := fun _ h => Or.inl h
           shares := fun pk sh hf => by rw [hb.shares, hempty] at hf; cases hf }⟩
    hok
  exact this.2.shares

end Ssv.Registry
