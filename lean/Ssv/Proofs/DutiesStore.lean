/- Two general facts (the `if` rule under a predicate, `filter`/`map` congruence); slot/epoch arithmetic; the duty
   store as a list without two descriptors of the same key. -/
import Ssv.Proofs.DutiesSpec

namespace Ssv.Duties

theorem ite_elim {α : Sort _} {P : α → Prop} {c : Prop} [Decidable c] {a b : α} (ha : c → P a) (hb : ¬c → P b) :
    P (if c then a else b) := by
  by_cases h : c
  · rw [if_pos h]; exact ha h
  · rw [if_neg h]; exact hb h

theorem filter_map_congr {α β : Type} {l : List α} {p q : α → Bool} {f g : α → β} (hpq : ∀ a, p a = q a)
    (hfg : ∀ a, q a = true → f a = g a) : (l.filter p).map f = (l.filter q).map g := by
  rw [show p = q from funext hpq]
  exact List.map_congr_left fun a ha => hfg a (List.mem_filter.mp ha).2

theorem mod_le_of_same_div {spe r t : Nat} (h : r / spe = t / spe) (hle : r ≤ t) : r % spe ≤ t % spe := by
  rw [Nat.mod_def r, Nat.mod_def t, h]
  exact Nat.sub_le_sub_right hle _

theorem div_lt_of_last {spe t0 t : Nat} (hs : 0 < spe) (h : t0 % spe = spe - 1) (hlt : t0 < t) :
    t0 / spe < t / spe := by
  -- `t0 + 1` is the first slot of the next epoch
  have h1 := Nat.div_add_mod t0 spe
  rw [h] at h1
  apply (Nat.le_div_iff_mul_le hs).mpr
  rw [Nat.succ_mul, Nat.mul_comm]
  calc spe * (t0 / spe) + spe = spe * (t0 / spe) + (spe - 1) + 1 := by rw [Nat.add_assoc, Nat.sub_add_cancel hs]
    _ = t0 + 1 := by rw [h1]
    _ ≤ t := hlt

theorem epoch_mono (n : Net) {a b : Nat} (h : a ≤ b) : n.epoch a ≤ n.epoch b := Nat.div_le_div_right h
theorem period_mono (n : Net) {a b : Nat} (h : a ≤ b) : n.period a ≤ n.period b := Nat.div_le_div_right h
theorem periodOfSlot_mono (n : Net) {a b : Nat} (h : a ≤ b) : n.periodOfSlot a ≤ n.periodOfSlot b :=
  period_mono n (epoch_mono n h)
theorem keyOf_mono (k : Kind) (n : Net) {a b : Nat} (h : a ≤ b) : keyOf k n a ≤ keyOf k n b := by
  cases k <;> simp only [keyOf]
  · exact epoch_mono n h
  · exact epoch_mono n h
  · exact periodOfSlot_mono n h

/-- inside one epoch `shouldFetchNexEpoch` stays true once it is true -/
theorem attShould_mono (n : Net) {r t : Nat} (he : n.epoch r = n.epoch t) (hle : r ≤ t)
    (h : attShouldFetchNext n r = true) : attShouldFetchNext n t = true := by
  have := mod_le_of_same_div he hle
  simp only [attShouldFetchNext, decide_eq_true_eq] at h ⊢
  exact Nat.lt_of_lt_of_le h this

theorem sameKey_iff {a b : Entry} : a.sameKey b = true ↔ a.ep = b.ep ∧ a.slot = b.slot ∧ a.vidx = b.vidx := by
  simp [Entry.sameKey, and_assoc]

theorem sameKey_false_iff {a b : Entry} : a.sameKey b = false ↔ ¬ (a.ep = b.ep ∧ a.slot = b.slot ∧ a.vidx = b.vidx) := by
  rw [← sameKey_iff]; simp

theorem sameKey_comm (a b : Entry) : a.sameKey b = b.sameKey a := by
  rw [Bool.eq_iff_iff, sameKey_iff, sameKey_iff]
  constructor <;> exact fun ⟨hep, hslot, hvidx⟩ => ⟨hep.symm, hslot.symm, hvidx.symm⟩

theorem mem_add {s : Store} {e x : Entry} : x ∈ s.add e ↔ (x ∈ s ∧ x.sameKey e = false) ∨ x = e := by
  simp [Store.add, List.mem_filter]

theorem mem_reset {s : Store} {ep : Nat} {x : Entry} : x ∈ s.reset ep ↔ x ∈ s ∧ x.ep ≠ ep := by
  simp [Store.reset, List.mem_filter]

theorem mem_slotDuties {s : Store} {ep slot : Nat} {x : Entry} :
    x ∈ s.slotDuties ep slot ↔ x ∈ s ∧ x.ep = ep ∧ x.slot = slot ∧ x.inC = true := by
  simp [Store.slotDuties, List.mem_filter, and_assoc]

theorem mem_periodDuties {s : Store} {p : Nat} {x : Entry} :
    x ∈ s.periodDuties p ↔ x ∈ s ∧ x.ep = p ∧ x.inC = true := by
  simp [Store.periodDuties, List.mem_filter]

/-- no two descriptors share a key (what a Go map guarantees) -/
def KeyNodup (s : Store) : Prop := s.Pairwise (fun a b => a.sameKey b = false)

theorem keyNodup_nil : KeyNodup [] := List.Pairwise.nil

theorem keyNodup_reset {s : Store} (ep : Nat) (h : KeyNodup s) : KeyNodup (s.reset ep) :=
  List.Pairwise.filter _ h

theorem keyNodup_add {s : Store} (e : Entry) (h : KeyNodup s) : KeyNodup (s.add e) := by
  unfold Store.add KeyNodup
  rw [List.pairwise_append]
  refine ⟨List.Pairwise.filter _ h, List.pairwise_singleton _ _, ?_⟩
  intro a ha b hb
  simp only [List.mem_singleton] at hb
  subst hb
  simpa [List.mem_filter] using (List.mem_filter.mp ha).2

theorem addAll_nil (s : Store) (mk : Duty → Entry) : s.addAll mk [] = s := rfl
theorem addAll_cons (s : Store) (mk : Duty → Entry) (d : Duty) (ds : List Duty) :
    s.addAll mk (d :: ds) = (s.add (mk d)).addAll mk ds := rfl

theorem keyNodup_addAll (mk : Duty → Entry) (ds : List Duty) : ∀ {s : Store}, KeyNodup s → KeyNodup (s.addAll mk ds) := by
  induction ds with
  | nil => intro s h; exact h
  | cons d ds ih => intro s h; rw [addAll_cons]; exact ih (keyNodup_add _ h)

theorem mem_addAll_of_mem (mk : Duty → Entry) (ds : List Duty) : ∀ {s : Store} {x : Entry}, x ∈ s →
    (∀ d ∈ ds, x.sameKey (mk d) = false) → x ∈ s.addAll mk ds := by
  induction ds with
  | nil => intro s x h _; exact h
  | cons d ds ih =>
    intro s x h hk
    rw [addAll_cons]
    apply ih
    · exact mem_add.mpr (Or.inl ⟨h, hk d (List.mem_cons_self ..)⟩)
    · intro d' hd'; exact hk d' (List.mem_cons_of_mem _ hd')

theorem mem_addAll_inv (mk : Duty → Entry) (ds : List Duty) : ∀ {s : Store} {x : Entry}, x ∈ s.addAll mk ds →
    x ∈ s ∨ ∃ d ∈ ds, x = mk d := by
  induction ds with
  | nil => intro s x h; exact Or.inl h
  | cons d ds ih =>
    intro s x h
    rw [addAll_cons] at h
    rcases ih h with h1 | ⟨d', hd', rfl⟩
    · rcases mem_add.mp h1 with ⟨h2, _⟩ | rfl
      · exact Or.inl h2
      · exact Or.inr ⟨d, List.mem_cons_self .., rfl⟩
    · exact Or.inr ⟨d', List.mem_cons_of_mem _ hd', rfl⟩

/-- with pairwise distinct keys every added descriptor is present afterwards -/
theorem mem_addAll_self (mk : Duty → Entry) (key : Duty → Nat × Nat)
    (hinj : ∀ d d', (mk d).sameKey (mk d') = true → key d = key d') (ds : List Duty) :
    ∀ {s : Store}, (ds.map key).Nodup → ∀ d ∈ ds, mk d ∈ s.addAll mk ds := by
  induction ds with
  | nil => intro s _ d hd; cases hd
  | cons d0 ds ih =>
    intro s hnd d hd
    rw [addAll_cons]
    rw [List.map_cons, List.nodup_cons] at hnd
    rcases List.mem_cons.mp hd with rfl | hd'
    · apply mem_addAll_of_mem
      · exact mem_add.mpr (Or.inr rfl)
      · intro d' hd'
        cases hsk : (mk d).sameKey (mk d') with
        | false => rfl
        | true =>
          exfalso
          apply hnd.1
          rw [hinj d d' hsk]
          exact List.mem_map_of_mem hd'
    · exact ih hnd.2 d hd'

end Ssv.Duties
