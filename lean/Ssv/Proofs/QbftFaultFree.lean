/-
Helper lemmas for C07 (b): the fault-free synchronous first round, generically in the committee: lemmas about the k-th
prepare / commit of distinct single signers for an arbitrary state, and an invariant (`Phase`) carried along the schedule.
For C07 (a): the exact step of a round timeout.
Core Lean only.
-/
import Ssv.Proofs.QbftCert

namespace Ssv.Qbft

/-- what the correct operators share in a fault-free run of height `h`: committee, quorum, identifier, cut-off, the
    round-1 leader `L` and its (valid) start value `v` -/
structure FF (cfg : Cfg) (h L v : Nat) : Prop where
  nodup : cfg.committee.Nodup
  nozero : 0 ∉ cfg.committee
  own : cfg.own ∈ cfg.committee
  identNZ : cfg.ident ≠ 0
  q1 : 1 ≤ cfg.quorum
  qn : cfg.quorum ≤ cfg.committee.length
  cutoff : 1 < cfg.cutoff
  leader : cfg.proposer h firstRound = some L
  leaderIn : L ∈ cfg.committee
  value : cfg.valOk v = true

/-- the message an honest operator `j` signs -/
def hMsg (cfg : Cfg) (j type h root full : Nat) : Msg :=
  { type := type, height := h, round := firstRound, ident := cfg.ident, root := root, dataRound := noRound,
    signers := [j], sigOk := true, malformed := false, mid := 0, rcJust := [], prepJust := [], fullData := full }

def ffProposal (cfg : Cfg) (h L v : Nat) : Msg := hMsg cfg L tProposal h (hashData v) v
def ffPrepare (cfg : Cfg) (h v j : Nat) : Msg := hMsg cfg j tPrepare h (hashData v) 0
def ffCommit (cfg : Cfg) (h v j : Nat) : Msg := hMsg cfg j tCommit h (hashData v) 0

theorem ff_messages_are_own (cfg : Cfg) (h v : Nat) (s : State) (hs : s.height = h) (hr : s.round = firstRound) :
    createProposal cfg s v [] [] = ffProposal cfg h cfg.own v ∧
    createPrepare cfg s firstRound (hashData v) = ffPrepare cfg h v cfg.own ∧
    createCommit cfg s (hashData v) = ffCommit cfg h v cfg.own := by
  simp [createProposal, createPrepare, createCommit, ownMsg, ffProposal, ffPrepare, ffCommit, hMsg, hs, hr]

theorem canProcess_round1 (cfg : Cfg) (s : State) (hc : 1 < cfg.cutoff) (hr : s.round = firstRound) (hf : s.forceStop = false) :
    canProcess cfg s = true := by
  unfold canProcess
  rw [hr, hf]
  have : toInt64 firstRound = 1 := by decide
  rw [this]
  simp
  omega

theorem hMsg_valid {cfg : Cfg} {h L v j : Nat} (ff : FF cfg h L v) (hj : j ∈ cfg.committee) (t root full : Nat)
    (ht : t ≤ tRoundChange) :
    signedValidate (hMsg cfg j t h root full).toBase = .ok () ∧ cfg.verifySig (hMsg cfg j t h root full).toBase = true := by
  have hj0 : (j == 0) = false := by simpa using fun e : j = 0 => ff.nozero (e ▸ hj)
  have hi : (cfg.ident == 0) = false := by simpa using ff.identNZ
  have ht' : decide (t > tRoundChange) = false := by simpa using ht
  constructor
  · -- the signer list `[j]` is not empty, the loop sees `j ≠ 0` once (`hj0`), then identifier (`hi`), `malformed := false`, type (`ht'`)
    simp [signedValidate, messageValidate, hMsg, validateSignersLoop, rejectIf, hj0, hi, ht']
  · simp [Cfg.verifySig, hMsg, hj]

theorem baseMsgValidation_of {cfg : Cfg} {s : State} {m p : Msg} (hsv : signedValidate m.toBase = .ok ())
    (hvs : cfg.verifySig m.toBase = true) (ht : m.type = tPrepare ∨ m.type = tCommit) (hone : m.signers.length = 1)
    (hh : m.height = s.height) (hr : m.round = s.round) (ha : s.accepted = some p) (hroot : p.root = m.root) :
    baseMsgValidation cfg s m = .ok () := by
  -- every guard is answered by a hypothesis: `Validate` (`hsv`), not a past round (`hr`), the branch of the type (`ht`; the three
  -- `Gen` constants let `simp` decide the `==` tests between type codes), an accepted proposal (`ha`); inside the branch type,
  -- height (`hh`), round (`hr`), `Validate` again, root (`hroot`), one signer (`hone`), signature (`hvs`)
  rcases ht with ht | ht <;>
    simp [baseMsgValidation, validSignedPrepare, validateCommit, baseCommitValidation, rejectIf, wrap, hsv, hvs, ht, hone,
      hh, hr, ha, hroot, Gen.qbft_ProposalMsgType, Gen.qbft_PrepareMsgType, Gen.qbft_CommitMsgType]

theorem baseMsgValidation_of_proposal {cfg : Cfg} {s : State} {m : Msg} {l : Nat} (hsv : signedValidate m.toBase = .ok ())
    (hvs : cfg.verifySig m.toBase = true) (ht : m.type = tProposal) (hh : m.height = s.height) (hr : s.round = m.round)
    (hl : cfg.proposer s.height m.round = some l) (hs : m.signers = [l]) (hhash : hashData m.fullData = m.root)
    (hj : isProposalJustification cfg s.height m.rcJust m.prepJust s.height m.round m.fullData = .ok ())
    (ha : s.accepted = none) : baseMsgValidation cfg s m = .ok () := by
  -- `Validate` (`hsv`), not a past round (`hr`), the proposal branch (`ht`); in it type, height (`hh`), one signer (`hs`), signature
  -- (`hvs`), the leader (`hl`, `hs`), `Validate`, hash (`hhash`), justification (`hj`), nothing accepted in this round (`ha`, `hr`)
  simp [baseMsgValidation, isValidProposal, rejectIf, wrap, matchedSigners, hsv, hvs, ht, hh, hr, hl, hs, hhash, hj, ha]

theorem sendOr_running {cfg : Cfg} {s : State} (hcp : canProcess cfg s = true) (a : Atom) (m : Msg) (pre : List Out) :
    sendOr cfg s a m pre = okStep s (pre ++ [.bcast m]) := by
  unfold sendOr broadcast
  rw [hcp]
  rfl

theorem uniq_of_nodup (l : List Nat) (h : l.Nodup) : uniq l = l := by
  induction l with
  | nil => rfl
  | cons a l ih =>
    have ⟨ha, hl⟩ := List.nodup_cons.1 h
    simp [uniq, ha, ih hl]

theorem uniqueCount_of_nodup (l : List Nat) (h : l.Nodup) : uniqueCount l = l.length := by
  unfold uniqueCount; rw [uniq_of_nodup l h]

theorem signersOf_map_single (f : Nat → Msg) (hf : ∀ j, (f j).signers = [j]) (l : List Nat) : signersOf (l.map f) = l := by
  induction l with
  | nil => rfl
  | cons a l ih =>
    simp only [signersOf, List.map_cons, List.flatMap_cons, hf] at ih ⊢
    simp [ih]

theorem forRound_map_all (f : Nat → Msg) (r : Nat) (hf : ∀ j, (f j).round = r) (l : List Nat) : forRound (l.map f) r = l.map f := by
  unfold forRound
  apply List.filter_eq_self.2
  intro m hm
  obtain ⟨j, _, rfl⟩ := List.mem_map.1 hm
  simp [hf]

theorem addFirst_map_single (f : Nat → Msg) (r : Nat) (hf : ∀ j, (f j).signers = [j]) (hr : ∀ j, (f j).round = r)
    (l : List Nat) (j : Nat) (hnd : (l ++ [j]).Nodup) : addFirst (l.map f) (f j) = ((l ++ [j]).map f, true) := by
  have hj : j ∉ l := fun hm => (List.nodup_append.1 hnd).2.2 j hm j (List.mem_singleton_self j) rfl
  unfold addFirst
  rw [hr j, forRound_map_all f r hr l]
  have : (l.map f).any (fun e => matchedSigners e.signers (f j).signers) = false := by
    rw [List.any_eq_false]
    intro m hm
    obtain ⟨x, hx, rfl⟩ := List.mem_map.1 hm
    intro hc
    rw [hf, hf] at hc
    exact hj (List.singleton_inj.1 (matchedSigners_singleton _ _ hc) ▸ hx)
  simp [this]

theorem hasQuorum_map_single (cfg : Cfg) (f : Nat → Msg) (r : Nat) (hsig : ∀ x, (f x).signers = [x])
    (hrnd : ∀ x, (f x).round = r) (l : List Nat) (hn : l.Nodup) :
    cfg.hasQuorum (signersOf (forRound (l.map f) r)) = decide (cfg.quorum ≤ l.length) := by
  rw [forRound_map_all f r hrnd, signersOf_map_single f hsig, Cfg.hasQuorum, uniqueCount_of_nodup l hn]

/-- The k-th prepare of the round from a new signer, the earlier ones being those of `ps`: it is stored, and exactly the one
    that completes the quorum makes the instance lock the accepted proposal's value and send its commit. -/
theorem uponPrepare_kth (cfg : Cfg) (s : State) (f : Nat → Msg) (hsig : ∀ x, (f x).signers = [x])
    (hrnd : ∀ x, (f x).round = s.round) (ps : List Nat) (j : Nat) (hnd : (ps ++ [j]).Nodup) (hp : s.prepare = ps.map f)
    {p : Msg} (ha : s.accepted = some p) :
    uponPrepare cfg s (f j) =
      if ps.length + 1 = cfg.quorum then
        sendOr cfg { s with prepare := (ps ++ [j]).map f, lastPreparedValue := p.fullData, lastPreparedRound := s.round }
          .bcastCommitFailed (createCommit cfg s p.root) []
      else okStep { s with prepare := (ps ++ [j]).map f } [] := by
  unfold uponPrepare
  rw [hp, addFirst_map_single f s.round hsig hrnd ps j hnd]
  dsimp only
  rw [hasQuorum_map_single cfg f s.round hsig hrnd ps (List.nodup_append.1 hnd).1,
    hasQuorum_map_single cfg f s.round hsig hrnd (ps ++ [j]) hnd, ha, List.length_append, List.length_singleton]
  by_cases h1 : cfg.quorum ≤ ps.length
  · rw [if_neg (by omega : ¬ ps.length + 1 = cfg.quorum), decide_eq_true h1]
    rfl
  · by_cases h2 : ps.length + 1 = cfg.quorum
    · rw [if_pos h2, decide_eq_false h1, decide_eq_true (by omega : cfg.quorum ≤ ps.length + 1)]
      rfl
    · rw [if_neg h2, decide_eq_false h1, decide_eq_false (by omega : ¬ cfg.quorum ≤ ps.length + 1)]
      rfl

theorem greedyDisjoint_all (f : Nat → Msg) (hf : ∀ j, (f j).signers = [j]) (acc : List Msg) (sg : List Nat) (l : List Nat)
    (hn : (sg ++ l).Nodup) : greedyDisjoint acc sg (l.map f) = (acc ++ l.map f, sg ++ l) := by
  induction l generalizing acc sg with
  | nil => simp [greedyDisjoint]
  | cons a l ih =>
    have ha : a ∉ sg := fun h => (List.nodup_append.1 hn).2.2 a h a List.mem_cons_self rfl
    simp only [List.map_cons, greedyDisjoint, hf]
    rw [(commonSigners_eq_false [a] sg).2 fun x hx => List.eq_of_mem_singleton hx ▸ ha]
    simp only [Bool.false_eq_true, if_false]
    rw [ih (acc ++ [f a]) (sg ++ [a]) (List.append_cons sg a l ▸ hn)]
    simp

theorem longestFrom_all (f : Nat → Msg) (hf : ∀ j, (f j).signers = [j]) (l : List Nat) (hn : l.Nodup) :
    longestFrom (l.map f) = (l, l.map f) := by
  induction l with
  | nil => rfl
  | cons a l ih =>
    simp only [List.map_cons, longestFrom, hf]
    rw [greedyDisjoint_all f hf [f a] [a] l hn, ih (List.nodup_cons.1 hn).2]
    simp

theorem aggregateLoop_all (cfg : Cfg) (h v : Nat) (ret : Msg) (l : List Nat)
    (hret : ∀ x, ret.sameSignedMessage (ffCommit cfg h v x) = true) (hn : (ret.signers ++ l).Nodup) :
    aggregateLoop ret (l.map (ffCommit cfg h v)) =
      .ok { ret with signers := ret.signers ++ l, sigOk := ret.sigOk, mid := if l.isEmpty then ret.mid else 0 } := by
  induction l generalizing ret with
  | nil => simp [aggregateLoop, pure, Except.pure]
  | cons a l ih =>
    have ha : a ∉ ret.signers := fun h => (List.nodup_append.1 hn).2.2 a h a List.mem_cons_self rfl
    have hn' : (ret.signers ++ [a] ++ l).Nodup := List.append_cons ret.signers a l ▸ hn
    have hc : commonSigners ret.signers (ffCommit cfg h v a).signers = false :=
      (commonSigners_eq_false _ _).2 fun s hs e => ha (List.eq_of_mem_singleton e ▸ hs)
    simp only [List.map_cons, aggregateLoop, hc, Bool.false_eq_true, if_false, hret a, Bool.not_true]
    rw [ih]
    · simp [ffCommit, hMsg]
    · exact fun x => hret x
    · exact hn'

/-- the certificate aggregated from the commits of `l` -/
def ffAggregate (cfg : Cfg) (h v : Nat) (l : List Nat) : Msg :=
  { ffCommit cfg h v 0 with signers := sortNat l, fullData := v }

theorem aggregate_ff (cfg : Cfg) (h v : Nat) : ∀ l : List Nat, l ≠ [] → l.Nodup →
    aggregateCommitMsgs (l.map (ffCommit cfg h v)) v = .ok (ffAggregate cfg h v l)
  | a :: l, _, hn => by
    simp only [List.map_cons, aggregateCommitMsgs]
    rw [aggregateLoop_all cfg h v { ffCommit cfg h v a with mid := 0 } l (by intro x; simp [Msg.sameSignedMessage, ffCommit, hMsg]) hn]
    simp [bind, Except.bind, pure, Except.pure, ffAggregate, ffCommit, hMsg]

theorem longestUniqueSigners_map_single (f : Nat → Msg) (hsig : ∀ x, (f x).signers = [x]) (r root : Nat)
    (hrnd : ∀ x, (f x).round = r) (hroot : ∀ x, (f x).root = root) (l : List Nat) (hn : l.Nodup) :
    longestUniqueSigners (l.map f) r root = (l, l.map f) := by
  unfold longestUniqueSigners
  rw [forRound_map_all f r hrnd, List.filter_eq_self.2, longestFrom_all f hsig l hn]
  intro m hm
  obtain ⟨x, _, rfl⟩ := List.mem_map.1 hm
  rw [hroot, beq_self_eq_true]

/-- The k-th commit of the round from a new signer, the earlier ones being those of `cs`: it is stored; from the one that
    completes the quorum on, the instance returns the aggregate of all of them and is decided on the accepted proposal's value. -/
theorem uponCommit_kth (cfg : Cfg) (h v : Nat) (s : State) (cs : List Nat) (j : Nat) (hnd : (cs ++ [j]).Nodup)
    (hc : s.commit = cs.map (ffCommit cfg h v)) {p : Msg} (ha : s.accepted = some p)
    (hp : p.fullData = v) :
    uponCommit cfg s (ffCommit cfg h v j) =
      if cfg.quorum ≤ cs.length + 1 then
        ⟨{ s with commit := (cs ++ [j]).map (ffCommit cfg h v), decided := true, decidedValue := v }, [],
         .ok true v (some (ffAggregate cfg h v (cs ++ [j])))⟩
      else okStep { s with commit := (cs ++ [j]).map (ffCommit cfg h v) } [] := by
  unfold uponCommit
  rw [hc, addFirst_map_single (ffCommit cfg h v) firstRound (fun _ => rfl) (fun _ => rfl) cs j hnd]
  dsimp only
  rw [longestUniqueSigners_map_single (ffCommit cfg h v) (fun _ => rfl) (ffCommit cfg h v j).round (ffCommit cfg h v j).root (fun _ => rfl)
    (fun _ => rfl) _ hnd, ha]
  dsimp only
  rw [hp, aggregate_ff cfg h v (cs ++ [j]) (by simp) hnd, List.length_append, List.length_singleton]
  by_cases hq : cfg.quorum ≤ cs.length + 1
  · rw [if_pos hq, decide_eq_true hq]
    rfl
  · rw [if_neg hq, decide_eq_false hq]
    rfl

/-- An operator in the fault-free round 1 of height `h`: it has accepted the leader's proposal and holds the prepares of `ps`
    and the commits of `cs` (arrival order); it is locked on (1, v) once the prepares are a quorum and decided on `v` once
    the commits are. -/
structure Phase (cfg : Cfg) (h L v : Nat) (ps cs : List Nat) (s : State) : Prop where
  round : s.round = firstRound
  height : s.height = h
  running : s.forceStop = false
  accepted : s.accepted = some (ffProposal cfg h L v)
  prepare : s.prepare = ps.map (ffPrepare cfg h v)
  commit : s.commit = cs.map (ffCommit cfg h v)
  lock : cfg.quorum ≤ ps.length → s.lastPreparedRound = firstRound ∧ s.lastPreparedValue = v
  decided : s.decided = decide (cfg.quorum ≤ cs.length)
  value : s.decidedValue = if cfg.quorum ≤ cs.length then v else 0

section
variable {cfg : Cfg} {h L v : Nat}

theorem Phase.canProcess (ff : FF cfg h L v) {ps cs : List Nat} {s : State} (hs : Phase cfg h L v ps cs s) :
    canProcess cfg s = true :=
  canProcess_round1 cfg s ff.cutoff hs.round hs.running

/-- the state of an operator right after `Start` -/
def ffStarted (h vi : Nat) : State :=
  { newInstance h with started := true, startValue := vi, round := firstRound, height := h }

theorem ff_start (ff : FF cfg h L v) (vi : Nat) :
    start cfg (newInstance h) vi h =
      ⟨ffStarted h vi, [.timer h firstRound] ++ (if L = cfg.own then [.bcast (ffProposal cfg h cfg.own vi)] else []),
       .ok false 0 none⟩ := by
  have hcp : canProcess cfg (ffStarted h vi) = true := canProcess_round1 cfg _ ff.cutoff rfl rfl
  simp only [ffStarted, newInstance] at hcp
  unfold start
  simp only [newInstance, Bool.false_eq_true, if_false, ff.leader, broadcast, hcp, if_true]
  by_cases hown : L = cfg.own
  · rw [if_pos hown, if_pos (by rw [hown, beq_self_eq_true])]
    rfl
  · rw [if_neg hown, if_neg (by simpa using hown)]
    rfl

theorem ff_accept_proposal (ff : FF cfg h L v) (vi : Nat) :
    Phase cfg h L v [] [] (processMsg cfg (ffStarted h vi) (ffProposal cfg h L v)).st ∧
    (processMsg cfg (ffStarted h vi) (ffProposal cfg h L v)).outs = [.bcast (ffPrepare cfg h v cfg.own)] ∧
    (processMsg cfg (ffStarted h vi) (ffProposal cfg h L v)).res = .ok false 0 none := by
  obtain ⟨hsv, hvs⟩ := hMsg_valid ff ff.leaderIn tProposal (hashData v) v (by decide)
  have hq : ¬ cfg.quorum ≤ 0 := Nat.not_le.2 ff.q1
  have hj : isProposalJustification cfg h [] [] h firstRound v = .ok () := by
    simp [isProposalJustification, rejectIf, ff.value]
  have hbv : baseMsgValidation cfg (ffStarted h vi) (ffProposal cfg h L v) = .ok () :=
    baseMsgValidation_of_proposal hsv hvs rfl rfl rfl ff.leader rfl rfl hj rfl
  rw [processMsg_proposal (canProcess_round1 cfg _ ff.cutoff rfl rfl) hbv rfl]
  unfold uponProposal
  rw [show addFirst (ffStarted h vi).propose (ffProposal cfg h L v) = ([ffProposal cfg h L v], true) from rfl]
  dsimp only
  rw [sendOr_running (canProcess_round1 cfg _ ff.cutoff rfl rfl)]
  exact ⟨⟨rfl, rfl, rfl, rfl, rfl, rfl, fun h => absurd h hq, (decide_eq_false hq).symm, (if_neg hq).symm⟩, rfl, rfl⟩

theorem ff_prepare_step (ff : FF cfg h L v) {ps : List Nat} {j : Nat} {s : State} (hs : Phase cfg h L v ps [] s)
    (hnd : (ps ++ [j]).Nodup) (hj : j ∈ cfg.committee) :
    Phase cfg h L v (ps ++ [j]) [] (processMsg cfg s (ffPrepare cfg h v j)).st ∧
    (processMsg cfg s (ffPrepare cfg h v j)).outs =
      (if ps.length + 1 = cfg.quorum then [.bcast (ffCommit cfg h v cfg.own)] else []) ∧
    (processMsg cfg s (ffPrepare cfg h v j)).res = .ok false 0 none := by
  obtain ⟨hsv, hvs⟩ := hMsg_valid ff hj tPrepare (hashData v) 0 (by decide)
  have hbv : baseMsgValidation cfg s (ffPrepare cfg h v j) = .ok () :=
    baseMsgValidation_of hsv hvs (.inl rfl) rfl hs.height.symm hs.round.symm hs.accepted rfl
  have hq0 : ¬ cfg.quorum ≤ ([] : List Nat).length := Nat.not_le.2 ff.q1
  have hres : Outcome.ok s.decided s.decidedValue none = .ok false 0 none := by
    rw [hs.decided, hs.value, decide_eq_false hq0, if_neg hq0]
  rw [processMsg_prepare (hs.canProcess ff) hbv rfl,
    uponPrepare_kth cfg s (ffPrepare cfg h v) (fun _ => rfl) (fun _ => hs.round.symm) ps j hnd hs.prepare hs.accepted]
  by_cases hq : ps.length + 1 = cfg.quorum
  · rw [if_pos hq, if_pos hq, sendOr_running]
    · obtain ⟨_, _, hcommit⟩ := ff_messages_are_own cfg h v s hs.height hs.round
      exact ⟨{ hs with prepare := rfl, lock := fun _ => ⟨hs.round, rfl⟩ }, congrArg (fun m => [Out.bcast m]) hcommit, hres⟩
    · exact canProcess_round1 cfg _ ff.cutoff hs.round hs.running
  · rw [if_neg hq, if_neg hq]
    refine ⟨{ hs with prepare := rfl, lock := fun hle => hs.lock ?_ },
      rfl, hres⟩
    rw [List.length_append, List.length_singleton] at hle
    omega

theorem ff_commit_step (ff : FF cfg h L v) {ps cs : List Nat} {j : Nat} {s : State} (hs : Phase cfg h L v ps cs s)
    (hnd : (cs ++ [j]).Nodup) (hj : j ∈ cfg.committee) :
    Phase cfg h L v ps (cs ++ [j]) (processMsg cfg s (ffCommit cfg h v j)).st ∧
    (processMsg cfg s (ffCommit cfg h v j)).outs = [] ∧
    (processMsg cfg s (ffCommit cfg h v j)).res =
      (if cfg.quorum ≤ cs.length + 1 then .ok true v (some (ffAggregate cfg h v (cs ++ [j]))) else .ok false 0 none) := by
  obtain ⟨hsv, hvs⟩ := hMsg_valid ff hj tCommit (hashData v) 0 (by decide)
  have hbv : baseMsgValidation cfg s (ffCommit cfg h v j) = .ok () :=
    baseMsgValidation_of hsv hvs (.inr rfl) rfl hs.height.symm hs.round.symm hs.accepted rfl
  have hlen : (cs ++ [j]).length = cs.length + 1 := by rw [List.length_append, List.length_singleton]
  rw [processMsg_commit (hs.canProcess ff) hbv rfl, uponCommit_kth cfg h v s cs j hnd hs.commit hs.accepted rfl]
  by_cases hq : cfg.quorum ≤ cs.length + 1
  · rw [if_pos hq, if_pos hq]
    exact ⟨{ hs with commit := rfl, decided := (decide_eq_true (hlen ▸ hq)).symm, value := (if_pos (hlen ▸ hq)).symm },
      rfl, rfl⟩
  · have hq' : ¬ cfg.quorum ≤ cs.length := fun hle => hq (Nat.le_succ_of_le hle)
    rw [if_neg hq, if_neg hq]
    refine ⟨{ hs with commit := rfl, decided := ?_, value := ?_ }, rfl, ?_⟩
    · exact hs.decided.trans ((decide_eq_false hq').trans (decide_eq_false (hlen ▸ hq)).symm)
    · exact hs.value.trans ((if_neg hq').trans (if_neg (hlen ▸ hq)).symm)
    · show Outcome.ok s.decided s.decidedValue none = _
      rw [hs.decided, hs.value, decide_eq_false hq', if_neg hq']

end

/-- observations of delivering the prepares of the list one after the other, `k` prepares having been delivered before -/
def ffPrepareObs (cfg : Cfg) (h v : Nat) : Nat → List Nat → List IObs
  | _, [] => []
  | k, _ :: rest =>
    ⟨if k + 1 = cfg.quorum then [.bcast (ffCommit cfg h v cfg.own)] else [], .ok false 0 none⟩ :: ffPrepareObs cfg h v (k + 1) rest

def ffCommitObs (cfg : Cfg) (h v : Nat) : List Nat → List Nat → List IObs
  | _, [] => []
  | done, j :: rest =>
    ⟨[], if cfg.quorum ≤ done.length + 1 then .ok true v (some (ffAggregate cfg h v (done ++ [j]))) else .ok false 0 none⟩ ::
      ffCommitObs cfg h v (done ++ [j]) rest

theorem runI_append (cfg : Cfg) (s : State) (a b : List IOp) :
    runI cfg s (a ++ b) = ((runI cfg (runI cfg s a).1 b).1, (runI cfg s a).2 ++ (runI cfg (runI cfg s a).1 b).2) := by
  induction a generalizing s with
  | nil => simp [runI]
  | cons op rest ih =>
    simp only [List.cons_append, runI, ih]
    cases (stepI cfg s op).2 <;> simp

/-- the synchronous fault-free schedule of round 1 as seen by one operator: Start, the leader's proposal, everybody's
    prepare, everybody's commit (committee order) -/
def ffOps (cfg : Cfg) (h L v vi : Nat) : List IOp :=
  [IOp.start vi h, .deliver (ffProposal cfg h L v)] ++
  cfg.committee.map (fun j => IOp.deliver (ffPrepare cfg h v j)) ++
  cfg.committee.map (fun j => IOp.deliver (ffCommit cfg h v j))

/-- what the operator emits and returns, op by op, in the fault-free first round -/
def ffObs (cfg : Cfg) (h L v vi : Nat) : List IObs :=
  [⟨[.timer h firstRound] ++ (if L = cfg.own then [.bcast (ffProposal cfg h cfg.own vi)] else []), .ok false 0 none⟩,
   ⟨[.bcast (ffPrepare cfg h v cfg.own)], .ok false 0 none⟩] ++
  ffPrepareObs cfg h v 0 cfg.committee ++ ffCommitObs cfg h v [] cfg.committee

theorem runI_deliver (cfg : Cfg) (s : State) (m : Msg) (rest : List IOp) :
    runI cfg s (.deliver m :: rest) =
      ((runI cfg (processMsg cfg s m).st rest).1,
       ⟨(processMsg cfg s m).outs, (processMsg cfg s m).res⟩ :: (runI cfg (processMsg cfg s m).st rest).2) := rfl

theorem ff_prepares_run {cfg : Cfg} {h L v : Nat} (ff : FF cfg h L v) (l : List Nat) (hl : ∀ x ∈ l, x ∈ cfg.committee) :
    ∀ (ps : List Nat) (s : State), Phase cfg h L v ps [] s → (ps ++ l).Nodup →
      Phase cfg h L v (ps ++ l) [] (runI cfg s (l.map fun j => .deliver (ffPrepare cfg h v j))).1 ∧
      (runI cfg s (l.map fun j => .deliver (ffPrepare cfg h v j))).2 = ffPrepareObs cfg h v ps.length l := by
  induction l with
  | nil => exact fun ps s hs _ => ⟨(List.append_nil ps).symm ▸ hs, rfl⟩
  | cons j rest ih =>
    intro ps s hs hnd
    have hnd' : (ps ++ [j] ++ rest).Nodup := by rw [List.append_assoc]; exact hnd
    obtain ⟨h1, h2, h3⟩ := ff_prepare_step ff hs (List.nodup_append.1 hnd').1 (hl j List.mem_cons_self)
    obtain ⟨h4, h5⟩ := ih (fun x hx => hl x (List.mem_cons_of_mem _ hx)) _ _ h1 hnd'
    rw [List.map_cons, runI_deliver, h2, h3, h5, List.length_append]
    exact ⟨List.append_assoc ps [j] rest ▸ h4, rfl⟩

theorem ff_commits_run {cfg : Cfg} {h L v : Nat} (ff : FF cfg h L v) (ps l : List Nat) (hl : ∀ x ∈ l, x ∈ cfg.committee) :
    ∀ (cs : List Nat) (s : State), Phase cfg h L v ps cs s → (cs ++ l).Nodup →
      Phase cfg h L v ps (cs ++ l) (runI cfg s (l.map fun j => .deliver (ffCommit cfg h v j))).1 ∧
      (runI cfg s (l.map fun j => .deliver (ffCommit cfg h v j))).2 = ffCommitObs cfg h v cs l := by
  induction l with
  | nil => exact fun cs s hs _ => ⟨(List.append_nil cs).symm ▸ hs, rfl⟩
  | cons j rest ih =>
    intro cs s hs hnd
    have hnd' : (cs ++ [j] ++ rest).Nodup := by rw [List.append_assoc]; exact hnd
    obtain ⟨h1, h2, h3⟩ := ff_commit_step ff hs (List.nodup_append.1 hnd').1 (hl j List.mem_cons_self)
    obtain ⟨h4, h5⟩ := ih (fun x hx => hl x (List.mem_cons_of_mem _ hx)) _ _ h1 hnd'
    rw [List.map_cons, runI_deliver, h2, h3, h5]
    exact ⟨List.append_assoc cs [j] rest ▸ h4, rfl⟩

theorem ff_round1_run {cfg : Cfg} {h L v : Nat} (ff : FF cfg h L v) (vi : Nat) :
    Phase cfg h L v cfg.committee cfg.committee (runI cfg (newInstance h) (ffOps cfg h L v vi)).1 ∧
    (runI cfg (newInstance h) (ffOps cfg h L v vi)).2 = ffObs cfg h L v vi := by
  obtain ⟨h1, h2, h3⟩ := ff_accept_proposal ff vi
  obtain ⟨h4, h5⟩ := ff_prepares_run ff cfg.committee (fun _ hx => hx) [] _ h1 ff.nodup
  obtain ⟨h6, h7⟩ := ff_commits_run ff _ cfg.committee (fun _ hx => hx) [] _ h4 ff.nodup
  have h0 : runI cfg (newInstance h) [IOp.start vi h, .deliver (ffProposal cfg h L v)] =
      ((processMsg cfg (ffStarted h vi) (ffProposal cfg h L v)).st,
       [⟨[.timer h firstRound] ++ (if L = cfg.own then [.bcast (ffProposal cfg h cfg.own vi)] else []), .ok false 0 none⟩,
        ⟨[.bcast (ffPrepare cfg h v cfg.own)], .ok false 0 none⟩]) := by
    simp only [runI, stepI, ff_start ff vi, h2, h3]
  unfold ffOps ffObs
  rw [runI_append, runI_append, h0]
  exact ⟨h6, by rw [h5, h7]; rfl⟩

theorem uponRoundTimeout_progress (cfg : Cfg) (s : State) (hcp : canProcess cfg s = true) :
    uponRoundTimeout cfg s =
      ⟨{ s with round := s.round + 1, accepted := none },
       [.bcast (createRoundChange cfg s (s.round + 1)), .timer s.height (s.round + 1)],
       .ok s.decided s.decidedValue none⟩ := by
  unfold uponRoundTimeout
  simp only [hcp, Bool.not_true, Bool.false_eq_true, if_false, broadcast, if_true, wrap, okStep]
  rfl

end Ssv.Qbft
