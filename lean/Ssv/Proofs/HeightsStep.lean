/-
Engine `heights` (C15): what one op does to (controller, store), as a composition of the controller's own operations
(`Move`), and the invariant `CInv` carried along any history.
-/
import Ssv.Proofs.HeightsInv

namespace Ssv.Heights

theorem beginStep_cs (s : State) (slot : Nat) : (beginStep s slot).1.c = s.c ∧ (beginStep s slot).1.s = s.s ∧
    (beginStep s slot).1.q = s.q := by
  unfold beginStep
  split <;> exact ⟨rfl, rfl, rfl⟩

theorem beginStep_ok {s : State} {slot : Nat} (h : (beginStep s slot).2 = .ok) :
    (beginStep s slot).1.r.duty = some slot := by
  unfold beginStep at h ⊢
  split
  · rename_i hg; simp [hg] at h
  · rfl

/-- `p` is the result of a `decide` for `slot` whose `StartNewInstance` succeeded with the controller `c'` -/
structure DecideStarted (s : State) (slot : Nat) (c' : Ctrl) (p : State × Out) : Prop where
  start : startNewInstance s.c slot = .ok c'
  ctrl : p.1.c = c'
  store : p.1.s = s.s
  q : p.1.q = s.q
  out : p.2 = .ok
  duty : p.1.r.duty = s.r.duty
  running : p.1.r.running = some slot
  hasValue : p.1.r.hasValue = s.r.hasValue

theorem decideStep_cases (s : State) (slot : Nat) :
    ((decideStep s slot).1 = s ∧ (decideStep s slot).2 = .refused ∧ ∃ e, startNewInstance s.c slot = .error e) ∨
    ∃ c', DecideStarted s slot c' (decideStep s slot) := by
  unfold decideStep
  cases hs : startNewInstance s.c slot with
  | error e => left; exact ⟨rfl, rfl, e, rfl⟩
  | ok c' => right; exact ⟨c', hs, rfl, rfl, rfl, rfl, rfl, rfl, rfl⟩

theorem decideStep_ok {s : State} {slot : Nat} (hok : (decideStep s slot).2 = .ok) :
    ∃ c', startNewInstance s.c slot = .ok c' ∧ (decideStep s slot).1.c = c' := by
  rcases decideStep_cases s slot with ⟨_, h2, _⟩ | ⟨c', d⟩
  · rw [h2] at hok; cases hok
  · exact ⟨c', d.start, d.ctrl⟩

theorem step_start_eq (s : State) (slot : Nat) :
    step s (.start slot) = if (beginStep s slot).2 = .ok then decideStep (beginStep s slot).1 slot else beginStep s slot := by
  show (match beginStep s slot with | (s1, .ok) => decideStep s1 slot | (s1, o) => (s1, o)) = _
  cases hb : beginStep s slot with
  | mk s1 o => cases o <;> simp

theorem step_decide_eq (s : State) :
    step s .decide = match s.r.duty with | none => (s, .noduty) | some slot => decideStep s slot := rfl

theorem restartStep_cs (s : State) (full : Bool) :
    (restartStep s full).1.c = (loadHighest (newCtrl full) s.s).1 ∧ (restartStep s full).1.s = s.s ∧
    (restartStep s full).1.q = s.q := by
  unfold restartStep
  dsimp only
  split <;> exact ⟨rfl, rfl, rfl⟩

theorem syncRun_fields (r : Runner) (c : Ctrl) :
    (syncRun r c).duty = r.duty ∧ (syncRun r c).running = r.running ∧ (syncRun r c).hasValue = r.hasValue := by
  unfold syncRun
  cases hr : r.running with
  | none => exact ⟨rfl, hr, rfl⟩
  | some h =>
    dsimp only
    cases find c.insts h
    · exact ⟨rfl, hr, rfl⟩
    · exact ⟨rfl, rfl, rfl⟩

/-- the decided version of the fresh running instance `i` that `commits` puts into the container -/
def commitsInst (s : State) (i : Inst) (root : Nat) : Inst :=
  { i with decided := true, commits := singles s.q root, accepted := some root }

theorem commitsInst_height (s : State) (i : Inst) (root : Nat) : (commitsInst s i root).height = i.height := rfl

def commitsCtrl (s : State) (i : Inst) (root : Nat) : Ctrl :=
  { s.c with insts := replaceInst (commitsInst s i root) s.c.insts }

theorem commitsCtrl_find {s : State} {i : Inst} {rh : Nat} (hf : find s.c.insts rh = some i) (root : Nat) :
    find (commitsCtrl s i root).insts rh = some (commitsInst s i root) :=
  find_replaceInst_same (i' := commitsInst s i root) hf (find_some_height hf : i.height = rh)

/-- `p` is the result of an applicable `commits`: the fresh running instance `i` of height `rh` is decided in the
    container and the runner saves it, unless the duty already holds a decided value. The value check shows only in
    the outcome and in whether the duty takes the value. -/
structure CommitsApplied (s : State) (root rh : Nat) (i : Inst) (p : State × Out) : Prop where
  notNa : p.2 ≠ .na
  q : p.1.q = s.q
  duty : p.1.r.duty = s.r.duty
  running : p.1.r.running = s.r.running
  ctrl : p.1.c = commitsCtrl s i root
  store : p.1.s = if s.r.hasValue then s.s else
    saveFound (commitsCtrl s i root) s.s rh ⟨Gen.heights_FirstRound, root, List.range' 1 s.q⟩

/-- `commits` does nothing (not applicable), or is applied to the undecided running instance -/
theorem commitsStep_cases (s : State) (root : Nat) :
    (∀ vc, (commitsStep s root vc).1 = s ∧ (commitsStep s root vc).2 = .na) ∨
    (∃ rh i, s.r.running = some rh ∧ find s.c.insts rh = some i ∧ i.decided = false ∧
      ∀ vc, CommitsApplied s root rh i (commitsStep s root vc)) := by
  unfold commitsStep
  cases hd : s.r.duty with
  | none => exact Or.inl fun _ => ⟨rfl, rfl⟩
  | some d =>
    cases hr : s.r.running with
    | none => exact Or.inl fun _ => ⟨rfl, rfl⟩
    | some rh =>
      dsimp only
      cases hf : find s.c.insts rh with
      | none => exact Or.inl fun _ => ⟨rfl, rfl⟩
      | some i =>
        dsimp only
        by_cases hg : (!i.decided && i.commits.isEmpty && !i.stopped && i.round == Gen.heights_FirstRound &&
            i.accepted.isNone) = true
        · have hnd : i.decided = false := by
            simp only [Bool.and_eq_true, Bool.not_eq_true'] at hg
            obtain ⟨⟨⟨⟨hnd, _⟩, _⟩, _⟩, _⟩ := hg
            exact hnd
          obtain ⟨f1, f2, _⟩ := syncRun_fields s.r (commitsCtrl s i root)
          refine Or.inr ⟨rh, i, rfl, hf, hnd, fun vc => ?_⟩
          rw [if_pos hg]
          cases hv : s.r.hasValue
          · exact ⟨by cases vc <;> nofun, rfl, f1, f2, rfl, by rw [hv]; rfl⟩
          · exact ⟨nofun, rfl, f1, f2, rfl, by rw [hv]; rfl⟩
        · refine Or.inl fun vc => ?_
          rw [if_neg hg]; exact ⟨rfl, rfl⟩

/-- What the ops do to (controller, store) is generated by: a successful `StartNewInstance`, `ProcessMsg`, compaction,
    `SaveInstance` of the instance found for a height, and a decision of an in-memory instance followed by its save.
    With `lossy`, also the two ways a write can be missing: `ProcessMsg` while the store fails, and a decision in
    memory that nobody saves. -/
inductive Move (q : Nat) (lossy : Bool) : Ctrl → Store → Ctrl → Store → Prop
  | refl {c st} : Move q lossy c st c st
  | trans {c st c' st' c'' st''} : Move q lossy c st c' st' → Move q lossy c' st' c'' st'' → Move q lossy c st c'' st''
  | start {c c' st} (slot : Nat) (hs : startNewInstance c slot = .ok c') : Move q lossy c st c' st
  | msg {c st} (h : Nat) (m : Msg) (ok : Bool) :
      Move q lossy c st (processMsg q c st h m ok).1 (processMsg q c st h m ok).2.1
  | msgLost {c st} (hl : lossy = true) (h : Nat) (m : Msg) (ok : Bool) : Move q lossy c st (processMsg q c st h m ok).1 st
  | compact {c st} (h : Nat) : Move q lossy c st (compactAt c h) st
  | save {c st} (h : Nat) (m : Msg) : Move q lossy c st c (saveFound c st h m)
  | decideSave {c st} (i' : Inst) (hd : i'.decided = true) (m : Msg) :
      Move q lossy c st { c with insts := replaceInst i' c.insts }
        (saveFound { c with insts := replaceInst i' c.insts } st i'.height m)
  | decideOnly {c st} (hl : lossy = true) (i' : Inst) (hd : i'.decided = true) :
      Move q lossy c st { c with insts := replaceInst i' c.insts } st

/-- the ops that may leave a write out: a decided message while the store fails, and `commits` for a duty that
    already holds a decided value (`didDecideCorrectly` stops before the save) -/
def lossy (s : State) : Op → Bool
  | .decidedSF .. => true
  | .commits .. => s.r.hasValue
  | _ => false

theorem decideStep_move (s : State) (slot : Nat) (l : Bool) :
    Move s.q l s.c s.s (decideStep s slot).1.c (decideStep s slot).1.s := by
  rcases decideStep_cases s slot with ⟨h, _⟩ | ⟨c', d⟩
  · rw [h]; exact .refl
  · rw [d.ctrl, d.store]; exact .start slot d.start

/-- the runner's part after `ProcessMsg`: compaction if the message is a decided one, then the runner's own save if it
    takes the decision -/
theorem Move.runnerTail {q : Nat} {l : Bool} {c : Ctrl} {st : Store} (cmp : Prop) [Decidable cmp] (sv : Bool)
    (h : Nat) (m : Msg) :
    Move q l c st (if cmp then compactAt c h else c)
      (if sv then saveFound (if cmp then compactAt c h else c) st h m else st) := by
  refine .trans (c' := if cmp then compactAt c h else c) (st' := st) ?_ ?_
  · split
    · exact .compact h
    · exact .refl
  · cases sv
    · exact .refl
    · exact .save h m

/-- every op is a restart (the controller is rebuilt from the stored highest record) or a composition of moves -/
theorem step_cs (s : State) (op : Op) :
    (∃ f, op = .restart f ∧ (step s op).1.c = (loadHighest (newCtrl f) s.s).1 ∧ (step s op).1.s = s.s) ∨
    Move s.q (lossy s op) s.c s.s (step s op).1.c (step s op).1.s := by
  cases op with
  | restart f => exact Or.inl ⟨f, rfl, (restartStep_cs s f).1, (restartStep_cs s f).2.1⟩
  | start slot =>
    right
    rw [step_start_eq]
    obtain ⟨hc, hs, hq⟩ := beginStep_cs s slot
    split
    · have := decideStep_move (beginStep s slot).1 slot false
      rw [hc, hs, hq] at this
      exact this
    · rw [hc, hs]; exact .refl
  | begin slot =>
    right
    obtain ⟨hc, hs, _⟩ := beginStep_cs s slot
    show Move _ _ _ _ (beginStep s slot).1.c (beginStep s slot).1.s
    rw [hc, hs]; exact .refl
  | decide =>
    right
    rw [step_decide_eq]
    cases s.r.duty with
    | none => exact .refl
    | some slot => exact decideStep_move s slot false
  | decided h r root sg ok via =>
    right
    cases via
    · exact .msg h ⟨r, root, sg⟩ ok
    · exact (Move.msg h ⟨r, root, sg⟩ ok).trans (Move.runnerTail _ _ h _)
  | decidedSF h r root sg ok via =>
    right
    cases via
    · exact .msgLost rfl h ⟨r, root, sg⟩ ok
    · exact (Move.msgLost rfl h ⟨r, root, sg⟩ ok).trans (Move.runnerTail _ (_ && _) h _)
  | commits root vc =>
    right
    show Move _ s.r.hasValue _ _ (commitsStep s root vc).1.c (commitsStep s root vc).1.s
    rcases commitsStep_cases s root with h | ⟨rh, i, _, hf, _, h⟩
    · rw [(h vc).1]; exact .refl
    · rw [(h vc).ctrl, (h vc).store]
      cases hv : s.r.hasValue
      · have hih : i.height = rh := find_some_height hf
        exact hih ▸ Move.decideSave (commitsInst s i root) rfl _
      · exact .decideOnly rfl (commitsInst s i root) rfl
  | compact h => exact Or.inr (.compact h)

theorem step_q (s : State) (op : Op) : (step s op).1.q = s.q := by
  have hd : ∀ s slot, (decideStep s slot).1.q = s.q := fun s slot => by
    rcases decideStep_cases s slot with ⟨h, _⟩ | ⟨_, d⟩
    · rw [h]
    · exact d.q
  cases op with
  | start slot =>
    rw [step_start_eq]
    split
    · exact (hd _ slot).trans (beginStep_cs s slot).2.2
    · exact (beginStep_cs s slot).2.2
  | begin slot => exact (beginStep_cs s slot).2.2
  | decide =>
    rw [step_decide_eq]
    cases s.r.duty with
    | none => rfl
    | some slot => exact hd s slot
  | decided h round root signers ok via => cases via <;> rfl
  | decidedSF h round root signers ok via => cases via <;> rfl
  | commits root vc =>
    rcases commitsStep_cases s root with h | ⟨_, _, _, _, _, h⟩
    · exact congrArg State.q (h vc).1
    · exact (h vc).q
  | compact h => rfl
  | restart full => exact (restartStep_cs s full).2.2

theorem run_cons (s : State) (op : Op) (ops : List Op) : run s (op :: ops) = run (step s op).1 ops := rfl

theorem run_append (s : State) (ops ops' : List Op) : run s (ops ++ ops') = run (run s ops) ops' := by
  unfold run; exact List.foldl_append

theorem run_q (s : State) (ops : List Op) : (run s ops).q = s.q := by
  induction ops generalizing s with
  | nil => rfl
  | cons op ops ih => rw [run_cons, ih, step_q]

theorem Move.cinv {q : Nat} {l : Bool} {c c' : Ctrl} {st st' : Store} (hm : Move q l c st c' st') (inv : CInv c st) :
    CInv c' st' := by
  induction hm with
  | refl => exact inv
  | trans _ _ ih1 ih2 => exact ih2 (ih1 inv)
  | start slot hs => exact inv.start hs
  | msg h m ok => exact inv.processMsg q h m ok
  | msgLost _ h m ok => exact inv.processMsg_ctrl q h m ok
  | compact h => exact inv.compact h
  | save h m => exact inv.saveFound h m
  | decideSave i' _ m => exact (inv.replace i').saveFound _ m
  | decideOnly _ i' _ => exact inv.replace i'

/-- the op `commits` taken alone (`CInv.step` reaches it through `Move`) -/
theorem CInv.commits {s : State} (inv : CInv s.c s.s) (root : Nat) (vc : Bool) :
    CInv (commitsStep s root vc).1.c (commitsStep s root vc).1.s := by
  rcases step_cs s (.commits root vc) with ⟨_, hf, _⟩ | hm
  · cases hf
  · exact hm.cinv inv

theorem CInv.step {s : State} (inv : CInv s.c s.s) (op : Op) :
    CInv (Heights.step s op).1.c (Heights.step s op).1.s := by
  rcases step_cs s op with ⟨f, _, hc, hs⟩ | hm
  · rw [hc, hs]; exact inv.load f
  · exact hm.cinv inv

theorem CInv.run {s : State} (inv : CInv s.c s.s) (ops : List Op) :
    CInv (Heights.run s ops).c (Heights.run s ops).s := by
  induction ops generalizing s with
  | nil => exact inv
  | cons op ops ih => exact ih (inv.step op)

theorem CInv.reach (full : Bool) (q : Nat) (ops : List Op) :
    CInv (Heights.run (Heights.init full q) ops).c (Heights.run (Heights.init full q) ops).s :=
  CInv.run (s := Heights.init full q) (CInv.init full) ops

end Ssv.Heights
