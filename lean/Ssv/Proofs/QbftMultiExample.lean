/-
C01 all heights — a concrete reachable state of the 4-operator multi-height system: operators 2 and 3 (with the Byzantine
operator 4) decide heights 1, 2 and 5; operator 1 accepted the proposal of height 1, learns heights 2 and 5 through decided
messages (its container becomes [5, 2], the height-1 instance is ejected) and then receives the decided message of height 1:
the re-created instance is dropped at once, the decision (value 5) is reported again, a later `StartNewInstance(1)` is refused.
-/
import Ssv.Proofs.QbftMultiSystem2

namespace Ssv.Qbft.M
open Ssv.Qbft

inductive Item (P : Params) where
  | act (a : Action P)
  | fwd (i : Op P) (k : Nat)

def runItems {P : Params} (σ : Sys P) : List (Item P) → Option (Sys P)
  | [] => some σ
  | .act a :: rest => if enabled σ a then runItems (step σ a) rest else none
  | .fwd i k :: rest =>
    match σ.log[k]? with
    | some m => if enabled σ (.deliver i m) then runItems (step σ (.deliver i m)) rest else none
    | none => none

theorem reachable_runItems {P : Params} {σ σ' : Sys P} (l : List (Item P)) (h : Reachable σ)
    (hr : runItems σ l = some σ') : Reachable σ' := by
  induction l generalizing σ with
  | nil => cases hr; exact h
  | cons it rest ih =>
    cases it with
    | act a =>
      simp only [runItems] at hr
      split at hr
      · exact ih (.step a h ‹_›) hr
      · cases hr
    | fwd i k =>
      simp only [runItems] at hr
      split at hr
      · split at hr
        · exact ih (.step _ h ‹_›) hr
        · cases hr
      · cases hr

def exP : Params := { f := 1, cutoff := 15, valCheck := fun _ => true, byz := [3] }

theorem exP_valid : exP.Valid := ⟨by decide, by decide⟩

/-- prepare / commit of the Byzantine operator 4 -/
def byzMsg (t h v : Nat) : Msg :=
  { type := t, height := h, round := 1, ident := 1, root := v, dataRound := 0, signers := [4], sigOk := true,
    malformed := false, mid := 0, rcJust := [], prepJust := [], fullData := 0 }

/-- decided message of height h aggregated from the commits of operators 2, 3, 4 -/
def cert (h v : Nat) : Msg :=
  { type := tCommit, height := h, round := 1, ident := 1, root := v, dataRound := 0, signers := [2, 3, 4], sigOk := true,
    malformed := false, mid := 0, rcJust := [], prepJust := [], fullData := v }

/-- one height decided by operators 2, 3 (indices 1, 2); `b` = log length before -/
def heightRun (h v v' b : Nat) : List (Item exP) :=
  [.act (.start 1 h v), .act (.start 2 h v'),
   .fwd 1 b, .fwd 2 b,
   .act (.deliver 1 (byzMsg tPrepare h v)), .act (.deliver 2 (byzMsg tPrepare h v)),
   .fwd 1 (b+1), .fwd 1 (b+2), .fwd 2 (b+1), .fwd 2 (b+2),
   .act (.deliver 1 (byzMsg tCommit h v)), .act (.deliver 2 (byzMsg tCommit h v)),
   .fwd 1 (b+3), .fwd 1 (b+4), .fwd 2 (b+3), .fwd 2 (b+4)]

def exSched : List (Item exP) :=
  [.act (.start 0 1 9)] ++ heightRun 1 5 6 0 ++ [.fwd 0 0] ++ heightRun 2 7 7 6 ++ heightRun 5 8 8 11 ++
  [.act (.deliver 0 (cert 2 7)), .act (.deliver 0 (cert 5 8)), .act (.deliver 0 (cert 1 5)), .act (.start 0 1 9)]

/-- what is read off the final state of the schedule -/
structure ExFacts (σ : Sys exP) : Prop where
  /-- the events of operator 1 (index 0) -/
  ownEvents : σ.trace.filter (fun x => x.2.node == (0 : Op exP)) =
    [(1, .P 0 1 5), (2, .G 0 1), (2, .D 0 1 7), (5, .G 0 1), (5, .D 0 1 8), (1, .G 0 1), (1, .D 0 1 5)]
  height1 : proj 1 σ.trace = [.P 1 1 5, .P 2 1 5, .K 1 1 5, .K 2 1 5, .D 1 1 5, .D 2 1 5, .P 0 1 5, .G 0 1, .D 0 1 5]
  container : hts (σ.ctrl 0) = [5, 2]
  noInstance : B.instAt 1 (σ.ctrl 0) = none

instance (σ : Sys exP) : Decidable (ExFacts σ) :=
  decidable_of_iff (_ ∧ _ ∧ _ ∧ _)
    ⟨fun ⟨a, b, c, d⟩ => ⟨a, b, c, d⟩, fun h => ⟨h.ownEvents, h.height1, h.container, h.noInstance⟩⟩

/-- the schedule is evaluated once: it runs through, and `ExFacts` holds of its final state -/
theorem ex_run : (runItems (Sys.init exP) exSched).map (fun σ => decide (ExFacts σ)) = some true := by
  decide +kernel

theorem ex_isSome : (runItems (Sys.init exP) exSched).isSome = true := by
  obtain ⟨σ, hσ, _⟩ := Option.map_eq_some_iff.1 ex_run
  rw [hσ]; rfl

def exSys : Sys exP := (runItems (Sys.init exP) exSched).get ex_isSome

theorem ex_reachable : Reachable exSys :=
  reachable_runItems exSched Reachable.init (by simp [exSys])

/-- `ExFacts` is handed on for an opaque `σ`: a statement about `exSys` itself, compared with another one, makes Lean unfold
    `exSys`, that is, run the schedule again -/
theorem ex_facts : ∃ σ, exSys = σ ∧ ExFacts σ := by
  obtain ⟨σ, hσ, hp⟩ := Option.map_eq_some_iff.1 ex_run
  exact ⟨σ, by simp only [exSys, hσ, Option.get_some], of_decide_eq_true hp⟩

/-- the events of operator 1 (index 0), and the decisions at height 1 -/
theorem ex_trace :
    exSys.trace.filter (fun x => x.2.node == (0 : Op exP)) =
      [(1, .P 0 1 5), (2, .G 0 1), (2, .D 0 1 7), (5, .G 0 1), (5, .D 0 1 8), (1, .G 0 1), (1, .D 0 1 5)] ∧
    proj 1 exSys.trace = [.P 1 1 5, .P 2 1 5, .K 1 1 5, .K 2 1 5, .D 1 1 5, .D 2 1 5, .P 0 1 5, .G 0 1, .D 0 1 5] := by
  obtain ⟨σ, e, hf⟩ := ex_facts
  rw [e]; exact ⟨hf.ownEvents, hf.height1⟩

/-- operator 1's container holds heights 5 and 2 only; height 1 is blocked -/
theorem ex_container : hts (exSys.ctrl 0) = [5, 2] ∧ B.instAt 1 (exSys.ctrl 0) = none := by
  obtain ⟨σ, e, hf⟩ := ex_facts
  rw [e]; exact ⟨hf.container, hf.noInstance⟩

end Ssv.Qbft.M
