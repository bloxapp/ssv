/- Lemmas behind C18 and the key layer of C15: the little-endian id of the signed envelope, the hex and decimal
   renderings, the subnets string codec, the scans of `SharedSubnets` / `DiffSubnets`. -/
import Ssv.Model.Topics
import Ssv.Common.Digits

namespace Ssv.Topics

theorem bytes_cons {b : Nat} {bs : List Nat} : Bytes (b :: bs) ↔ b < 256 ∧ Bytes bs := List.forall_mem_cons

theorem unLe64_eq (l : List Nat) : unLe64 l = ofDigitsLE 256 l := by
  induction l with
  | nil => rfl
  | cons b bs ih => simp [unLe64, ofDigitsLE, ih]

theorem unLe64_le64 (n : Nat) : unLe64 (le64 n) = n % 2 ^ 64 := by
  rw [unLe64_eq]; exact ofDigitsLE_digitsLE 256 8 n

theorem le64_inj {a b : Nat} (h : le64 a = le64 b) : a % 2 ^ 64 = b % 2 ^ 64 := by
  rw [← unLe64_le64, ← unLe64_le64, h]

theorem le64_length (n : Nat) : (le64 n).length = 8 := length_digitsLE 256 8 n

theorem decodeSigned_append (sig id msg : List Nat) (hs : sig.length = 256) (hi : id.length = 8) :
    decodeSigned (sig ++ id ++ msg) = some (msg, unLe64 id, sig) := by
  have hsi : (sig ++ id).length = 264 := by rw [List.length_append, hs, hi]
  have hlen : ¬ (sig ++ id ++ msg).length < Gen.commons_messageOffset := by
    rw [List.length_append, hsi]; exact Nat.not_lt.mpr (Nat.le_add_right 264 _)
  rw [decodeSigned, if_neg hlen]
  show some (List.drop 264 _, unLe64 (List.take 8 (List.drop 256 _)), List.take 256 (List.drop 0 _)) = _
  rw [List.drop_left' hsi, List.append_assoc, List.drop_left' hs, List.take_left' hi, List.drop_zero,
    List.take_left' hs]

theorem nibble_lt {b : Nat} (hb : b < 256) : b / 16 < 16 ∧ b % 16 < 16 :=
  ⟨Nat.div_lt_of_lt_mul (k := 16) hb, Nat.mod_lt _ (by decide)⟩

theorem hexVal_hexDigit (n : Nat) (h : n < 16) : hexVal? (hexDigit n) = some n := by
  unfold hexDigit hexVal?
  by_cases h10 : n < 10
  · rw [if_pos h10, if_pos (by omega), Nat.add_sub_cancel_left]
  · rw [if_neg h10, if_neg (by omega), if_pos (by omega), Nat.add_sub_cancel_left]

theorem hexEncode_length (l : List Nat) : (hexEncode l).length = 2 * l.length := by
  induction l with
  | nil => rfl
  | cons b bs ih => rw [hexEncode, List.length_cons, List.length_cons, ih, List.length_cons, Nat.mul_succ]

theorem hexEncode_append (a b : List Nat) : hexEncode (a ++ b) = hexEncode a ++ hexEncode b := by
  induction a with
  | nil => rfl
  | cons x xs ih => simp [hexEncode, ih]

/-- value of a byte list read big-endian, continuing from `acc` -/
def beNat (acc : Nat) (l : List Nat) : Nat := l.foldl (fun a b => a * 256 + b) acc

theorem le_beNat (acc : Nat) (l : List Nat) : acc ≤ beNat acc l := by
  induction l generalizing acc with
  | nil => exact Nat.le_refl _
  | cons b bs ih => exact Nat.le_trans (by omega) (ih (acc * 256 + b))

theorem beNat_lt (l : List Nat) (h : Bytes l) (acc M : Nat) (hacc : acc < M) : beNat acc l < M * 256 ^ l.length := by
  induction l generalizing acc M with
  | nil => simpa [beNat] using hacc
  | cons b bs ih =>
    obtain ⟨hb, hbs⟩ := bytes_cons.mp h
    rw [List.length_cons, Nat.pow_succ', ← Nat.mul_assoc]
    exact ih hbs (acc * 256 + b) _ (by omega)

theorem parseGo_hexDigit (n : Nat) (hn : n < 16) (cs : List Nat) (acc : Nat) (hacc : acc * 16 + n < 2 ^ 64) :
    parseUint16.go (hexDigit n :: cs) acc = parseUint16.go cs (acc * 16 + n) := by
  simp only [parseUint16.go, hexVal_hexDigit n hn]
  exact if_neg (Nat.not_le.mpr hacc)

/-- `ParseUint` reads the hex rendering of a byte list as its big-endian value, as long as that fits 64 bits
    (the accumulator only grows, so every intermediate value fits as well) -/
theorem parseGo_hexEncode (l : List Nat) (acc : Nat) (h : Bytes l) (hlt : beNat acc l < 2 ^ 64) :
    parseUint16.go (hexEncode l) acc = some (beNat acc l) := by
  induction l generalizing acc with
  | nil => rfl
  | cons b bs ih =>
    obtain ⟨hb, hbs⟩ := bytes_cons.mp h
    have e : (acc * 16 + b / 16) * 16 + b % 16 = acc * 256 + b := by
      rw [Nat.add_mul, Nat.mul_assoc, Nat.add_assoc, Nat.mul_comm (b / 16), Nat.div_add_mod]
    have hlo : (acc * 16 + b / 16) * 16 + b % 16 < 2 ^ 64 := e ▸ Nat.lt_of_le_of_lt (le_beNat _ bs) hlt
    have hhi : acc * 16 + b / 16 < 2 ^ 64 :=
      Nat.lt_of_le_of_lt (Nat.le_trans (Nat.le_mul_of_pos_right _ (by decide)) (Nat.le_add_right _ _)) hlo
    rw [hexEncode, parseGo_hexDigit _ (nibble_lt hb).1 _ _ hhi, parseGo_hexDigit _ (nibble_lt hb).2 _ _ hlo, e]
    exact ih _ hbs hlt

theorem hexToUint64_hexEncode (l : List Nat) (hne : l ≠ []) (h : Bytes l) (hlt : beNat 0 l < 2 ^ 64) :
    hexToUint64 (hexEncode l) = beNat 0 l := by
  cases l with
  | nil => exact absurd rfl hne
  | cons b bs =>
    have := parseGo_hexEncode (b :: bs) 0 h hlt
    rw [hexEncode] at this ⊢
    simp only [hexToUint64, parseUint16, this]

/-- the subnet of a key of at least 5 bytes: the first ten hex characters are bytes 0..4, their value is
    `… * 256 + pk[4]`, and 128 divides 256 -/
theorem validatorSubnet_hexEncode (pk : List Nat) (h : Bytes pk) (h5 : 5 ≤ pk.length) :
    validatorSubnet (hexEncode pk) = ((pk[4] % 128 : Nat) : Int) := by
  have hlen : ¬ (hexEncode pk).length < 10 := by rw [hexEncode_length]; omega
  have hb : Bytes (pk.take 5) := fun b hb => h b (List.mem_of_mem_take hb)
  have hlt : beNat 0 (pk.take 5) < 2 ^ 64 :=
    Nat.lt_of_lt_of_le (beNat_lt _ hb 0 1 Nat.one_pos) (by rw [List.length_take_of_le h5]; decide)
  have htake : (hexEncode pk).take 10 = hexEncode (pk.take 5) := by
    have := congrArg (List.take 10) (hexEncode_append (pk.take 5) (pk.drop 5))
    rwa [List.take_append_drop, List.take_left' (by rw [hexEncode_length, List.length_take_of_le h5])] at this
  rw [validatorSubnet, if_neg hlen, htake,
    hexToUint64_hexEncode _ (List.ne_nil_of_length_pos (by rw [List.length_take_of_le h5]; decide)) hb hlt,
    List.take_succ_eq_append_getElem h5]
  show ((beNat 0 (pk.take 4 ++ [pk[4]]) % 128 : Nat) : Int) = _
  rw [beNat, List.foldl_append, List.foldl_cons, List.foldl_nil, Nat.add_comm,
    show 256 = 2 * 128 from rfl, ← Nat.mul_assoc, Nat.add_mul_mod_self_right]

theorem validatorTopicID_eq (pk : List Nat) (h : Bytes pk) (h5 : 5 ≤ pk.length) :
    validatorTopicID pk = [subnetTopicID (Int.ofNat (pk[4] % 128))] := by
  rw [validatorTopicID, validatorSubnet_hexEncode pk h h5]; rfl

theorem deleteFirst_prefix (pat b : List Nat) (hp : pat ≠ []) : deleteFirst pat (pat ++ b) = b := by
  cases pat with
  | nil => exact absurd rfl hp
  | cons p ps =>
    have : (p :: ps).isPrefixOf (p :: (ps ++ b)) = true :=
      List.isPrefixOf_iff_prefix.mpr (List.prefix_append (p :: ps) b)
    simp [deleteFirst, this]

theorem baseName_fullName (b : List Nat) : getTopicBaseName (getTopicFullName b) = b :=
  deleteFirst_prefix _ _ (by simp [prefixDot])

theorem subnetTopicID_ofNat (n : Nat) : subnetTopicID (Int.ofNat n) = natDigits n := rfl

/-- decimal renderings of different numbers differ: core's `Nat.ofDigitChars` reads `Nat.toDigits 10` back -/
theorem natDigits_inj {i j : Nat} (h : natDigits i = natDigits j) : i = j := by
  have h' := (List.map_inj_right fun _ _ => Char.toNat_inj.mp).mp h
  rw [Nat.toList_repr, Nat.toList_repr] at h'
  simpa using congrArg (Nat.ofDigitChars 10 · 0) h'

theorem hexDigit_ne_x (n : Nat) (h : n < 16) : hexDigit n ≠ 120 := by
  unfold hexDigit; split <;> omega

theorem deleteFirst_not_mem (a b : Nat) (l : List Nat) (h : b ∉ l) : deleteFirst [a, b] l = l := by
  induction l with
  | nil => rfl
  | cons c cs ih =>
    have hpre : ¬ List.isPrefixOf [a, b] (c :: cs) = true :=
      fun hp => h ((List.isPrefixOf_iff_prefix.mp hp).subset (by simp))
    simp [deleteFirst, hpre, ih fun hm => h (List.mem_cons_of_mem _ hm)]

theorem x_not_mem_hexEncode (l : List Nat) (h : Bytes l) : 120 ∉ hexEncode l := by
  induction l with
  | nil => simp [hexEncode]
  | cons b bs ih =>
    obtain ⟨hb, hbs⟩ := bytes_cons.mp h
    simp only [hexEncode, List.mem_cons, not_or]
    exact ⟨(hexDigit_ne_x _ (nibble_lt hb).1).symm, (hexDigit_ne_x _ (nibble_lt hb).2).symm, ih hbs⟩

theorem charMask_hexDigit (n : Nat) (h : n < 16) : charMask? (hexDigit n) = some (digitsLE 2 4 n) := by
  simp [charMask?, hexVal_hexDigit n h, digitsLE, List.range_succ]

/-- each pair of hex characters yields the eight bits of its byte: low nibble first, then high nibble -/
theorem fromStringPairs_hexEncode (l : List Nat) (h : Bytes l) :
    fromStringPairs (hexEncode l) = some (l.flatMap (digitsLE 2 8)) := by
  induction l with
  | nil => rfl
  | cons b bs ih =>
    obtain ⟨hb, hbs⟩ := bytes_cons.mp h
    rw [hexEncode, fromStringPairs, charMask_hexDigit _ (nibble_lt hb).1, charMask_hexDigit _ (nibble_lt hb).2, ih hbs,
      List.flatMap_cons, digitsLE_add 2 4 4 b, ← digitsLE_mod 2 4 b]

theorem bitOf_lt_two (s : List Nat) (i : Nat) : bitOf s i < 2 := by
  unfold bitOf; split
  · split <;> omega
  · omega

theorem vecByte_eq (s : List Nat) (k : Nat) :
    vecByte s k = ofDigitsLE 2 ((List.range 8).map fun j => bitOf s (8 * k + j)) := by
  simp [vecByte, ofDigitsLE, List.foldr_map]

theorem flatMap_range_map (f : Nat → Nat) (m n : Nat) :
    (List.range m).flatMap (fun k => (List.range n).map fun j => f (n * k + j)) = (List.range (m * n)).map f := by
  induction m with
  | zero => rw [Nat.zero_mul]; rfl
  | succ m ih =>
    -- group `m` continues the first `m * n` indices: `range (m * n + n) = range (m * n) ++ map (m * n + ·) (range n)`
    rw [List.range_succ, List.flatMap_append, ih, List.flatMap_singleton, Nat.succ_mul, List.range_add,
      List.map_append, List.map_map, Nat.mul_comm n m]
    rfl

/-- `FromString (String s)` is `s` with every non-zero entry normalised to 1, padded/truncated to 128 -/
theorem fromString_toString (s : List Nat) :
    subnetsFromString (subnetsToString s) = some ((List.range 128).map (bitOf s)) := by
  have hbit : ∀ k, ∀ d ∈ (List.range 8).map fun j => bitOf s (8 * k + j), d < 2 :=
    fun k => List.forall_mem_map.mpr fun j _ => bitOf_lt_two s _
  have hb : Bytes ((List.range 16).map (vecByte s)) :=
    List.forall_mem_map.mpr fun k _ => by rw [vecByte_eq]; exact ofDigitsLE_lt 2 8 _ (by decide) (hbit k) (by simp)
  have h8 : ∀ k, digitsLE 2 8 (vecByte s k) = (List.range 8).map fun j => bitOf s (8 * k + j) := by
    intro k; rw [vecByte_eq]; exact digitsLE_ofDigitsLE 2 8 _ (hbit k) (by simp)
  unfold subnetsFromString subnetsToString strip0x
  rw [deleteFirst_not_mem _ _ _ (x_not_mem_hexEncode _ hb), fromStringPairs_hexEncode _ hb,
    List.flatMap_map]
  simp only [h8]
  rw [flatMap_range_map]

/-- the scan of `SharedSubnets` without a limit: the indices (counted from `i`) set on both sides -/
def bothSet : List Nat → List Nat → Nat → List Nat
  | [], _, _ => []
  | _ :: _, [], _ => []
  | av :: as, bv :: bs, i => if av = 0 ∨ bv = 0 then bothSet as bs (i + 1) else i :: bothSet as bs (i + 1)

theorem bothSet_sublist (as bs : List Nat) (i : Nat) : (bothSet as bs i).Sublist (List.range' i as.length) := by
  fun_induction bothSet as bs i with
  | case1 | case2 => exact List.nil_sublist _
  | case3 av as bv bs i hz ih => exact ih.cons _
  | case4 av as bv bs i hz ih => exact ih.cons_cons _

theorem bothSet_sorted (as bs : List Nat) (i : Nat) : (bothSet as bs i).Pairwise (· < ·) :=
  List.Pairwise.sublist (bothSet_sublist as bs i) List.pairwise_lt_range'

theorem le_of_mem_bothSet {as bs : List Nat} {i k : Nat} (h : k ∈ bothSet as bs i) : i ≤ k :=
  (List.mem_range'_1.mp ((bothSet_sublist as bs i).subset h)).1

/-- The position is written `i + j` so that the entry it stands for is `j`, without subtraction. Entry 0 is decided
    by the head alone, since the rest of the scan lists positions from `i + 1` on; entry `j + 1` is entry `j` of the tails. -/
theorem mem_bothSet (as bs : List Nat) (i j : Nat) :
    i + j ∈ bothSet as bs i ↔ ∃ av bv, as[j]? = some av ∧ bs[j]? = some bv ∧ av ≠ 0 ∧ bv ≠ 0 := by
  fun_induction bothSet as bs i generalizing j with
  | case1 | case2 => simp
  | case3 av as bv bs i hz ih =>
    cases j with
    | zero =>
      have hi : i ∉ bothSet as bs (i + 1) := fun h => Nat.not_succ_le_self i (le_of_mem_bothSet h)
      simp only [Nat.add_zero, hi, List.getElem?_cons_zero, Option.some.injEq, false_iff]
      rintro ⟨_, _, rfl, rfl, h⟩
      exact not_or.mpr h hz
    | succ j => rw [← Nat.add_assoc, Nat.add_right_comm, ih]; rfl
  | case4 av as bv bs i hz ih =>
    cases j with
    | zero => exact iff_of_true List.mem_cons_self ⟨av, bv, rfl, rfl, not_or.mp hz⟩
    | succ j =>
      rw [← Nat.add_assoc, Nat.add_right_comm, List.mem_cons, ih]
      exact or_iff_right (by omega)

/-- number of positions set on both sides -/
def sharedCount : List Nat → List Nat → Nat
  | [], _ => 0
  | _ :: _, [] => 0
  | av :: as, bv :: bs => (if av = 0 ∨ bv = 0 then 0 else 1) + sharedCount as bs

theorem length_bothSet (as bs : List Nat) (i : Nat) : (bothSet as bs i).length = sharedCount as bs := by
  fun_induction bothSet as bs i with
  | case1 | case2 => rfl
  | case3 av as bv bs i hz ih => rw [sharedCount, if_pos hz, ih, Nat.zero_add]
  | case4 av as bv bs i hz ih => rw [sharedCount, if_neg hz, List.length_cons, ih, Nat.add_comm]

theorem sharedCount_le (as bs : List Nat) : sharedCount as bs ≤ as.length := by
  have := (bothSet_sublist as bs 0).length_le
  rwa [length_bothSet, List.length_range'] at this

theorem sharedCount_self (a : List Nat) : sharedCount a a = active a := by
  induction a with
  | nil => rfl
  | cons x xs ih =>
    rw [sharedCount, ih]
    by_cases hx : x = 0
    · simp [hx, active]
    · simp [hx, active, Nat.pos_of_ne_zero hx, Nat.add_comm]

theorem sharedGo_none (as bs : List Nat) (i cnt : Nat) : sharedGo as bs i cnt none = bothSet as bs i := by
  fun_induction bothSet as bs i generalizing cnt with
  | case1 | case2 => rfl
  | case3 av as bv bs i hz ih => rw [sharedGo, if_pos hz, ih]
  | case4 av as bv bs i hz ih => rw [sharedGo, if_neg hz, if_neg (by simp), ih]

/-- a limit that lies `n + 1` entries ahead cuts the scan after that many further entries -/
theorem sharedGo_some (as bs : List Nat) (i cnt n : Nat) :
    sharedGo as bs i cnt (some (cnt + (n + 1))) = (bothSet as bs i).take (n + 1) := by
  fun_induction bothSet as bs i generalizing cnt n with
  | case1 | case2 => rfl
  | case3 av as bv bs i hz ih => rw [sharedGo, if_pos hz, ih]
  | case4 av as bv bs i hz ih =>
    rw [sharedGo, if_neg hz]
    cases n with
    | zero => rw [if_pos rfl]; rfl
    | succ n =>
      rw [if_neg (fun h => by injection h; omega), List.take_succ_cons, ← ih (cnt + 1) n, Nat.add_assoc cnt 1,
        Nat.add_comm 1]

theorem sharedGo_zero (as bs : List Nat) (i L : Nat) (h : 0 < L) :
    sharedGo as bs i 0 (some L) = (bothSet as bs i).take L := by
  obtain ⟨n, rfl⟩ := Nat.exists_eq_succ_of_ne_zero (Nat.ne_of_gt h)
  have := sharedGo_some as bs i 0 n
  rwa [Nat.zero_add] at this

theorem sharedSubnets_eq (a b : List Nat) (maxLen : Int) :
    sharedSubnets a b maxLen = if 0 < maxLen then (bothSet a b 0).take maxLen.toNat else bothSet a b 0 := by
  -- the emptiness test is subsumed by the scan, which returns [] on an empty side
  have hgo : ∀ lim, (if a.isEmpty || b.isEmpty then [] else sharedGo a b 0 0 lim) = sharedGo a b 0 0 lim := by
    intro lim; cases a <;> cases b <;> rfl
  rw [sharedSubnets, hgo]
  rcases Int.lt_trichotomy maxLen 0 with h | rfl | h
  · rw [if_neg (Int.ne_of_lt h), if_pos h, sharedGo_none, if_neg (Int.lt_asymm h)]
  · cases a with
    | nil => rfl
    | cons x xs =>
      -- the limit `len a` is never reached: the scan has at most that many entries
      rw [if_pos rfl, sharedGo_zero _ _ _ (x :: xs).length (Nat.succ_pos _), if_neg (by decide)]
      exact List.take_of_length_le (length_bothSet _ b 0 ▸ sharedCount_le _ b)
  · rw [if_neg (Int.ne_of_gt h), if_neg (Int.lt_asymm h), sharedGo_zero _ _ _ _ (Int.pos_iff_toNat_pos.mp h), if_pos h]

/-- the two `cons` equations of `diffGo` (`as` empty or not) in one -/
theorem diffGo_cons (as : List Nat) (bv : Nat) (bs : List Nat) (i : Nat) :
    diffGo as (bv :: bs) i =
      if as[0]? = some bv then diffGo as.tail bs (i + 1) else (i, bv) :: diffGo as.tail bs (i + 1) := by
  cases as with
  | nil => rfl
  | cons av as => by_cases h : av = bv <;> simp [diffGo, h]

theorem diffGo_sublist (as bs : List Nat) (i : Nat) : ((diffGo as bs i).map (·.1)).Sublist (List.range' i bs.length) := by
  induction bs generalizing as i with
  | nil => cases as <;> exact List.nil_sublist _
  | cons bv bs ih =>
    rw [diffGo_cons]
    split
    · exact (ih _ _).cons _
    · exact (ih _ _).cons_cons _

theorem le_of_mem_diffGo {as bs : List Nat} {i : Nat} {p : Nat × Nat} (h : p ∈ diffGo as bs i) : i ≤ p.1 :=
  (List.mem_range'_1.mp ((diffGo_sublist as bs i).subset (List.mem_map_of_mem h))).1

/-- as `mem_bothSet`: entry 0 is decided by the head alone, entry `j + 1` is entry `j` of the tails -/
theorem mem_diffGo (as bs : List Nat) (i j v : Nat) :
    (i + j, v) ∈ diffGo as bs i ↔ bs[j]? = some v ∧ as[j]? ≠ some v := by
  induction bs generalizing as i j with
  | nil => cases as <;> simp [diffGo]
  | cons bv bs ih =>
    rw [diffGo_cons]
    cases j with
    | zero =>
      have hi : (i, v) ∉ diffGo as.tail bs (i + 1) := fun h => Nat.not_succ_le_self i (le_of_mem_diffGo h)
      show (i, v) ∈ _ ↔ _
      rw [List.getElem?_cons_zero, Option.some.injEq]
      split
      · next c => exact iff_of_false hi fun ⟨e, h⟩ => h (e ▸ c)
      · next c =>
        rw [List.mem_cons, or_iff_left hi, Prod.mk.injEq, eq_self, true_and]
        exact ⟨fun e => e ▸ ⟨rfl, e ▸ c⟩, fun h => h.1.symm⟩
    | succ j =>
      rw [List.getElem?_cons_succ, ← List.getElem?_tail, ← ih as.tail (i + 1) j, ← Nat.add_assoc, Nat.add_right_comm]
      split
      · rfl
      · exact List.mem_cons.trans (or_iff_right fun h => by injection h; omega)

end Ssv.Topics
