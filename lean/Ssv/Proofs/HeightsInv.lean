/-
Engine `heights` (C15): the store with the `replaces` guard, the controller/store invariant `CInv`, and what each
controller operation (`StartNewInstance`, compaction, `SaveInstance`, `UponDecided`, `UponExistingInstanceMsg`,
`ProcessMsg`, `LoadHighestInstance`) does to it (the store writes a key only if `replaces`; an instance reloaded from
storage is kept in the container).
-/
import Ssv.Proofs.Heights

namespace Ssv.Heights

def AtTop (c : Ctrl) : Prop := (find c.insts c.height).isSome = true

theorem histGet_cons (k : Nat) (v : Stored) (rest : List (Nat × Stored)) (h : Nat) :
    histGet ((k, v) :: rest) h = if k = h then some v else histGet rest h := by
  unfold histGet
  rw [find?_key_cons Prod.fst]
  split <;> rfl

theorem histGet_histPut (k : Nat) (v : Stored) (l : List (Nat × Stored)) (h : Nat) :
    histGet (histPut k v l) h = if k = h then some v else histGet l h := by
  induction l with
  | nil => exact histGet_cons k v [] h
  | cons e rest ih =>
    obtain ⟨k', v'⟩ := e
    unfold histPut
    by_cases h1 : k' = k
    · rw [if_pos h1, histGet_cons, histGet_cons, h1]
      split <;> rfl
    · rw [if_neg h1]
      by_cases h2 : k < k'
      · rw [if_pos h2]; exact histGet_cons k v _ h
      · rw [if_neg h2, histGet_cons, histGet_cons, ih]
        split
        · rename_i h3; rw [if_neg (fun e => h1 (h3.trans e.symm))]
        · rfl

/-- keys of the historical store are the heights of the records -/
def HistOk (l : List (Nat × Stored)) : Prop := ∀ h s, histGet l h = some s → s.inst.height = h

section
variable {c c' : Ctrl} {st : Store} {h : Nat} {m : Msg} {i : Inst} {p next : Stored}

theorem replaces_some_iff : replaces (some p) next = true ↔
    p.inst.height < next.inst.height ∨
    (p.inst.height = next.inst.height ∧ p.cert.signers.length < next.cert.signers.length) := by
  unfold replaces
  by_cases he : p.inst.height = next.inst.height <;> simp [he]

theorem not_replaces {prev : Option Stored} (h : replaces prev next = false) :
    ∃ p, prev = some p ∧ (next.inst.height < p.inst.height ∨
      (p.inst.height = next.inst.height ∧ next.cert.signers.length ≤ p.cert.signers.length)) := by
  cases prev with
  | none => cases h
  | some p =>
    have := mt replaces_some_iff.mpr (h ▸ Bool.false_ne_true)
    exact ⟨p, rfl, by omega⟩

/-- the record `storeSave` writes for (i, m) -/
def recOf (i : Inst) (m : Msg) : Stored := ⟨{ trim i with stopped := false }, m⟩

theorem recOf_height (i : Inst) (m : Msg) : (recOf i m).inst.height = i.height := rfl

theorem storeSave_highest_eq (st : Store) (i : Inst) (m : Msg) (th ah : Bool) :
    (storeSave st ⟨i, m⟩ th ah).highest =
      if ah && replaces st.highest (recOf i m) then some (recOf i m) else st.highest := rfl

theorem storeSave_hist_eq (st : Store) (i : Inst) (m : Msg) (th ah : Bool) :
    (storeSave st ⟨i, m⟩ th ah).hist =
      if th && replaces (histGet st.hist i.height) (recOf i m) then histPut i.height (recOf i m) st.hist
      else st.hist := rfl

theorem storeSave_highest (st : Store) (i : Inst) (m : Msg) (th ah : Bool) :
    (storeSave st ⟨i, m⟩ th ah).highest = st.highest ∨
    (ah = true ∧ replaces st.highest (recOf i m) = true ∧ (storeSave st ⟨i, m⟩ th ah).highest = some (recOf i m)) := by
  rw [storeSave_highest_eq]
  cases ah
  · exact Or.inl rfl
  · cases replaces st.highest (recOf i m)
    · exact Or.inl rfl
    · exact Or.inr ⟨rfl, rfl, rfl⟩

/-- `storeSave` leaves the historical key of `h` alone, or `h` is the instance's height, `replaces` held and the new
    record is there -/
theorem storeSave_histGet (st : Store) (i : Inst) (m : Msg) (th ah : Bool) (h : Nat) :
    histGet (storeSave st ⟨i, m⟩ th ah).hist h = histGet st.hist h ∨
    (i.height = h ∧ replaces (histGet st.hist h) (recOf i m) = true ∧
      histGet (storeSave st ⟨i, m⟩ th ah).hist h = some (recOf i m)) := by
  rw [storeSave_hist_eq]
  split
  · rename_i hc
    rw [histGet_histPut]
    split
    · rename_i hh
      rw [Bool.and_eq_true, hh] at hc
      exact Or.inr ⟨hh, hc.2, rfl⟩
    · exact Or.inl rfl
  · exact Or.inl rfl

theorem storeSave_histOk (hok : HistOk st.hist) (i : Inst) (m : Msg) (th ah : Bool) :
    HistOk (storeSave st ⟨i, m⟩ th ah).hist := by
  intro h s hs
  rcases storeSave_histGet st i m th ah h with hu | ⟨hh, _, hw⟩
  · exact hok h s (hu ▸ hs)
  · rw [hw] at hs; cases hs; exact hh

/-- `SaveInstance` of the instance found for `h`: the historical key on a full node, the highest key iff the instance
    is at or above the controller height -/
theorem saveFound_some (hf : find c.insts h = some i) (st : Store) (m : Msg) :
    saveFound c st h m = storeSave st ⟨i, m⟩ c.full (decide (c.height ≤ h)) := by
  unfold saveFound
  rw [hf]
  show saveInstance c st i m = _
  unfold saveInstance
  rw [find_some_height hf]
  cases c.full <;> cases decide (c.height ≤ h) <;> rfl

theorem saveFound_none (hf : find c.insts h = none) (st : Store) (m : Msg) :
    saveFound c st h m = st := by
  unfold saveFound
  rw [hf]

theorem saveFound_ind {P : Store → Prop} (h : Nat) (m : Msg) (h0 : P st)
    (h1 : ∀ i th ah, find c.insts h = some i → P (storeSave st ⟨i, m⟩ th ah)) : P (saveFound c st h m) := by
  cases hf : find c.insts h with
  | none => rw [saveFound_none hf]; exact h0
  | some i => rw [saveFound_some hf]; exact h1 i _ _ hf

theorem saveFound_highest (c : Ctrl) (st : Store) (h : Nat) (m : Msg) :
    (saveFound c st h m).highest = st.highest ∨
    (c.height ≤ h ∧ ∃ i, find c.insts h = some i ∧ replaces st.highest (recOf i m) = true ∧
      (saveFound c st h m).highest = some (recOf i m)) := by
  cases hf : find c.insts h with
  | none => rw [saveFound_none hf]; exact Or.inl rfl
  | some i =>
    rw [saveFound_some hf]
    rcases storeSave_highest st i m c.full (decide (c.height ≤ h)) with hu | ⟨ha, hr, hw⟩
    · exact Or.inl hu
    · exact Or.inr ⟨of_decide_eq_true ha, i, rfl, hr, hw⟩

theorem saveFound_below (hlt : h < c.height) (st : Store) (m : Msg) :
    (saveFound c st h m).highest = st.highest :=
  (saveFound_highest c st h m).resolve_right fun ⟨hle, _⟩ => Nat.not_le_of_lt hlt hle

theorem saveFound_histOk (hok : HistOk st.hist) (h : Nat) (m : Msg) :
    HistOk (saveFound c st h m).hist :=
  saveFound_ind (P := fun s => HistOk s.hist) h m hok (fun i th ah _ => storeSave_histOk hok i m th ah)

/-- a save of the instance AT (or above) the controller height leaves a highest record of that height — the new one,
    or a stored one of the same height with at least as many signers -/
theorem saveFound_stores (hf : find c.insts h = some i)
    (hle : c.height ≤ h) (hst : ∀ a, st.highest = some a → a.inst.height ≤ h) :
    ∃ b, (saveFound c st h m).highest = some b ∧ b.inst.height = h := by
  have hih : i.height = h := find_some_height hf
  rw [saveFound_some hf, storeSave_highest_eq, decide_eq_true hle, Bool.true_and]
  cases hr : replaces st.highest (recOf i m)
  · -- not replaced: the stored record is of the same height (it is not above `h`)
    obtain ⟨p, hp, hcase⟩ := not_replaces hr
    rw [recOf_height] at hcase
    have hple : p.inst.height ≤ h := hst p hp
    exact ⟨p, hp, by omega⟩
  · exact ⟨recOf i m, rfl, hih⟩

theorem saveFound_congr (st : Store) (h : Nat) (m : Msg) (hi : c'.insts = c.insts) (hf : c'.full = c.full)
    (hh : c'.height ≤ h ↔ c.height ≤ h) : saveFound c' st h m = saveFound c st h m := by
  cases hfd : find c.insts h with
  | none => rw [saveFound_none hfd, saveFound_none (hi ▸ hfd)]
  | some i => rw [saveFound_some hfd, saveFound_some (hi ▸ hfd), hf, decide_eq_decide.mpr hh]

end

structure CInv (c : Ctrl) (st : Store) : Prop where
  /-- everything in the container is at or below the controller height, only the head may be AT it -/
  top : TopOk c.height c.insts
  /-- the stored highest is at or below the controller height -/
  le : ∀ a, st.highest = some a → a.inst.height ≤ c.height
  /-- … and when it is AT the controller height, that height's instance is in the container -/
  live : ∀ a, st.highest = some a → a.inst.height = c.height → AtTop c
  hist : HistOk st.hist

section
variable {c c' : Ctrl} {st : Store} {h : Nat}

theorem CInv.init (full : Bool) : CInv (newCtrl full) ⟨none, []⟩ :=
  ⟨trivial, by intro a h; simp at h, by intro a h; simp at h, by intro h s hs; simp [histGet] at hs⟩

/-- updating one slot in place keeps the invariant: the heights in the container stay the same -/
theorem CInv.replace (inv : CInv c st) (i' : Inst) :
    CInv { c with insts := replaceInst i' c.insts } st :=
  ⟨inv.top.replaceInst i', inv.le,
    fun a ha hah => (find_replaceInst_isSome i' c.insts c.height).trans (inv.live a ha hah), inv.hist⟩

theorem startNewInstance_ok (hs : startNewInstance c h = .ok c') :
    c.height ≤ h ∧ find c.insts h = none ∧ c'.height = h ∧ c'.full = c.full ∧
    c'.insts = (addNew c.insts (newInst h)).map (fun i => if i.height == h then i else { i with stopped := true }) := by
  unfold startNewInstance at hs
  by_cases h1 : h < c.height
  · rw [if_pos h1] at hs; cases hs
  rw [if_neg h1] at hs
  cases hf : find c.insts h with
  | some i => rw [hf, if_pos (show (some i).isSome = true from rfl)] at hs; cases hs
  | none =>
    rw [hf, if_neg (show ¬ (none : Option Inst).isSome = true from nofun)] at hs
    cases hs
    exact ⟨Nat.le_of_not_lt h1, rfl, rfl, rfl, rfl⟩

theorem startNewInstance_le (hs : startNewInstance c h = .ok c') : c.height ≤ h := (startNewInstance_ok hs).1

theorem startNewInstance_height (hs : startNewInstance c h = .ok c') : c'.height = h := (startNewInstance_ok hs).2.2.1

theorem stop_height (h : Nat) (x : Inst) : (if x.height == h then x else { x with stopped := true }).height = x.height := by
  split <;> rfl

/-- under `TopOk` everything in the container is below a height that `StartNewInstance` accepts, so the new instance
    goes to the front and one old instance is kept -/
theorem startNewInstance_insts (top : TopOk c.height c.insts) (hs : startNewInstance c h = .ok c') :
    (∀ x ∈ c.insts, x.height < (newInst h).height) ∧
    c'.insts = (newInst h :: c.insts.take 1).map (fun i => if i.height == h then i else { i with stopped := true }) := by
  obtain ⟨hle, hnone, _, _, hins⟩ := startNewInstance_ok hs
  have hlt : ∀ x ∈ c.insts, x.height < (newInst h).height := fun x hx =>
    Nat.lt_of_le_of_ne (Nat.le_trans (top.le x hx) hle) (find_none_iff.mp hnone x hx)
  exact ⟨hlt, by rw [hins, addNew_of_lt hlt]⟩

theorem startNewInstance_atTop (top : TopOk c.height c.insts) (hs : startNewInstance c h = .ok c') :
    AtTop c' := by
  unfold AtTop
  rw [(startNewInstance_insts top hs).2, startNewInstance_height hs]
  -- the head of the mapped list is `newInst h`: of height `h`, and left alone by the stop-map
  simp [find_cons, newInst]

theorem CInv.start (inv : CInv c st) (hs : startNewInstance c h = .ok c') :
    CInv c' st := by
  have hle := startNewInstance_le hs
  have hh := startNewInstance_height hs
  obtain ⟨hlt, hins⟩ := startNewInstance_insts inv.top hs
  refine ⟨?_, ?_, fun _ _ _ => startNewInstance_atTop inv.top hs, inv.hist⟩
  · rw [hins, hh]
    exact (TopOk.push (newInst h) hlt 1).map _ (stop_height h)
  · intro a ha; rw [hh]; exact Nat.le_trans (inv.le a ha) hle

end

/-- compaction does nothing, or updates in place the instance found for `h` -/
theorem compactAt_ind {P : Ctrl → Prop} {c : Ctrl} (h : Nat) (h0 : P c)
    (h1 : ∀ i, find c.insts h = some i → P { c with insts := replaceInst (trim i) c.insts }) : P (compactAt c h) := by
  unfold compactAt
  cases hf : find c.insts h with
  | none => exact h0
  | some i => exact h1 i hf

theorem compactAt_height (c : Ctrl) (h : Nat) : (compactAt c h).height = c.height :=
  compactAt_ind (P := fun c' => c'.height = c.height) h rfl fun _ _ => rfl

theorem compactAt_full (c : Ctrl) (h : Nat) : (compactAt c h).full = c.full :=
  compactAt_ind (P := fun c' => c'.full = c.full) h rfl fun _ _ => rfl

theorem compactAt_find_isSome (c : Ctrl) (h x : Nat) : (find (compactAt c h).insts x).isSome = (find c.insts x).isSome :=
  compactAt_ind (P := fun c' => (find c'.insts x).isSome = (find c.insts x).isSome) h rfl
    fun _ _ => find_replaceInst_isSome _ _ _

theorem CInv.compact {c : Ctrl} {st : Store} (inv : CInv c st) (h : Nat) : CInv (compactAt c h) st :=
  compactAt_ind (P := (CInv · st)) h inv fun _ _ => inv.replace _

section
variable {c : Ctrl} {st : Store} {h k : Nat} {m : Msg} {i i' x y : Inst} {l : List Inst} {inMem : Bool}

theorem CInv.saveFound (inv : CInv c st) (h : Nat) (m : Msg) :
    CInv c (saveFound c st h m) := by
  rcases saveFound_highest c st h m with hs | ⟨_, i, hf, _, hs⟩
  · exact ⟨inv.top, hs ▸ inv.le, hs ▸ inv.live, saveFound_histOk inv.hist h m⟩
  · -- the record written is that of an instance in the container, of height `h`
    refine ⟨inv.top, fun a ha => ?_, fun a ha hah => ?_, saveFound_histOk inv.hist h m⟩ <;> rw [hs] at ha <;> cases ha
    · exact inv.top.le i (find_some_mem hf)
    · have : h = c.height := (find_some_height hf).symm.trans hah
      unfold AtTop
      rw [← this, hf]; rfl

theorem instanceForHeight_some
    (hi : instanceForHeight c st h = some (i, inMem)) :
    (inMem = true ∧ find c.insts h = some i) ∨
    (inMem = false ∧ find c.insts h = none ∧ ∃ s0, histGet st.hist h = some s0 ∧ s0.inst = i) := by
  unfold instanceForHeight at hi
  cases hf : find c.insts h with
  | some j => rw [hf] at hi; cases hi; exact Or.inl ⟨rfl, rfl⟩
  | none =>
    rw [hf] at hi
    dsimp only at hi
    split at hi
    · cases hh : histGet st.hist h with
      | none => rw [hh] at hi; cases hi
      | some s0 => rw [hh] at hi; cases hi; exact Or.inr ⟨rfl, rfl, s0, rfl, rfl⟩
    · cases hi

theorem replaceInst_ite (hi' : i'.height = h) :
    (if (find l h).isSome = true then replaceInst i' l else l) = replaceInst i' l := by
  cases hf : find l h with
  | none => rw [replaceInst_of_none (hi' ▸ hf)]; rfl
  | some _ => rfl

/-- First stage of `UponDecided`: the container `l0` in which the instance of height `h` is looked up. -/
inductive Looked (c : Ctrl) (st : Store) (h : Nat) (l0 : List Inst) : Prop
  /-- the old container, when it holds an instance of that height -/
  | mem (e : l0 = c.insts) (i : Inst) (hf : find c.insts h = some i)
  /-- else the old container with a new decided instance, or with the one reloaded from storage, added
      (`addNewInstance`: it may not fit) -/
  | added (x : Inst) (hf : find c.insts h = none) (hx : x.height = h)
      (horig : x.accepted = none ∨ ∃ s0, histGet st.hist h = some s0 ∧ x = s0.inst) (e : l0 = addNew c.insts x)

/-- Second stage: `l` is `l0` with the instance of height `h` updated in place to a decided one — unless it was decided
    before and the message brings no more signers. -/
inductive Updated (h : Nat) (l0 l : List Inst) : Prop
  | decided (i' : Inst) (hi' : i'.height = h) (hd : i'.decided = true) (e : l = replaceInst i' l0)
  | kept (e : l = l0) (hz : ∀ z, find l0 h = some z → z.decided = true)

/-- `UponDecided` before its save block goes through the two stages; nothing is saved only if the instance came from
    memory, was decided before and is left as it is. -/
theorem decidedBranch_cases (h : Nat) (m : Msg) (hok : HistOk st.hist) :
    ∃ l0, Looked c st h l0 ∧ Updated h l0 (decidedBranch c st h m).1 ∧
      ((decidedBranch c st h m).2 = false →
        (decidedBranch c st h m).1 = c.insts ∧ ∃ i, find c.insts h = some i ∧ i.decided = true) := by
  unfold decidedBranch
  cases hi : instanceForHeight c st h with
  | none =>
    have hf : find c.insts h = none := by
      cases hf : find c.insts h with
      | none => rfl
      | some i => simp [instanceForHeight, hf] at hi
    exact ⟨_, .added _ hf rfl (Or.inl rfl) rfl, .kept rfl fun z hz => find_addNew_self hf hz ▸ rfl, nofun⟩
  | some p =>
    obtain ⟨i, inMem0⟩ := p
    dsimp only
    generalize hl : (if inMem0 = true then c.insts else addNew c.insts i) = l0
    -- the instance found is of height `h`, and it is what `find l0 h` returns (if anything)
    have hb : i.height = h ∧ (∀ z, find l0 h = some z → z = i) ∧
        (inMem0 = true → l0 = c.insts ∧ find c.insts h = some i) ∧ Looked c st h l0 := by
      rcases instanceForHeight_some hi with ⟨rfl, hf⟩ | ⟨rfl, hf, s0, hs0, rfl⟩
      · rw [if_pos rfl] at hl
        subst hl
        exact ⟨find_some_height hf, fun z hz => Option.some.inj (hz.symm.trans hf), fun _ => ⟨rfl, hf⟩,
          .mem rfl i hf⟩
      · rw [if_neg nofun] at hl
        subst hl
        have hh := hok h s0 hs0
        exact ⟨hh, fun z hz => find_addNew_self (hh ▸ hf) (hh ▸ hz), nofun,
          .added s0.inst hf hh (Or.inr ⟨s0, hs0, rfl⟩) rfl⟩
    obtain ⟨hih, hz, hmem, hbase⟩ := hb
    rw [replaceInst_ite (i' := { i with decided := true, round := m.round, commits := i.commits ++ [m] }) hih,
      replaceInst_ite (i' := { i with commits := i.commits ++ [m] }) hih]
    by_cases hd : i.decided = true
    · rw [if_neg (by rw [hd]; nofun)]
      by_cases hlong : longest i.commits m.round m.root < m.signers.length
      · rw [if_pos hlong]
        exact ⟨l0, hbase, .decided { i with commits := i.commits ++ [m] } hih hd rfl, nofun⟩
      · rw [if_neg hlong]
        refine ⟨l0, hbase, .kept rfl fun z hz' => hz z hz' ▸ hd, fun hfl => ?_⟩
        obtain ⟨e, hf⟩ := hmem ((Bool.not_eq_false' inMem0).mp hfl)
        exact ⟨e, i, hf, hd⟩
    · rw [if_pos (by rw [Bool.not_eq_true] at hd; rw [hd]; rfl)]
      exact ⟨l0, hbase,
        .decided { i with decided := true, round := m.round, commits := i.commits ++ [m] } hih rfl rfl, nofun⟩

theorem decidedBranch_unsaved (hok : HistOk st.hist) (hs : (decidedBranch c st h m).2 = false) :
    (decidedBranch c st h m).1 = c.insts ∧ ∃ i, find c.insts h = some i ∧ i.decided = true := by
  obtain ⟨_, _, _, hunsaved⟩ := decidedBranch_cases h m hok
  exact hunsaved hs

theorem decidedBranch_mem_other (hok : HistOk st.hist)
    (hy : y ∈ (decidedBranch c st h m).1) (hyh : y.height ≠ h) : y ∈ c.insts := by
  obtain ⟨l0, hb, hr, _⟩ := decidedBranch_cases h m hok
  have h0 : y ∈ l0 → y ∈ c.insts := by
    rcases hb with ⟨rfl, _, _⟩ | ⟨x, _, hx, _, rfl⟩
    · exact id
    · exact fun hy => (mem_addNew hy).resolve_left (fun e => hyh (e ▸ hx))
  rcases hr with ⟨i', hi', _, e⟩ | ⟨e, _⟩ <;> rw [e] at hy
  · exact (mem_replaceInst hy).elim (fun e => absurd (e ▸ hi') hyh) h0
  · exact h0 hy

theorem decidedBranch_find_at (hok : HistOk st.hist)
    (hy : find (decidedBranch c st h m).1 h = some y) : y.decided = true := by
  obtain ⟨l0, _, ⟨i', hi', hd, e⟩ | ⟨e, hz⟩, _⟩ := decidedBranch_cases h m hok <;> rw [e] at hy
  · cases hf : find l0 h with
    | none => rw [replaceInst_of_none (hi'.symm ▸ hf), hf] at hy; cases hy
    | some z => rw [find_replaceInst_same hf hi'] at hy; cases hy; exact hd
  · exact hz y hy

theorem decidedBranch_find_other (hok : HistOk st.hist)
    (hk : k ≠ h) (hy : find (decidedBranch c st h m).1 k = some y) : find c.insts k = some y := by
  obtain ⟨l0, hb, hr, _⟩ := decidedBranch_cases h m hok
  have h0 : find l0 k = some y → find c.insts k = some y := by
    rcases hb with ⟨rfl, _, _⟩ | ⟨x, _, hx, _, rfl⟩
    · exact id
    · exact find_addNew_other (x := x) (by omega)
  rcases hr with ⟨i', hi', _, e⟩ | ⟨e, _⟩ <;> rw [e] at hy
  · rw [find_replaceInst_other (i' := i') (by omega)] at hy; exact h0 hy
  · exact h0 hy

/-- the controller height after `UponDecided` of a message of height `h`: a future height is taken over -/
def bump (k h : Nat) : Nat := if k < h then h else k

theorem bump_of_le {k h : Nat} (hle : k ≤ h) : bump k h = h := by
  unfold bump
  split
  · rfl
  · exact Nat.le_antisymm hle (Nat.le_of_not_lt ‹_›)

theorem bump_of_ge {k h : Nat} (hge : h ≤ k) : bump k h = k := if_neg (Nat.not_lt.mpr hge)

theorem le_bump (k h : Nat) : k ≤ bump k h ∧ h ≤ bump k h := by
  unfold bump
  split <;> omega

/-- `l` can be the container after `UponDecided` of a message of height `h`: topped by the height afterwards, and
    holding the instance of that height if the message is at or above the old height or the old height's instance
    was there -/
structure Topped (c : Ctrl) (h : Nat) (l : List Inst) : Prop where
  top : TopOk (bump c.height h) l
  atTop : c.height ≤ h ∨ AtTop c → (find l (bump c.height h)).isSome = true

theorem Topped.replaceInst (t : Topped c h l) (i' : Inst) : Topped c h (replaceInst i' l) :=
  ⟨t.top.replaceInst i', fun hyp => (find_replaceInst_isSome i' l _).trans (t.atTop hyp)⟩

theorem addNew_topped (top : TopOk c.height c.insts) (hf : find c.insts h = none) (hx : x.height = h) :
    Topped c h (addNew c.insts x) := by
  have hne := find_none_iff.mp hf
  by_cases hge : c.height ≤ h
  · -- everything in the container is below the new instance: it goes to the front, at the new height
    have hall : ∀ y ∈ c.insts, y.height < x.height := fun y hy =>
      hx ▸ Nat.lt_of_le_of_ne (Nat.le_trans (top.le y hy) hge) (hne y hy)
    refine ⟨?_, fun _ => ?_⟩ <;> rw [addNew_of_lt hall, bump_of_le hge, ← hx]
    · exact TopOk.push x hall 1
    · rw [find_cons, if_pos rfl]; rfl
  · have hlt : h < c.height := Nat.lt_of_not_le hge
    refine ⟨?_, fun hyp => ?_⟩ <;> rw [bump_of_ge (Nat.le_of_lt hlt)]
    · exact top.addNew x (hx ▸ Nat.le_of_lt hlt) (fun hh => absurd (hx ▸ hh) (Nat.ne_of_lt hlt))
    have hat : AtTop c := hyp.resolve_left hge
    unfold AtTop at hat
    cases hf0 : find c.insts c.height with
    | none => rw [hf0] at hat; cases hat
    | some i0 =>
      -- the head stays
      obtain ⟨rest, hl0⟩ := top.find_head hf0
      have hi0 := find_some_height hf0
      rw [hl0, addNew_cons_ge (hi0 ▸ hx ▸ Nat.lt_asymm hlt), find_cons, if_pos hi0]; rfl

theorem decidedBranch_topped (top : TopOk c.height c.insts) (hok : HistOk st.hist) (h : Nat) (m : Msg) :
    Topped c h (decidedBranch c st h m).1 := by
  obtain ⟨l0, hb, hr, _⟩ := decidedBranch_cases h m hok
  have h0 : Topped c h l0 := by
    rcases hb with ⟨rfl, i, hf⟩ | ⟨x, hf, hx, _, rfl⟩
    · -- in memory, so not above the controller height: no bump
      have hle : h ≤ c.height := find_some_height hf ▸ top.le i (find_some_mem hf)
      refine ⟨?_, fun hyp => ?_⟩ <;> rw [bump_of_ge hle]
      · exact top
      · exact hyp.elim (fun hge => by rw [Nat.le_antisymm hge hle, hf]; rfl) id
    · exact addNew_topped top hf hx
  rcases hr with ⟨i', _, _, e⟩ | ⟨e, _⟩ <;> rw [e]
  · exact h0.replaceInst i'
  · exact h0

end

/-- the container update + height bump of `UponDecided` keeps the invariant (store not yet touched) -/
theorem CInv.branch {c : Ctrl} {st : Store} (inv : CInv c st) (h : Nat) (m : Msg) :
    CInv { c with insts := (decidedBranch c st h m).1, height := if c.height < h then h else c.height } st := by
  refine ⟨(decidedBranch_topped inv.top inv.hist h m).top, fun a ha => Nat.le_trans (inv.le a ha) (le_bump _ h).1, ?_,
    inv.hist⟩
  intro a ha hah
  -- a stored highest AT the new height: no bump happened, and the old height's instance was there
  have hah : a.inst.height = bump c.height h := hah
  have hnlt : ¬ c.height < h := fun hlt => by
    rw [bump_of_le (Nat.le_of_lt hlt)] at hah
    exact absurd (hah ▸ inv.le a ha) (Nat.not_le_of_lt hlt)
  rw [bump_of_ge (Nat.le_of_not_lt hnlt)] at hah
  exact (decidedBranch_topped inv.top inv.hist h m).atTop (Or.inr (inv.live a ha hah))

/-- the save block runs before the height bump; for `isHighest` of height `h` that makes no difference -/
theorem uponDecided_store (c : Ctrl) (st : Store) (h : Nat) (m : Msg) :
    (uponDecided c st h m).2.1 =
      if (decidedBranch c st h m).2 then saveFound (uponDecided c st h m).1 st h m else st := by
  have e : saveFound (uponDecided c st h m).1 st h m = saveFound { c with insts := (decidedBranch c st h m).1 } st h m :=
    saveFound_congr st h m rfl rfl (by
      show bump c.height h ≤ h ↔ c.height ≤ h
      unfold bump
      split <;> omega)
  rw [e]; rfl

theorem uponDecided_height (c : Ctrl) (st : Store) (h : Nat) (m : Msg) :
    (uponDecided c st h m).1.height = bump c.height h := rfl

theorem uponDecided_height_ge (c : Ctrl) (st : Store) (h : Nat) (m : Msg) :
    h ≤ (uponDecided c st h m).1.height ∧ c.height ≤ (uponDecided c st h m).1.height :=
  ⟨(le_bump c.height h).2, (le_bump c.height h).1⟩

theorem uponDecided_full (c : Ctrl) (st : Store) (h : Nat) (m : Msg) : (uponDecided c st h m).1.full = c.full := rfl

theorem uponDecided_out (c : Ctrl) (st : Store) (h : Nat) (m : Msg) :
    (uponDecided c st h m).2.2 = if prevDecidedOf c st h then .dup else .new := rfl

theorem CInv.uponDecided {c : Ctrl} {st : Store} (inv : CInv c st) (h : Nat) (m : Msg) :
    CInv (uponDecided c st h m).1 (uponDecided c st h m).2.1 := by
  rw [uponDecided_store]
  cases (decidedBranch c st h m).2
  · exact inv.branch h m
  · exact (inv.branch h m).saveFound h m

/-- the instance after `UponCommit` has filed one more commit: decided once its bucket reaches a quorum -/
def addCommit (q : Nat) (i : Inst) (m : Msg) : Inst :=
  { i with commits := i.commits ++ [m],
           decided := i.decided || decide (q ≤ longest (i.commits ++ [m]) m.round m.root) }

section
variable (q : Nat) (c : Ctrl) (st : Store) (h : Nat) (m : Msg)

/-- the below-quorum commit path: a message that fails one of the guards (future height, no instance, stopped, past
    round, no accepted proposal, `validateCommit`, signer already filed) leaves the controller alone and is never
    reported as a decision. One that passes them all finds an instance with an accepted proposal; that instance gets
    one more commit — in the container if it came from there, on a temporary object otherwise — and a first decision
    is reported only if it was undecided. -/
theorem existingMsg_cases :
    ((existingMsg q c st h m).1 = c ∧ (existingMsg q c st h m).2.1 ≠ .new) ∨
    ∃ i inMem, instanceForHeight c st h = some (i, inMem) ∧ i.accepted.isSome = true ∧
      (existingMsg q c st h m).1 = (if inMem then { c with insts := replaceInst (addCommit q i m) c.insts } else c) ∧
      ((existingMsg q c st h m).2.1 = .new → i.decided = false) := by
  -- down the chain of guards, one `if`/`match` at a time (a `split` of the whole body is far slower to check)
  unfold existingMsg
  by_cases h1 : ((c.height == Gen.heights_FirstHeight && (find c.insts c.height).isNone) || decide (c.height < h)) = true
  · rw [if_pos h1]; exact Or.inl ⟨rfl, nofun⟩
  rw [if_neg h1]
  cases hi : instanceForHeight c st h with
  | none => exact Or.inl ⟨rfl, nofun⟩
  | some p =>
    obtain ⟨i, inMem⟩ := p
    dsimp only
    by_cases h2 : (inMem && i.stopped) = true
    · rw [if_pos h2]; exact Or.inl ⟨rfl, nofun⟩
    rw [if_neg h2]
    by_cases h3 : m.round < i.round
    · rw [if_pos h3]; exact Or.inl ⟨rfl, nofun⟩
    rw [if_neg h3]
    cases hacc : i.accepted with
    | none => exact Or.inl ⟨rfl, nofun⟩
    | some root =>
      dsimp only
      by_cases h4 : (m.signers.length ≠ 1 || m.round ≠ i.round || m.root ≠ root) = true
      · rw [if_pos h4]; exact Or.inl ⟨rfl, nofun⟩
      rw [if_neg h4]
      by_cases h5 : (i.commits.any (fun x => x.round == m.round && sameSigners x.signers m.signers)) = true
      · rw [if_pos h5]; exact Or.inl ⟨rfl, nofun⟩
      rw [if_neg h5]
      refine Or.inr ⟨i, inMem, rfl, by rw [hacc]; rfl, by rw [addCommit, hacc], fun hn => ?_⟩
      cases hd : i.decided
      · rfl
      · rw [hd, Bool.not_true, Bool.and_false] at hn; cases hn

/-- the path leaves the controller alone, or files one more commit with the in-memory instance of that height,
    which has an accepted proposal -/
theorem existingMsg_ind {P : Ctrl → Prop} (h0 : P c)
    (h1 : ∀ i, find c.insts h = some i → i.accepted.isSome = true →
      P { c with insts := replaceInst (addCommit q i m) c.insts }) : P (existingMsg q c st h m).1 := by
  rcases existingMsg_cases q c st h m with ⟨he, _⟩ | ⟨i, inMem, hi, hacc, he, _⟩ <;> rw [he]
  · exact h0
  · rcases instanceForHeight_some hi with ⟨rfl, hf⟩ | ⟨rfl, _⟩
    · exact h1 i hf hacc
    · exact h0

theorem existingMsg_height_full :
    (existingMsg q c st h m).1.height = c.height ∧ (existingMsg q c st h m).1.full = c.full :=
  existingMsg_ind (P := fun c' => c'.height = c.height ∧ c'.full = c.full) q c st h m ⟨rfl, rfl⟩ fun _ _ _ => ⟨rfl, rfl⟩

theorem existingMsg_find_isSome (k : Nat) :
    (find (existingMsg q c st h m).1.insts k).isSome = (find c.insts k).isSome :=
  existingMsg_ind (P := fun c' => (find c'.insts k).isSome = (find c.insts k).isSome) q c st h m rfl
    fun _ _ _ => find_replaceInst_isSome _ c.insts k

end

theorem CInv.existingMsg {c : Ctrl} {st : Store} (inv : CInv c st) (q h : Nat) (m : Msg) :
    CInv (Heights.existingMsg q c st h m).1 st :=
  existingMsg_ind (P := (CInv · st)) q c st h m inv fun _ _ _ => inv.replace _

theorem processMsg_cases (q : Nat) (c : Ctrl) (st : Store) (h : Nat) (m : Msg) (ok : Bool) :
    (processMsg q c st h m ok = (c, st, .err)) ∨
    (ok = true ∧ q ≤ m.signers.length ∧ processMsg q c st h m ok = uponDecided c st h m) ∨
    (ok = true ∧ m.signers.length < q ∧
      processMsg q c st h m ok = ((existingMsg q c st h m).1, st, (existingMsg q c st h m).2.1)) := by
  unfold processMsg
  cases ok
  · left; rfl
  · by_cases hq : m.signers.length < q
    · right; right; exact ⟨rfl, hq, by simp [hq]⟩
    · right; left; exact ⟨rfl, by omega, by simp [hq]⟩

/-- `ProcessMsg` rejects the message, or is `UponDecided`, or is the below-quorum path, which leaves the store alone -/
theorem processMsg_ind {P : Ctrl × Store × DOut → Prop} (q : Nat) (c : Ctrl) (st : Store) (h : Nat) (m : Msg) (ok : Bool)
    (h0 : P (c, st, .err)) (h1 : P (uponDecided c st h m))
    (h2 : P ((existingMsg q c st h m).1, st, (existingMsg q c st h m).2.1)) : P (processMsg q c st h m ok) := by
  rcases processMsg_cases q c st h m ok with he | ⟨_, _, he⟩ | ⟨_, _, he⟩ <;> rw [he]
  · exact h0
  · exact h1
  · exact h2

theorem processMsg_valid {q : Nat} {m : Msg} (c : Ctrl) (st : Store) (h : Nat) (hq : q ≤ m.signers.length) :
    processMsg q c st h m true = uponDecided c st h m := by
  unfold processMsg
  rw [if_neg (by simp), if_neg (Nat.not_lt.mpr hq)]

theorem CInv.processMsg {c : Ctrl} {st : Store} (inv : CInv c st) (q h : Nat) (m : Msg) (ok : Bool) :
    CInv (Heights.processMsg q c st h m ok).1 (Heights.processMsg q c st h m ok).2.1 :=
  processMsg_ind (P := fun p => CInv p.1 p.2.1) q c st h m ok inv (inv.uponDecided h m) (inv.existingMsg q h m)

/-- the controller part of `ProcessMsg` keeps the invariant against the UNCHANGED store (a failed write) -/
theorem CInv.processMsg_ctrl {c : Ctrl} {st : Store} (inv : CInv c st) (q h : Nat) (m : Msg) (ok : Bool) :
    CInv (Heights.processMsg q c st h m ok).1 st :=
  processMsg_ind (P := fun p => CInv p.1 st) q c st h m ok inv (inv.branch h m) (inv.existingMsg q h m)

theorem processMsg_full (q : Nat) (c : Ctrl) (st : Store) (h : Nat) (m : Msg) (ok : Bool) :
    (processMsg q c st h m ok).1.full = c.full :=
  processMsg_ind (P := fun p => p.1.full = c.full) q c st h m ok rfl rfl (existingMsg_height_full q c st h m).2

section
variable {c : Ctrl} {st : Store} {a : Stored}

theorem loadHighest_some (ha : st.highest = some a) :
    (loadHighest c st).1.height = a.inst.height ∧ (loadHighest c st).1.insts = [trim a.inst] ∧
    (loadHighest c st).1.full = c.full ∧ (loadHighest c st).2 = some a := by
  unfold loadHighest
  rw [ha]
  exact ⟨rfl, rfl, rfl, rfl⟩

theorem loadHighest_height (ha : st.highest = some a) : (loadHighest c st).1.height = a.inst.height :=
  (loadHighest_some ha).1

theorem loadHighest_insts (ha : st.highest = some a) : (loadHighest c st).1.insts = [trim a.inst] :=
  (loadHighest_some ha).2.1

theorem loadHighest_none (ha : st.highest = none) :
    (loadHighest c st).1 = c ∧ (loadHighest c st).2 = none := by
  unfold loadHighest
  rw [ha]
  exact ⟨rfl, rfl⟩

theorem loadHighest_atTop (ha : st.highest = some a) (full : Bool) :
    AtTop (loadHighest (newCtrl full) st).1 := by
  obtain ⟨h1, h2, _, _⟩ := loadHighest_some (c := newCtrl full) ha
  unfold AtTop
  rw [h1, h2, find_cons]
  simp [trim_height]

theorem CInv.load (inv : CInv c st) (full : Bool) :
    CInv (loadHighest (newCtrl full) st).1 st := by
  cases hs : st.highest with
  | none =>
    rw [(loadHighest_none hs).1]
    exact ⟨trivial, by intro a h; simp [hs] at h, by intro a h; simp [hs] at h, inv.hist⟩
  | some s =>
    obtain ⟨h1, h2, _, _⟩ := loadHighest_some (c := newCtrl full) hs
    refine ⟨by rw [h1, h2]; exact ⟨Nat.le_refl _, by simp⟩, ?_, fun _ _ _ => loadHighest_atTop hs full, inv.hist⟩
    intro a ha; rw [hs] at ha; cases ha; rw [h1]; exact Nat.le_refl _

end

end Ssv.Heights
