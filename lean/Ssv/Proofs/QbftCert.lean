/-
Helper lemmas for C02: what the validation functions establish, what an aggregate of the commit container carries, and the
invariants of instance and controller. The entry points are analysed once, by case principles (`processMsg_cases`,
`ctrl_processMsg_cases`, `uponExisting_cases`); the handlers, `Start` and the round timeout are described by the fields they
write (`…_plain`, `uponCommit_spec`).
Core Lean only.
-/
import Ssv.Model.Qbft.Run
import Ssv.Common.Lemmas

namespace Ssv.Qbft

@[simp] theorem wrap_eq_ok {α : Type} (a : Atom) (x : V α) (u : α) : wrap a x = .ok u ↔ x = .ok u := by
  cases x with
  | ok v => simp [wrap]
  | error e => cases e <;> simp [wrap]

@[simp] theorem rejectIf_eq_ok (c : Bool) (a : Atom) (u : Unit) : rejectIf c a = .ok u ↔ c = false := by
  cases c <;> simp [rejectIf, fail, pure, Except.pure]

@[simp] theorem bind_eq_ok {α β : Type} (x : V α) (f : α → V β) (u : β) :
    (x >>= f) = .ok u ↔ ∃ v, x = .ok v ∧ f v = .ok u := by
  cases x with
  | ok v => simp [bind, Except.bind]
  | error e => simp [bind, Except.bind]

@[simp] theorem pure_eq_ok {α : Type} (a u : α) : (pure a : V α) = .ok u ↔ a = u := by
  simp [pure, Except.pure]

@[simp] theorem fail_ne_ok {α : Type} (a : Atom) (u : α) : (fail a : V α) ≠ .ok u := by
  simp [fail]

theorem firstFail_ok {α : Type} (f : α → V Unit) (l : List α) (u : Unit) (h : firstFail f l = .ok u) : ∀ a ∈ l, f a = .ok () := by
  induction l with
  | nil => exact fun _ ha => nomatch ha
  | cons x rest ih =>
    unfold firstFail at h
    obtain ⟨_, h1, h2⟩ := (bind_eq_ok _ _ _).1 h
    exact List.forall_mem_cons.2 ⟨h1, ih h2⟩

theorem validateSignersLoop_ok (seen l : List Nat) (u : Unit) (h : validateSignersLoop seen l = .ok u) :
    l.Nodup ∧ 0 ∉ l ∧ ∀ x ∈ l, x ∉ seen := by
  induction l generalizing seen with
  | nil => simp
  | cons s rest ih =>
    unfold validateSignersLoop at h
    split at h
    · exact absurd h (fail_ne_ok _ _)
    · split at h
      · exact absurd h (fail_ne_ok _ _)
      · rename_i h1 h2
        obtain ⟨hn, h0, hs⟩ := ih (s :: seen) h
        simp at h1 h2
        refine ⟨List.nodup_cons.2 ⟨fun hm => hs s hm List.mem_cons_self, hn⟩, ?_, ?_⟩
        · simpa [h0] using Ne.symm h2
        · intro x hx
          rcases List.mem_cons.1 hx with rfl | hx
          · exact h1
          · exact fun hxs => hs x hx (List.mem_cons_of_mem _ hxs)

theorem signedValidate_ok (b : Base) (u : Unit) (h : signedValidate b = .ok u) :
    b.signers ≠ [] ∧ b.signers.Nodup ∧ 0 ∉ b.signers ∧ b.ident ≠ 0 ∧ b.malformed = false ∧ b.type ≤ tRoundChange := by
  unfold signedValidate messageValidate at h
  simp only [gt_iff_lt, bind_eq_ok, rejectIf_eq_ok, List.isEmpty_eq_false_iff, ne_eq, beq_eq_false_iff_ne,
    decide_eq_false_iff_not, Nat.not_lt, exists_const, exists_and_right] at h
  -- the guards in source order: signers not empty, the signer loop, identifier not empty, not malformed, type bounded
  obtain ⟨h1, ⟨x, h2⟩, h3, h4, h5⟩ := h
  obtain ⟨hn, h0, _⟩ := validateSignersLoop_ok [] b.signers x h2
  refine ⟨?_, hn, h0, h3, h4, by omega⟩
  intro e; simp [e] at h1

theorem verifySig_true (cfg : Cfg) (b : Base) (h : cfg.verifySig b = true) :
    b.sigOk = true ∧ ∀ s ∈ b.signers, s ∈ cfg.committee := by
  unfold Cfg.verifySig at h
  simp at h
  exact ⟨h.2, h.1⟩

theorem validateDecided_ok (cfg : Cfg) (m : Msg) (u : Unit) (h : validateDecided cfg m = .ok u) :
    m.type = tCommit ∧ cfg.quorum ≤ m.signers.length ∧ m.signers.Nodup ∧ 0 ∉ m.signers ∧ m.sigOk = true ∧
    (∀ s ∈ m.signers, s ∈ cfg.committee) ∧ hashData m.fullData = m.root := by
  unfold validateDecided baseCommitValidation isDecidedMsg at h
  simp only [Bool.not_and, bne_self_eq_false, bind_eq_ok, rejectIf_eq_ok, Bool.or_eq_false_iff, Bool.not_eq_eq_eq_not,
    Bool.not_false, decide_eq_true_eq, beq_iff_eq, wrap_eq_ok, bne_eq_false_iff_eq, exists_and_right, true_and,
    exists_const] at h
  -- in source order: `isDecidedMsg` (quorum, commit type), `Validate`, `BaseCommitValidation` (type, `Validate`, signature),
  -- `Validate` again, the hash
  obtain ⟨⟨hq, ht⟩, ⟨x, hv⟩, ⟨_, _, hs⟩, _, hh⟩ := h
  obtain ⟨_, hn, h0, _⟩ := signedValidate_ok m.toBase x hv
  obtain ⟨hso, hc⟩ := verifySig_true cfg m.toBase hs
  exact ⟨ht, hq, hn, h0, hso, hc, hh⟩

theorem insertSorted_perm (a : Nat) (l : List Nat) : (insertSorted a l).Perm (a :: l) := by
  induction l with
  | nil => exact List.Perm.refl _
  | cons b l ih =>
    unfold insertSorted
    split
    · exact List.Perm.refl _
    · exact (List.Perm.cons b ih).trans (List.Perm.swap a b l)

theorem sortNat_perm (l : List Nat) : (sortNat l).Perm l := by
  induction l with
  | nil => exact List.Perm.refl _
  | cons a l ih =>
    unfold sortNat
    exact (insertSorted_perm a (sortNat l)).trans (List.Perm.cons a ih)

theorem commonSigners_eq_false (a b : List Nat) : commonSigners a b = false ↔ ∀ x ∈ a, x ∉ b := by
  simp [commonSigners]

theorem greedyDisjoint_spec (P : Msg → Prop) (acc : List Msg) (sg : List Nat) (l : List Msg)
    (hsg : sg = signersOf acc) (hnd : sg.Nodup) (hacc : ∀ m ∈ acc, P m) (hl : ∀ m ∈ l, P m ∧ m.signers.Nodup) :
    let r := greedyDisjoint acc sg l
    r.2 = signersOf r.1 ∧ r.2.Nodup ∧ ∀ m ∈ r.1, P m := by
  induction l generalizing acc sg with
  | nil => exact ⟨hsg, hnd, hacc⟩
  | cons m rest ih =>
    unfold greedyDisjoint
    have hrest : ∀ x ∈ rest, P x ∧ x.signers.Nodup := fun x hx => hl x (List.mem_cons_of_mem _ hx)
    have hm := hl m List.mem_cons_self
    split
    · exact ih acc sg hsg hnd hacc hrest
    · rename_i hc
      have hdis := (commonSigners_eq_false _ _).1 (Bool.eq_false_iff.2 hc)
      refine ih (acc ++ [m]) (sg ++ m.signers) (by simp [signersOf, hsg]) (List.nodup_append.2 ⟨hnd, hm.2, ?_⟩) ?_ hrest
      · rintro a ha _ hb rfl
        exact hdis a hb ha
      · intro x hx
        rcases List.mem_append.1 hx with hx | hx
        · exact hacc x hx
        · exact List.eq_of_mem_singleton hx ▸ hm.1

theorem longestFrom_spec (P : Msg → Prop) (l : List Msg) (hl : ∀ m ∈ l, P m ∧ m.signers.Nodup) :
    let r := longestFrom l
    r.1 = signersOf r.2 ∧ r.1.Nodup ∧ ∀ m ∈ r.2, P m := by
  induction l with
  | nil => simp [longestFrom, signersOf]
  | cons m rest ih =>
    have hm := hl m List.mem_cons_self
    unfold longestFrom
    dsimp only
    split
    · exact ih fun x hx => hl x (List.mem_cons_of_mem _ hx)
    · exact greedyDisjoint_spec P [m] m.signers rest (by simp [signersOf]) hm.2
        (fun x hx => List.eq_of_mem_singleton hx ▸ hm.1) fun x hx => hl x (List.mem_cons_of_mem _ hx)

theorem longestUniqueSigners_spec (P : Msg → Prop) (c : Container) (round root : Nat) (hc : ∀ m ∈ c, P m ∧ m.signers.Nodup) :
    let r := longestUniqueSigners c round root
    r.1 = signersOf r.2 ∧ r.1.Nodup ∧ ∀ m ∈ r.2, P m ∧ m.round = round ∧ m.root = root := by
  unfold longestUniqueSigners
  apply longestFrom_spec (fun m => P m ∧ m.round = round ∧ m.root = root)
  intro m hm
  obtain ⟨hm1, hroot⟩ := List.mem_filter.1 hm
  obtain ⟨hm2, hr⟩ := List.mem_filter.1 hm1
  exact ⟨⟨(hc m hm2).1, by simpa using hr, by simpa using hroot⟩, (hc m hm2).2⟩

theorem aggregateLoop_spec (ret : Msg) (rest : List Msg) (r : Msg) (h : aggregateLoop ret rest = .ok r) :
    ∃ so md, r = { ret with signers := ret.signers ++ signersOf rest, sigOk := so, mid := md } ∧
      (so = true ↔ ret.sigOk = true ∧ ∀ m ∈ rest, m.sigOk = true) := by
  induction rest generalizing ret with
  | nil =>
    cases (pure_eq_ok _ _).1 h
    exact ⟨r.sigOk, r.mid, by simp [signersOf], by simp⟩
  | cons m rest ih =>
    unfold aggregateLoop at h
    split at h
    · simp [fail] at h
    · split at h
      · simp [fail] at h
      · obtain ⟨so, md, rfl, hso⟩ := ih _ h
        exact ⟨so, md, by simp [signersOf], by simp [hso, and_assoc]⟩

theorem aggregateCommitMsgs_spec (msgs : List Msg) (fd : Nat) (agg : Msg) (h : aggregateCommitMsgs msgs fd = .ok agg) :
    ∃ m rest, msgs = m :: rest ∧ agg.signers = sortNat (signersOf msgs) ∧ agg.type = m.type ∧ agg.height = m.height ∧
      agg.round = m.round ∧ agg.root = m.root ∧ agg.ident = m.ident ∧ agg.fullData = fd ∧
      (agg.sigOk = true ↔ ∀ x ∈ msgs, x.sigOk = true) := by
  cases msgs with
  | nil => simp [aggregateCommitMsgs] at h
  | cons m rest =>
    unfold aggregateCommitMsgs at h
    simp only [bind_eq_ok, pure_eq_ok] at h
    obtain ⟨r, hr, rfl⟩ := h
    obtain ⟨so, md, rfl, hso⟩ := aggregateLoop_spec _ rest r hr
    exact ⟨m, rest, rfl, by simp [signersOf], rfl, rfl, rfl, rfl, rfl, rfl, by simp [hso]⟩

/-- a verifiable quorum certificate for the controller's identifier -/
structure ValidCert (cfg : Cfg) (m : Msg) : Prop where
  isCommit : m.type = tCommit
  sigOk : m.sigOk = true
  nodup : m.signers.Nodup
  nozero : 0 ∉ m.signers
  committee : ∀ s ∈ m.signers, s ∈ cfg.committee
  quorum : cfg.quorum ≤ m.signers.length
  hash : hashData m.fullData = m.root
  ident : m.ident = cfg.ident

/-- the step reports no aggregate (only a commit quorum does) -/
def NoAgg (st : Step) : Prop := ∀ d v a, st.res ≠ .ok d v (some a)

/-- outputs an instance can produce: its own broadcasts and timer calls -/
def InstOut (o : Out) : Prop := (∃ m, o = .bcast m) ∨ (∃ h r, o = .timer h r)
def OutsInst (l : List Out) : Prop := ∀ o ∈ l, InstOut o

theorem okStep_st (s : State) (o : List Out) : (okStep s o).st = s := rfl
theorem failStep_st (s : State) (o : List Out) (f : Fail) : (failStep s o f).st = s := by cases f <;> rfl
theorem sendOr_st (cfg : Cfg) (s : State) (a : Atom) (m : Msg) (pre : List Out) : (sendOr cfg s a m pre).st = s := by
  unfold sendOr
  split
  · rfl
  · exact failStep_st _ _ _

theorem okStep_noAgg (s : State) (o : List Out) : NoAgg (okStep s o) := fun _ _ _ h => nomatch h
theorem failStep_noAgg (s : State) (o : List Out) (f : Fail) : NoAgg (failStep s o f) := by
  cases f <;> exact fun _ _ _ h => nomatch h
theorem sendOr_noAgg (cfg : Cfg) (s : State) (a : Atom) (m : Msg) (pre : List Out) : NoAgg (sendOr cfg s a m pre) := by
  unfold sendOr
  split
  · exact okStep_noAgg _ _
  · exact failStep_noAgg _ _ _

theorem outsInst_nil : OutsInst [] := fun _ h => nomatch h
theorem outsInst_append {a b : List Out} (ha : OutsInst a) (hb : OutsInst b) : OutsInst (a ++ b) :=
  fun o ho => (List.mem_append.1 ho).elim (ha o) (hb o)
theorem outsInst_timer (h r : Nat) : OutsInst [.timer h r] :=
  fun _ ho => List.eq_of_mem_singleton ho ▸ Or.inr ⟨h, r, rfl⟩
theorem outsInst_okStep (s : State) (o : List Out) (h : OutsInst o) : OutsInst (okStep s o).outs := h

section
variable (cfg : Cfg) (s : State) (m : Msg) {Q : State → Prop}

theorem failStep_outs (o : List Out) (f : Fail) : (failStep s o f).outs = o := by cases f <;> rfl
theorem outsInst_failStep (o : List Out) (f : Fail) (h : OutsInst o) : OutsInst (failStep s o f).outs :=
  (failStep_outs s o f).symm ▸ h

theorem broadcast_outs (o : List Out) (h : broadcast cfg s m = .ok o) : OutsInst o := by
  unfold broadcast at h
  split at h
  · cases h
    exact fun _ hx => List.eq_of_mem_singleton hx ▸ Or.inl ⟨m, rfl⟩
  · cases h

theorem outsInst_sendOr (a : Atom) (pre : List Out) (h : OutsInst pre) :
    OutsInst (sendOr cfg s a m pre).outs := by
  unfold sendOr
  split
  · rename_i o ho
    exact outsInst_append h (broadcast_outs cfg s m o ((wrap_eq_ok _ _ _).1 ho))
  · exact outsInst_failStep _ _ _ h

/-- What every handler returns unless a commit quorum makes it decide: no aggregate, only the instance's own broadcasts and
    timer calls, and a state satisfying `Q`. -/
structure Plain (Q : State → Prop) (st : Step) : Prop where
  noAgg : NoAgg st
  outs : OutsInst st.outs
  state : Q st.st

theorem plain_okStep {s : State} {o : List Out} (ho : OutsInst o) (hs : Q s) : Plain Q (okStep s o) :=
  ⟨okStep_noAgg s o, ho, hs⟩

/-- this covers the literal error and panic steps `⟨s, o, .err t⟩`, `⟨s, o, .panic⟩` as well -/
theorem plain_failStep {s : State} {o : List Out} (f : Fail) (ho : OutsInst o) (hs : Q s) :
    Plain Q (failStep s o f) :=
  ⟨failStep_noAgg s o f, outsInst_failStep s o f ho, (failStep_st s o f).symm ▸ hs⟩

theorem plain_sendOr {cfg : Cfg} {s : State} {a : Atom} {m : Msg} {pre : List Out} (ho : OutsInst pre)
    (hs : Q s) : Plain Q (sendOr cfg s a m pre) :=
  ⟨sendOr_noAgg cfg s a m pre, outsInst_sendOr cfg s m a pre ho, (sendOr_st cfg s a m pre).symm ▸ hs⟩

/-- `uponProposal` ignores a second proposal of the signer; otherwise it stores the message, accepts it and moves to its round -/
theorem uponProposal_plain :
    Plain (fun s' => s' = s ∨ ∃ pc, s' = { s with propose := pc, accepted := some m, round := m.round })
      (uponProposal cfg s m) := by
  unfold uponProposal
  generalize addFirst s.propose m = x
  obtain ⟨pc, added⟩ := x
  refine ite_cases (fun _ => plain_okStep outsInst_nil (.inl rfl)) fun _ => plain_sendOr ?_ (.inr ⟨pc, rfl⟩)
  split
  · exact outsInst_timer _ _
  · exact outsInst_nil

theorem uponPrepare_plain :
    Plain (fun s' => ∃ pc lv lr, s' = { s with prepare := pc, lastPreparedValue := lv, lastPreparedRound := lr })
      (uponPrepare cfg s m) := by
  unfold uponPrepare
  generalize addFirst s.prepare m = x
  obtain ⟨pc, added⟩ := x
  refine ite_cases (fun _ => plain_okStep outsInst_nil ⟨_, _, _, rfl⟩) fun _ => ?_
  refine ite_cases (fun _ => plain_okStep outsInst_nil ⟨_, _, _, rfl⟩) fun _ => ?_
  refine ite_cases (fun _ => plain_okStep outsInst_nil ⟨_, _, _, rfl⟩) fun _ => ?_
  split
  · exact plain_failStep .panic outsInst_nil ⟨_, _, _, rfl⟩
  · exact plain_sendOr outsInst_nil ⟨_, _, _, rfl⟩

/-- `uponRoundChange` writes the round-change container; a partial quorum for a higher round also moves the instance to that
    round and clears the accepted proposal -/
theorem uponRoundChange_plain :
    Plain (fun s' => ∃ rc, s' = { s with roundChange := rc } ∨ ∃ r, s' = { s with roundChange := rc, round := r, accepted := none })
      (uponRoundChange cfg s m) := by
  unfold uponRoundChange
  generalize addFirst s.roundChange m = x
  obtain ⟨rc, added⟩ := x
  refine ite_cases (fun _ => plain_okStep outsInst_nil ⟨_, .inl rfl⟩) fun _ => ?_
  refine ite_cases (fun _ => plain_okStep outsInst_nil ⟨rc, .inl rfl⟩) fun _ => ?_
  split
  · exact plain_failStep _ outsInst_nil ⟨_, .inl rfl⟩
  · exact plain_sendOr outsInst_nil ⟨_, .inl rfl⟩
  · refine ite_cases (fun _ => ?_) fun _ => plain_okStep outsInst_nil ⟨rc, .inl rfl⟩
    refine ite_cases (fun _ => plain_okStep outsInst_nil ⟨rc, .inl rfl⟩) fun _ => ?_
    exact plain_sendOr (outsInst_timer _ _) ⟨rc, .inr ⟨_, rfl⟩⟩

/-- `uponCommit` emits nothing (the decided broadcast is the controller's). It either is a plain step that at most stores
    the commit, or the longest signer-disjoint selection of stored commits for the message's round and root is a quorum,
    its aggregate is returned and the instance decides the accepted proposal's value. -/
theorem uponCommit_spec :
    let cc := (addFirst s.commit m).1
    let sel := longestUniqueSigners cc m.round m.root
    (uponCommit cfg s m).outs = [] ∧
    (Plain (fun s' => s' = s ∨ s' = { s with commit := cc }) (uponCommit cfg s m) ∨
     ∃ p agg, s.accepted = some p ∧ cfg.quorum ≤ sel.1.length ∧ aggregateCommitMsgs sel.2 p.fullData = .ok agg ∧
       uponCommit cfg s m =
         ⟨{ s with commit := cc, decided := true, decidedValue := p.fullData }, [], .ok true p.fullData (some agg)⟩) := by
  dsimp only
  generalize hst : uponCommit cfg s m = st
  unfold uponCommit at hst
  generalize addFirst s.commit m = x at hst ⊢
  obtain ⟨cc, added⟩ := x
  dsimp only at hst ⊢
  generalize longestUniqueSigners cc m.round m.root = y at hst ⊢
  obtain ⟨signers, msgs⟩ := y
  obtain ⟨_, rfl⟩ | ⟨_, hst⟩ := ite_eq_cases hst
  · exact ⟨rfl, .inl (plain_okStep outsInst_nil (.inl rfl))⟩
  obtain ⟨_, rfl⟩ | ⟨hq, hst⟩ := ite_eq_cases hst
  · exact ⟨rfl, .inl (plain_okStep outsInst_nil (.inr rfl))⟩
  split at hst
  · subst hst
    exact ⟨rfl, .inl (plain_failStep .panic outsInst_nil (.inr rfl))⟩
  · split at hst
    · subst hst
      exact ⟨failStep_outs _ _ _, .inl (plain_failStep _ outsInst_nil (.inr rfl))⟩
    · rename_i hagg
      subst hst
      exact ⟨rfl, .inr ⟨_, _, ‹_›, by simpa using hq, (wrap_eq_ok _ _ _).1 hagg, rfl⟩⟩

end

/-- what the instance / controller has checked of every message in a commit container -/
structure GoodCommit (cfg : Cfg) (m : Msg) : Prop where
  isCommit : m.type = tCommit
  sigOk : m.sigOk = true
  committee : ∀ s ∈ m.signers, s ∈ cfg.committee
  nodup : m.signers.Nodup
  nozero : 0 ∉ m.signers
  ident : m.ident = cfg.ident

/-- what `isValidProposal` has checked of the accepted proposal -/
structure GoodProposal (cfg : Cfg) (height : Nat) (p : Msg) : Prop where
  hash : hashData p.fullData = p.root
  value : cfg.valOk p.fullData = true
  leader : ∃ l, cfg.proposer height p.round = some l ∧ p.signers = [l]

structure InstInv (cfg : Cfg) (s : State) : Prop where
  commits : ∀ m ∈ s.commit, GoodCommit cfg m ∧ m.height = s.height
  accepted : ∀ p, s.accepted = some p → GoodProposal cfg s.height p ∧ (s.decided = false → p.round = s.round)

theorem isProposalJustification_value (cfg : Cfg) (sh : Nat) (rcs : List Lvl1) (ps : List Base) (h r fd : Nat) (u : Unit)
    (hj : isProposalJustification cfg sh rcs ps h r fd = .ok u) : cfg.valOk fd = true := by
  unfold isProposalJustification at hj
  simp only [bind_eq_ok, rejectIf_eq_ok] at hj
  obtain ⟨_, h1, _⟩ := hj
  simpa using h1

theorem just_facts (cfg : Cfg) (sh : Nat) (rcs : List Lvl1) (ps : List Base) (h r fd : Nat) (u : Unit)
    (hj : isProposalJustification cfg sh rcs ps h r fd = .ok u) (hr : r ≠ firstRound) :
    (∀ rc ∈ rcs, validRoundChangeForData cfg sh rc h r fd = .ok ()) ∧ cfg.hasQuorum (signersOfL rcs) = true := by
  unfold isProposalJustification at hj
  simp only [bind_eq_ok, rejectIf_eq_ok] at hj
  obtain ⟨_, _, hrest⟩ := hj
  have e : (r == firstRound) = false := by simpa using hr
  simp only [e, Bool.false_eq_true, if_false, bind_eq_ok, rejectIf_eq_ok, wrap_eq_ok] at hrest
  obtain ⟨_, hrcs, _, hquorum, _⟩ := hrest
  exact ⟨firstFail_ok _ _ _ hrcs, by simpa using hquorum⟩

theorem validRoundChangeForData_prepared_root (cfg : Cfg) (sh : Nat) (rc : Lvl1) (h r fd : Nat) (u : Unit)
    (hv : validRoundChangeForData cfg sh rc h r fd = .ok u) (hp : rc.toBase.rcPrepared = true) : hashData fd = rc.root := by
  -- were the hash check to reject, the chain of checks it stands in could not succeed
  refine Decidable.byContradiction fun hne => ?_
  have hb : (hashData fd != rc.root) = true := by simpa using hne
  unfold validRoundChangeForData at hv
  simp only [hp, hb, if_true, bind_eq_ok, rejectIf_eq_ok, Bool.true_eq_false, false_and, and_false, exists_false] at hv

theorem matchedSigners_singleton (l : List Nat) (x : Nat) (h : matchedSigners l [x] = true) : l = [x] := by
  unfold matchedSigners at h
  simp at h
  obtain ⟨hl, hall⟩ := h
  match l, hl, hall with
  | [a], _, hall => simp at hall; rw [hall]

theorem isValidProposal_ok (cfg : Cfg) (s : State) (m : Msg) (u : Unit) (h : isValidProposal cfg s m = .ok u) :
    GoodProposal cfg s.height m := by
  unfold isValidProposal at h
  simp only [bind_eq_ok, rejectIf_eq_ok] at h
  -- four guards (type, height, one signer, signature), each a unit and a condition, stand before the leader is looked up
  obtain ⟨_, _, _, _, _, _, _, _, hrest⟩ := h
  split at hrest
  · simp at hrest
  · rename_i leader hl
    simp only [bind_eq_ok, rejectIf_eq_ok, wrap_eq_ok] at hrest
    -- then: signers match `[leader]`, `Validate`, the hash, the justification, the check against the state
    obtain ⟨_, hlead, _, _, _, hhash, _, hjust, _⟩ := hrest
    refine ⟨by simpa using hhash, isProposalJustification_value _ _ _ _ _ _ _ _ hjust, leader, hl, ?_⟩
    exact matchedSigners_singleton _ _ (by simpa using hlead)

/-- what `validateCommit` has checked of a single commit against the accepted proposal `p` -/
structure CommitChecked (cfg : Cfg) (m : Base) (height round : Nat) (p : Msg) : Prop where
  isCommit : m.type = tCommit
  sigOk : m.sigOk = true
  committee : ∀ s ∈ m.signers, s ∈ cfg.committee
  nodup : m.signers.Nodup
  nozero : 0 ∉ m.signers
  round : m.round = round
  root : p.root = m.root
  height : m.height = height
  single : m.signers.length = 1

theorem validateCommit_checked (cfg : Cfg) (m : Base) (height round : Nat) (p : Msg) (u : Unit)
    (h : validateCommit cfg m height round p = .ok u) : CommitChecked cfg m height round p := by
  unfold validateCommit baseCommitValidation at h
  simp only [bind_assoc, bind_eq_ok, rejectIf_eq_ok, bne_eq_false_iff_eq, wrap_eq_ok, Bool.not_eq_eq_eq_not, Bool.not_false,
    exists_const, exists_and_right] at h
  -- in source order: commit type, height, `Validate`, signature (`BaseCommitValidation`); one signer, round, root
  obtain ⟨ht, hh, ⟨x, hv⟩, hs, hone, hr, hroot⟩ := h
  obtain ⟨_, hn, h0, _⟩ := signedValidate_ok m x hv
  obtain ⟨hso, hc⟩ := verifySig_true cfg m hs
  exact ⟨ht, hso, hc, hn, h0, hr, hroot, hh, hone⟩

theorem validateCommit_ok (cfg : Cfg) (m : Base) (height round : Nat) (p : Msg) (u : Unit)
    (h : validateCommit cfg m height round p = .ok u) :
    m.type = tCommit ∧ m.sigOk = true ∧ (∀ s ∈ m.signers, s ∈ cfg.committee) ∧ m.signers.Nodup ∧ 0 ∉ m.signers ∧
    m.round = round ∧ p.root = m.root ∧ m.height = height ∧ m.signers.length = 1 :=
  have c := validateCommit_checked cfg m height round p u h
  ⟨c.isCommit, c.sigOk, c.committee, c.nodup, c.nozero, c.round, c.root, c.height, c.single⟩

theorem baseMsgValidation_commit (cfg : Cfg) (s : State) (m : Msg) (u : Unit) (ht : m.type = tCommit)
    (h : baseMsgValidation cfg s m = .ok u) :
    ∃ p, s.accepted = some p ∧ validateCommit cfg m.toBase s.height s.round p = .ok () := by
  obtain ⟨_, _, h1⟩ := (bind_eq_ok _ _ _).1 h
  obtain ⟨_, _, h2⟩ := (bind_eq_ok _ _ _).1 h1
  rw [ht] at h2
  cases hp : s.accepted with
  | none =>
    rw [hp] at h2
    exact absurd h2 (fail_ne_ok .noProposal u)
  | some p =>
    rw [hp] at h2
    exact ⟨p, rfl, h2⟩

theorem baseMsgValidation_proposal (cfg : Cfg) (s : State) (m : Msg) (u : Unit) (ht : m.type = tProposal)
    (h : baseMsgValidation cfg s m = .ok u) : isValidProposal cfg s m = .ok () := by
  obtain ⟨_, _, h1⟩ := (bind_eq_ok _ _ _).1 h
  obtain ⟨_, _, h2⟩ := (bind_eq_ok _ _ _).1 h1
  rw [ht] at h2
  exact h2

theorem addFirst_mem (c : Container) (m x : Msg) (h : x ∈ (addFirst c m).1) : x ∈ c ∨ x = m := by
  unfold addFirst at h
  split at h
  · exact Or.inl h
  · simp at h; exact h

/-- what a local decision (aggregate returned by `ProcessMsg`) carries -/
structure LocalDecision (cfg : Cfg) (s : State) (agg : Msg) : Prop where
  cert : ValidCert cfg agg
  height : agg.height = s.height
  proposal : ∃ p, s.accepted = some p ∧ agg.fullData = p.fullData ∧ agg.root = p.root ∧ GoodProposal cfg s.height p ∧
    (s.decided = false → p.round = agg.round)

structure StepInv (cfg : Cfg) (s : State) (st : Step) : Prop where
  inv : InstInv cfg st.st
  height : st.st.height = s.height
  decision : ∀ d v agg, st.res = .ok d v (some agg) → LocalDecision cfg s agg

theorem Plain.inv {cfg : Cfg} {s : State} {Q : State → Prop} {st : Step} (h : Plain Q st)
    (hQ : ∀ s', Q s' → InstInv cfg s' ∧ s'.height = s.height) : StepInv cfg s st :=
  ⟨(hQ _ h.state).1, (hQ _ h.state).2, fun d v a e => absurd e (h.noAgg d v a)⟩

theorem GoodCommit.cert {cfg : Cfg} {m : Msg} (h : GoodCommit cfg m) (hq : cfg.quorum ≤ m.signers.length)
    (hh : hashData m.fullData = m.root) : ValidCert cfg m :=
  ⟨h.isCommit, h.sigOk, h.nodup, h.nozero, h.committee, hq, hh, h.ident⟩

theorem ValidCert.good {cfg : Cfg} {m : Msg} (h : ValidCert cfg m) : GoodCommit cfg m :=
  ⟨h.isCommit, h.sigOk, h.committee, h.nodup, h.nozero, h.ident⟩

theorem aggregate_good (cfg : Cfg) {msgs : List Msg} {fd : Nat} {agg : Msg} (h : aggregateCommitMsgs msgs fd = .ok agg)
    (hg : ∀ x ∈ msgs, GoodCommit cfg x) (hnd : (signersOf msgs).Nodup) :
    GoodCommit cfg agg ∧ agg.signers.length = (signersOf msgs).length ∧ agg.fullData = fd ∧
    ∃ m0 ∈ msgs, agg.height = m0.height ∧ agg.round = m0.round ∧ agg.root = m0.root := by
  obtain ⟨m0, rest, rfl, hs, hty, hhe, hro, hroo, hidn, hfd, hsig⟩ := aggregateCommitMsgs_spec msgs fd agg h
  have hperm : agg.signers.Perm (signersOf (m0 :: rest)) := hs ▸ sortNat_perm _
  have hm0 := hg m0 List.mem_cons_self
  have hmem : ∀ a ∈ agg.signers, ∃ x ∈ m0 :: rest, a ∈ x.signers := fun a ha =>
    List.mem_flatMap.1 (hperm.mem_iff.1 ha)
  refine ⟨⟨hty ▸ hm0.isCommit, hsig.2 fun x hx => (hg x hx).sigOk, ?_, hperm.nodup_iff.2 hnd, ?_, hidn ▸ hm0.ident⟩,
    hperm.length_eq, hfd, m0, List.mem_cons_self, hhe, hro, hroo⟩
  · intro a ha
    obtain ⟨x, hx, hax⟩ := hmem a ha
    exact (hg x hx).committee a hax
  · intro ha
    obtain ⟨x, hx, hax⟩ := hmem 0 ha
    exact (hg x hx).nozero hax

theorem uponCommit_inv (cfg : Cfg) (s : State) (m : Msg) (p : Msg) (hinv : InstInv cfg s) (hacc : s.accepted = some p)
    (hv : validateCommit cfg m.toBase s.height s.round p = .ok ()) (hid : m.ident = cfg.ident) :
    StepInv cfg s (uponCommit cfg s m) := by
  -- every stored commit, the new one included, is good (`hcont`). A plain step keeps the invariant by `Plain.inv`. A deciding
  -- step returns the aggregate of the selected commits, which are good, signer-disjoint and of the message's round and root:
  -- `aggregate_good` makes it a certificate, and the root and round are those of the accepted proposal.
  have hk := validateCommit_checked cfg m.toBase s.height s.round p () hv
  have hcont : ∀ x ∈ (addFirst s.commit m).1, GoodCommit cfg x ∧ x.height = s.height := by
    intro x hx
    rcases addFirst_mem _ _ _ hx with hx | rfl
    · exact hinv.commits x hx
    · exact ⟨⟨hk.isCommit, hk.sigOk, hk.committee, hk.nodup, hk.nozero, hid⟩, hk.height⟩
  rcases (uponCommit_spec cfg s m).2 with hp | ⟨p', agg, hacc', hq, hagg, e⟩
  · refine Plain.inv hp ?_
    rintro _ (rfl | rfl)
    · exact ⟨hinv, rfl⟩
    · exact ⟨⟨hcont, hinv.accepted⟩, rfl⟩
  · obtain rfl : p = p' := Option.some.inj (hacc.symm.trans hacc')
    obtain ⟨hgp, hround⟩ := hinv.accepted p hacc
    rw [e]
    refine ⟨⟨hcont, fun q hq' => ⟨(hinv.accepted q hq').1, fun h => nomatch h⟩⟩, rfl, ?_⟩
    rintro _ _ _ ⟨⟩
    obtain ⟨hsg, hnd, hms⟩ := longestUniqueSigners_spec (fun x => GoodCommit cfg x ∧ x.height = s.height)
      (addFirst s.commit m).1 m.round m.root (fun x hx => ⟨hcont x hx, (hcont x hx).1.nodup⟩)
    obtain ⟨hgood, hlen, hfd, m0, hm0, hhe, hro, hroo⟩ :=
      aggregate_good cfg hagg (fun x hx => (hms x hx).1.1) (hsg ▸ hnd)
    obtain ⟨⟨_, hm0h⟩, hm0r, hm0root⟩ := hms m0 hm0
    have hrt : agg.root = p.root := by rw [hroo, hm0root, hk.root]
    refine ⟨hgood.cert (by rw [hlen, ← hsg]; exact hq) (by rw [hfd, hrt]; exact hgp.hash), hhe.trans hm0h, p, hacc, hfd, hrt,
      hgp, fun hd => ?_⟩
    rw [hro, hm0r, hk.round]
    exact hround hd

theorem type_cases (m : Msg) (h : m.type ≤ tRoundChange) :
    m.type = tProposal ∨ m.type = tPrepare ∨ m.type = tCommit ∨ m.type = tRoundChange := by
  generalize m.type = t at h ⊢
  match t, h with
  | 0, _ => exact .inl rfl
  | 1, _ => exact .inr (.inl rfl)
  | 2, _ => exact .inr (.inr (.inl rfl))
  | 3, _ => exact .inr (.inr (.inr rfl))
  | n + 4, h => exact absurd h (Nat.not_le.2 (Nat.lt_add_left n (by decide)))

section
variable {cfg : Cfg} {s : State} {m : Msg} (hcp : canProcess cfg s = true) (hv : baseMsgValidation cfg s m = .ok ())
include hcp hv

theorem processMsg_proposal (ht : m.type = tProposal) : processMsg cfg s m = uponProposal cfg s m := by
  unfold processMsg
  rw [hcp, hv, ht]
  rfl

theorem processMsg_prepare (ht : m.type = tPrepare) : processMsg cfg s m = uponPrepare cfg s m := by
  unfold processMsg
  rw [hcp, hv, ht]
  rfl

theorem processMsg_commit (ht : m.type = tCommit) : processMsg cfg s m = uponCommit cfg s m := by
  unfold processMsg
  rw [hcp, hv, ht]
  rfl

theorem processMsg_roundChange (ht : m.type = tRoundChange) : processMsg cfg s m = uponRoundChange cfg s m := by
  unfold processMsg
  rw [hcp, hv, ht]
  rfl

end

section
variable (cfg : Cfg) (s : State) (m : Msg)

/-- The "type not supported" branch of `ProcessMsg` is dead: `SignedMessage.Validate` has bounded the type, so a validated
    message reaches one of the four handlers. -/
theorem processMsg_cases {P : Step → Prop}
    (fails : ∀ f, P (failStep s [] f))
    (proposal : baseMsgValidation cfg s m = .ok () → m.type = tProposal → P (uponProposal cfg s m))
    (prepare : baseMsgValidation cfg s m = .ok () → m.type = tPrepare → P (uponPrepare cfg s m))
    (commit : baseMsgValidation cfg s m = .ok () → m.type = tCommit → P (uponCommit cfg s m))
    (roundChange : baseMsgValidation cfg s m = .ok () → m.type = tRoundChange → P (uponRoundChange cfg s m)) :
    P (processMsg cfg s m) := by
  cases hcp : canProcess cfg s with
  | false =>
    unfold processMsg
    rw [hcp]
    exact fails (.tag [.stopped])
  | true =>
    cases hv : baseMsgValidation cfg s m with
    | error f =>
      unfold processMsg
      rw [hcp, hv]
      cases f with
      | tag t => exact fails (.tag (.invalidSigned :: t))
      | panic => exact fails .panic
    | ok u =>
      obtain ⟨_, hsv, _⟩ := (bind_eq_ok _ _ _).1 hv
      obtain ⟨_, _, _, _, _, hty⟩ := signedValidate_ok _ _ ((wrap_eq_ok _ _ _).1 hsv)
      rcases type_cases m hty with ht | ht | ht | ht
      · exact processMsg_proposal hcp hv ht ▸ proposal hv ht
      · exact processMsg_prepare hcp hv ht ▸ prepare hv ht
      · exact processMsg_commit hcp hv ht ▸ commit hv ht
      · exact processMsg_roundChange hcp hv ht ▸ roundChange hv ht

theorem outsInst_processMsg : OutsInst (processMsg cfg s m).outs :=
  processMsg_cases cfg s m (P := fun st => OutsInst st.outs) (fun f => outsInst_failStep s [] f outsInst_nil)
    (fun _ _ => (uponProposal_plain cfg s m).outs) (fun _ _ => (uponPrepare_plain cfg s m).outs)
    (fun _ _ => (uponCommit_spec cfg s m).1 ▸ outsInst_nil) (fun _ _ => (uponRoundChange_plain cfg s m).outs)

theorem processMsg_rejected (h : ∀ u, baseMsgValidation cfg s m ≠ .ok u) :
    (processMsg cfg s m).st = s ∧ (processMsg cfg s m).outs = [] ∧ ∀ d v a, (processMsg cfg s m).res ≠ .ok d v a :=
  processMsg_cases cfg s m (P := fun st => st.st = s ∧ st.outs = [] ∧ ∀ d v a, st.res ≠ .ok d v a)
    (fun f => by cases f <;> exact ⟨rfl, rfl, fun _ _ _ h => nomatch h⟩)
    (fun hv _ => absurd hv (h ())) (fun hv _ => absurd hv (h ())) (fun hv _ => absurd hv (h ())) (fun hv _ => absurd hv (h ()))

theorem processMsg_inv (hinv : InstInv cfg s) (hid : m.ident = cfg.ident) : StepInv cfg s (processMsg cfg s m) := by
  refine processMsg_cases cfg s m (P := StepInv cfg s) ?_ ?_ ?_ ?_ ?_
  · exact fun f => (plain_failStep f outsInst_nil rfl).inv (by rintro _ rfl; exact ⟨hinv, rfl⟩)
  · intro hv ht
    have hgp := isValidProposal_ok cfg s m () (baseMsgValidation_proposal cfg s m () ht hv)
    refine (uponProposal_plain cfg s m).inv ?_
    rintro _ (rfl | ⟨pc, rfl⟩)
    · exact ⟨hinv, rfl⟩
    · exact ⟨⟨hinv.commits, fun q hq => Option.some.inj hq ▸ ⟨hgp, fun _ => rfl⟩⟩, rfl⟩
  · intro _ _
    refine (uponPrepare_plain cfg s m).inv ?_
    rintro _ ⟨pc, lv, lr, rfl⟩
    exact ⟨⟨hinv.commits, hinv.accepted⟩, rfl⟩
  · intro hv ht
    obtain ⟨p, hacc, hvc⟩ := baseMsgValidation_commit cfg s m () ht hv
    exact uponCommit_inv cfg s m p hinv hacc hvc hid
  · intro _ _
    refine (uponRoundChange_plain cfg s m).inv ?_
    rintro _ ⟨rc, rfl | ⟨r, rfl⟩⟩
    · exact ⟨⟨hinv.commits, hinv.accepted⟩, rfl⟩
    · exact ⟨⟨hinv.commits, fun _ h => nomatch h⟩, rfl⟩

end

def CtrlInv (cfg : Cfg) (c : Ctrl) : Prop := ∀ i ∈ c.insts, InstInv cfg i

/-- every decision a controller step reports — returned decided message, decided broadcast, stored instance, decided
    notification — is a valid certificate -/
structure StepCerts (cfg : Cfg) (st : CStep) : Prop where
  returned : ∀ d, st.res = .ok (some d) → ValidCert cfg d
  emitted : ∀ o ∈ st.outs, ∀ d, (o = .bcastDecided d ∨ o = .save d ∨ o = .notify d) → ValidCert cfg d

theorem ctrlInv_newController (cfg : Cfg) : CtrlInv cfg newController := fun _ h => nomatch h

theorem instOut_not_decision (o : Out) (h : InstOut o) (d : Msg) : ¬ (o = .bcastDecided d ∨ o = .save d ∨ o = .notify d) := by
  rcases h with ⟨m, rfl⟩ | ⟨a, b, rfl⟩ <;> simp

/-- a controller step that neither changes the controller, nor emits anything, nor reports a decision -/
def Ignored (c : Ctrl) (st : CStep) : Prop := st.ct = c ∧ st.outs = [] ∧ ∀ d, st.res ≠ .ok d

theorem ignored_err (c : Ctrl) (t : Tag) : Ignored c ⟨c, [], .err t⟩ := ⟨rfl, rfl, fun _ h => nomatch h⟩

structure CStepInv (cfg : Cfg) (st : CStep) : Prop where
  inv : CtrlInv cfg st.ct
  certs : StepCerts cfg st

theorem cstep_quiet (cfg : Cfg) {ct : Ctrl} {outs : List Out} {res : COutcome} (hct : CtrlInv cfg ct) (ho : OutsInst outs)
    (hr : ∀ d, res ≠ .ok (some d)) : CStepInv cfg ⟨ct, outs, res⟩ :=
  ⟨hct, fun d h => absurd h (hr d), fun o ho' d hd => absurd hd (instOut_not_decision o (ho o ho') d)⟩

theorem Ignored.inv {cfg : Cfg} {c : Ctrl} {st : CStep} (h : Ignored c st) (hc : CtrlInv cfg c) : CStepInv cfg st := by
  obtain ⟨ct, outs, res⟩ := st
  obtain ⟨rfl, rfl, h3⟩ := h
  exact cstep_quiet cfg hc outsInst_nil fun _ => h3 _

theorem findInstance_some {l : List State} {h : Nat} {i : State} (hf : findInstance l h = some i) : i ∈ l ∧ i.height = h :=
  find?_key_some State.height hf

theorem updateInstance_mem (l : List State) (i x : State) (h : x ∈ updateInstance l i) : x ∈ l ∨ x = i := by
  induction l with
  | nil => exact nomatch h
  | cons e rest ih =>
    unfold updateInstance at h
    split at h
    · exact (List.mem_cons.1 h).symm.imp_left (List.mem_cons_of_mem _)
    · rcases List.mem_cons.1 h with rfl | h
      · exact .inl List.mem_cons_self
      · exact (ih h).imp_left (List.mem_cons_of_mem _)

theorem insertByHeight_mem (i : State) (l : List State) (x : State) (h : x ∈ insertByHeight i l) : x ∈ l ∨ x = i := by
  induction l with
  | nil => exact .inr (List.eq_of_mem_singleton h)
  | cons e rest ih =>
    unfold insertByHeight at h
    split at h
    · exact (List.mem_cons.1 h).symm
    · rcases List.mem_cons.1 h with rfl | h
      · exact .inl List.mem_cons_self
      · exact (ih h).imp_left (List.mem_cons_of_mem _)

theorem addNewInstance_mem (cap : Nat) (l : List State) (i x : State) (h : x ∈ addNewInstance cap l i) : x ∈ l ∨ x = i :=
  insertByHeight_mem i l x (List.mem_of_mem_take h)

section
variable (cfg : Cfg) (c : Ctrl) (m : Msg)

theorem ctrlInv_update (i : State) (hc : CtrlInv cfg c) (hi : InstInv cfg i) :
    CtrlInv cfg { c with insts := updateInstance c.insts i } := by
  intro x hx
  rcases updateInstance_mem _ _ _ hx with hx | rfl
  · exact hc x hx
  · exact hi

/-- `ValidateDecided` checks all a certificate needs but the identifier, which `Controller.ProcessMsg` has compared before -/
theorem validCert_of_decided (hv : validateDecided cfg m = .ok ()) (hid : m.ident = cfg.ident) : ValidCert cfg m := by
  obtain ⟨ht, hq, hnd, h0, hso, hc, hh⟩ := validateDecided_ok cfg m () hv
  exact ⟨ht, hso, hnd, h0, hc, hq, hh, hid⟩

/-- `UponDecided` touches only the instance of the message's height (a fresh one if none is stored): it adds the message to
    its commits and may mark it decided in the message's round -/
theorem decidedUpdate_mem {x : State} (hx : x ∈ (decidedUpdate cfg c m).1) :
    x ∈ c.insts ∨ ∃ i d r dv, (i ∈ c.insts ∨ i = newInstance m.height) ∧ i.height = m.height ∧
      x = { i with commit := addMsg i.commit m, decided := d, round := r, decidedValue := dv } ∧
      (d = true ∨ d = i.decided ∧ r = i.round) := by
  unfold decidedUpdate at hx
  split at hx
  · exact (addNewInstance_mem _ _ _ _ hx).imp_right fun e => ⟨newInstance m.height, _, _, _, .inr rfl, rfl, e, .inl rfl⟩
  · rename_i i hf
    obtain ⟨hmem, hh⟩ := findInstance_some hf
    split at hx
    · exact (updateInstance_mem _ _ _ hx).imp_right fun e => ⟨i, _, _, _, .inl hmem, hh, e, .inl rfl⟩
    · dsimp only at hx
      split at hx
      · exact (updateInstance_mem _ _ _ hx).imp_right fun e => ⟨i, _, _, _, .inl hmem, hh, e, .inr ⟨rfl, rfl⟩⟩
      · exact .inl hx

theorem decidedUpdate_inv (hc : CtrlInv cfg c) (hm : GoodCommit cfg m) : ∀ i ∈ (decidedUpdate cfg c m).1, InstInv cfg i := by
  intro x hx
  rcases decidedUpdate_mem cfg c m hx with hx | ⟨i, d, r, dv, hi, hh, rfl, hd⟩
  · exact hc x hx
  · have hi : InstInv cfg i := hi.elim (hc i) (· ▸ ⟨fun _ hm => (nomatch hm), fun _ hp => (nomatch hp)⟩)
    refine ⟨fun y hy => ?_, fun q hq => ⟨(hi.accepted q hq).1, fun hdf => ?_⟩⟩
    · rcases List.mem_append.1 hy with hy | hy
      · exact hi.commits y hy
      · cases List.eq_of_mem_singleton hy
        exact ⟨hm, hh.symm⟩
    · rcases hd with rfl | ⟨rfl, rfl⟩
      · exact nomatch hdf
      · exact (hi.accepted q hq).2 hdf

theorem uponDecided_insts (hv : validateDecided cfg m = .ok ()) :
    (uponDecided cfg c m).ct.insts = (decidedUpdate cfg c m).1 := by
  unfold uponDecided
  simp only [hv, wrap]
  split <;> rfl

theorem uponDecided_rejected (h : validateDecided cfg m ≠ .ok ()) :
    (uponDecided cfg c m).ct = c ∧ (uponDecided cfg c m).outs = [] ∧ ∀ d, (uponDecided cfg c m).res ≠ .ok d := by
  unfold uponDecided
  cases hv : validateDecided cfg m with
  | ok u => exact absurd hv h
  | error e => cases e <;> exact ⟨rfl, rfl, fun _ h => nomatch h⟩

theorem decidedSaveOuts_mem (c1 : Ctrl) (save : Bool) (m : Msg) (o : Out) (h : o ∈ decidedSaveOuts c1 save m) : o = .save m := by
  unfold decidedSaveOuts saveOuts at h
  split at h
  · split at h
    · exact List.eq_of_mem_singleton h
    · exact nomatch h
  · exact nomatch h

theorem uponDecided_accepted (h : validateDecided cfg m = .ok ()) :
    (∀ d, (uponDecided cfg c m).res = .ok (some d) → d = m) ∧
    (∀ o ∈ (uponDecided cfg c m).outs, o = .save m ∨ o = .notify m) := by
  unfold uponDecided
  simp only [h, wrap]
  constructor
  · intro d hd
    split at hd <;> simp at hd
    · exact hd.2.symm
    · exact hd.symm
  · intro o ho
    rcases List.mem_append.1 ho with ho | ho
    · exact .inl (decidedSaveOuts_mem _ _ _ _ ho)
    · exact .inr (List.eq_of_mem_singleton ho)

theorem uponDecided_inv (hc : CtrlInv cfg c) (hid : m.ident = cfg.ident) : CStepInv cfg (uponDecided cfg c m) := by
  by_cases hv : validateDecided cfg m = .ok ()
  · have hcert := validCert_of_decided cfg m hv hid
    obtain ⟨hres, houts⟩ := uponDecided_accepted cfg c m hv
    refine ⟨fun i hi => decidedUpdate_inv cfg c m hc hcert.good i (uponDecided_insts cfg c m hv ▸ hi),
      fun d hd => hres d hd ▸ hcert, fun o ho d hd => ?_⟩
    rcases houts o ho with rfl | rfl <;> rcases hd with hd | hd | hd <;> cases hd <;> exact hcert
  · exact Ignored.inv (uponDecided_rejected cfg c m hv) hc

/-- `UponExistingInstanceMsg` hands the message to the stored instance of its height, writes the instance back and passes its
    outputs on (`quiet`: no decided message is returned, and the step succeeds only if the instance's did). Only when the
    instance reports a decision with an aggregate does it add anything (`report`): the decided broadcast of that aggregate,
    which it also returns unless the instance had decided before. -/
theorem uponExisting_cases {P : CStep → Prop}
    (notFound : P ⟨c, [], .err [.instanceNotFound]⟩)
    (quiet : ∀ inst res, findInstance c.insts m.height = some inst →
      (∀ x, res = .ok x → x = none ∧ ∃ d v a, (processMsg cfg inst m).res = .ok d v a) →
      P ⟨{ c with insts := updateInstance c.insts (processMsg cfg inst m).st }, (processMsg cfg inst m).outs, res⟩)
    (report : ∀ inst v d res, findInstance c.insts m.height = some inst → (processMsg cfg inst m).res = .ok true v (some d) →
      res = .ok none ∨ inst.decided = false ∧ res = .ok (some d) →
      P ⟨{ c with insts := updateInstance c.insts (processMsg cfg inst m).st },
        (processMsg cfg inst m).outs ++ [.bcastDecided d], res⟩) :
    P (uponExistingInstanceMsg cfg c m) := by
  unfold uponExistingInstanceMsg
  split
  · exact notFound
  · rename_i inst hf
    dsimp only
    split
    · exact quiet inst _ hf fun _ h => nomatch h
    · exact quiet inst _ hf fun _ h => nomatch h
    · rename_i decided v agg hres
      have hq := quiet inst (.ok none) hf fun _ h => ⟨(COutcome.ok.inj h).symm, _, _, _, hres⟩
      refine ite_cases (fun _ => hq) fun hd => ?_
      split
      · exact hq
      · rw [show decided = true by simpa using hd] at hres
        exact ite_cases (fun _ => report inst v _ _ hf hres (.inl rfl))
          fun hp => report inst v _ _ hf hres (.inr ⟨by simpa using hp, rfl⟩)

theorem uponExistingInstanceMsg_inv (hc : CtrlInv cfg c) (hid : m.ident = cfg.ident) :
    CStepInv cfg (uponExistingInstanceMsg cfg c m) := by
  refine uponExisting_cases cfg c m ((ignored_err c _).inv hc) (fun inst res hf hres => ?_)
    fun inst v d res hf hd hres => ?_
  · have hstep := processMsg_inv cfg inst m (hc inst (findInstance_some hf).1) hid
    exact cstep_quiet cfg (ctrlInv_update cfg c _ hc hstep.inv) (outsInst_processMsg cfg inst m) fun d h => nomatch (hres _ h).1
  · have hstep := processMsg_inv cfg inst m (hc inst (findInstance_some hf).1) hid
    -- the broadcast and returned aggregate is a `LocalDecision` of the instance
    have hcert := (hstep.decision true v d hd).cert
    refine ⟨ctrlInv_update cfg c _ hc hstep.inv, fun d' h => ?_, fun o ho d' hd' => ?_⟩
    · rcases hres with rfl | ⟨_, rfl⟩
      · exact nomatch h
      · exact Option.some.inj (COutcome.ok.inj h) ▸ hcert
    · rcases List.mem_append.1 ho with ho | ho
      · exact absurd hd' (instOut_not_decision o (outsInst_processMsg cfg inst m o ho) d')
      · cases List.eq_of_mem_singleton ho
        rcases hd' with hd' | hd' | hd' <;> cases hd'
        exact hcert

theorem uponExisting_local (hc : CtrlInv cfg c) (hid : m.ident = cfg.ident) (d : Msg)
    (h : (uponExistingInstanceMsg cfg c m).res = .ok (some d)) :
    ∃ inst, findInstance c.insts m.height = some inst ∧ inst.decided = false ∧ LocalDecision cfg inst d := by
  revert h
  refine uponExisting_cases cfg c m (P := fun st => st.res = .ok (some d) → _) (fun h => nomatch h)
    (fun inst res hf hres h => nomatch (hres _ h).1) fun inst v d' res hf hd hres h => ?_
  rcases hres with rfl | ⟨hund, rfl⟩
  · exact nomatch h
  · cases h
    exact ⟨inst, hf, hund, (processMsg_inv cfg inst m (hc inst (findInstance_some hf).1) hid).decision true v d hd⟩

theorem isDecidedMsg_iff : isDecidedMsg cfg m = true ↔ cfg.quorum ≤ m.signers.length ∧ m.type = tCommit := by
  simp [isDecidedMsg]

theorem ctrl_processMsg_cases {P : CStep → Prop} (err : ∀ t, P ⟨c, [], .err t⟩)
    (decided : m.ident = cfg.ident → isDecidedMsg cfg m = true → P (uponDecided cfg c m))
    (existing : m.ident = cfg.ident → isDecidedMsg cfg m = false → P (uponExistingInstanceMsg cfg c m)) :
    P (c.processMsg cfg m) := by
  unfold Ctrl.processMsg
  refine ite_cases (fun _ => err _) fun hid => ?_
  have hid : m.ident = cfg.ident := by simpa using hid
  refine ite_cases (decided hid) fun hd => ite_cases (fun _ => err _) fun _ => existing hid (by simpa using hd)

theorem ctrl_processMsg_inv (hc : CtrlInv cfg c) : CStepInv cfg (c.processMsg cfg m) :=
  ctrl_processMsg_cases cfg c m (P := CStepInv cfg)
    (fun _ => (ignored_err c _).inv hc) (fun hid _ => uponDecided_inv cfg c m hc hid)
    (fun hid _ => uponExistingInstanceMsg_inv cfg c m hc hid)

theorem uponRoundTimeout_plain (s : State) :
    Plain (fun s' => s' = s ∨ s' = { s with round := s.round + 1, accepted := none }) (uponRoundTimeout cfg s) := by
  unfold uponRoundTimeout
  refine ite_cases (fun _ => plain_failStep (.tag _) outsInst_nil (.inl rfl)) fun _ => ?_
  dsimp only
  split
  · rename_i o ho
    exact plain_okStep (outsInst_append (broadcast_outs cfg s _ o ((wrap_eq_ok _ _ _).1 ho)) (outsInst_timer _ _)) (.inr rfl)
  · exact plain_failStep _ (outsInst_timer _ _) (.inr rfl)

theorem outsInst_uponRoundTimeout (s : State) : OutsInst (uponRoundTimeout cfg s).outs :=
  (uponRoundTimeout_plain cfg s).outs

theorem uponRoundTimeout_inv (s : State) (hinv : InstInv cfg s) : StepInv cfg s (uponRoundTimeout cfg s) := by
  refine (uponRoundTimeout_plain cfg s).inv ?_
  rintro _ (rfl | rfl)
  · exact ⟨hinv, rfl⟩
  · exact ⟨⟨hinv.commits, fun _ h => nomatch h⟩, rfl⟩

theorem start_plain (s : State) (v h : Nat) :
    Plain (fun s' => s' = if s.started then s else { s with started := true, startValue := v, round := firstRound, height := h })
      (start cfg s v h) := by
  unfold start
  split
  · exact plain_okStep outsInst_nil rfl
  · dsimp only
    split
    · exact plain_failStep .panic (outsInst_timer _ _) rfl
    · split
      · split
        · rename_i o ho
          exact plain_okStep (outsInst_append (outsInst_timer _ _) (broadcast_outs cfg _ _ o ho)) rfl
        · exact plain_okStep (outsInst_timer _ _) rfl
      · exact plain_okStep (outsInst_timer _ _) rfl

theorem outsInst_start (s : State) (v h : Nat) : OutsInst (start cfg s v h).outs :=
  (start_plain cfg s v h).outs

theorem ctrl_start_inv (h v : Nat) (hc : CtrlInv cfg c) : CStepInv cfg (c.startNewInstance cfg h v) := by
  have hadd : CtrlInv cfg { height := h, insts := addNewInstance cfg.capacity c.insts (start cfg (newInstance h) v h).st } := by
    intro x hx
    rcases addNewInstance_mem _ _ _ _ hx with hx | rfl
    · exact hc x hx
    · exact (start_plain cfg (newInstance h) v h).state ▸ ⟨fun _ hm => (nomatch hm), fun _ hp => (nomatch hp)⟩
  have ho := outsInst_start cfg (newInstance h) v h
  unfold Ctrl.startNewInstance
  refine ite_cases (P := CStepInv cfg) (fun _ => (ignored_err c _).inv hc) fun _ => ite_cases (P := CStepInv cfg)
    (fun _ => (ignored_err c _).inv hc) fun _ => ite_cases (P := CStepInv cfg) (fun _ => (ignored_err c _).inv hc) fun _ => ?_
  dsimp only
  split
  · exact cstep_quiet cfg hadd ho fun _ h => nomatch h
  · refine cstep_quiet cfg (fun x hx => ?_) ho fun _ h => nomatch h
    obtain ⟨y, hy, rfl⟩ := List.mem_map.1 hx
    have hyi := hadd y hy
    split
    · exact ⟨hyi.commits, hyi.accepted⟩
    · exact hyi

theorem ctrl_onTimeout_inv (h r : Nat) (hc : CtrlInv cfg c) : CStepInv cfg (c.onTimeout cfg h r) := by
  unfold Ctrl.onTimeout
  split
  · exact (ignored_err c _).inv hc
  · rename_i inst hf
    have hc1 := ctrlInv_update cfg c _ hc (uponRoundTimeout_inv cfg inst (hc inst (findInstance_some hf).1)).inv
    have ho := outsInst_uponRoundTimeout cfg inst
    have hnone : CStepInv cfg ⟨c, [], .ok none⟩ := cstep_quiet cfg hc outsInst_nil fun _ h => nomatch h
    refine ite_cases (P := CStepInv cfg) (fun _ => hnone) fun _ => ite_cases (P := CStepInv cfg) (fun _ => hnone) fun _ => ?_
    dsimp only
    split
    · exact cstep_quiet cfg hc1 ho fun _ h => nomatch h
    · exact cstep_quiet cfg hc1 ho fun _ h => nomatch h
    · exact cstep_quiet cfg hc1 ho fun _ h => nomatch h

/-- compaction keeps the invariant (it only removes messages) -/
theorem compact_inv (s : State) (hinv : InstInv cfg s) : InstInv cfg (compact s) ∧ (compact s).height = s.height := by
  refine ⟨⟨fun m hm => hinv.commits m ?_, hinv.accepted⟩, rfl⟩
  simp only [compact, compactWith, compactContainerEdit] at hm
  split at hm
  · exact hm
  · exact (List.mem_filter.1 hm).1

theorem ctrl_compactAt_inv (h : Nat) (hc : CtrlInv cfg c) : CtrlInv cfg (c.compactAt h) := by
  unfold Ctrl.compactAt
  split
  · exact hc
  · rename_i inst hf
    exact ctrlInv_update cfg c (compact inst) hc (compact_inv cfg inst (hc inst (findInstance_some hf).1)).1

theorem stepC_inv (op : COp) (hc : CtrlInv cfg c) :
    CtrlInv cfg (stepC cfg c op).1 ∧
    ∀ o, (stepC cfg c op).2 = some o → StepCerts cfg ⟨(stepC cfg c op).1, o.outs, o.res⟩ := by
  have obs : ∀ st : CStep, CStepInv cfg st → CtrlInv cfg st.ct ∧
      ∀ o, some (⟨st.outs, st.res⟩ : CObs) = some o → StepCerts cfg ⟨st.ct, o.outs, o.res⟩ :=
    fun _ h => ⟨h.inv, fun _ ho => Option.some.inj ho ▸ h.certs⟩
  cases op with
  | start h v => exact obs _ (ctrl_start_inv cfg c h v hc)
  | deliver m => exact obs _ (ctrl_processMsg_inv cfg c m hc)
  | timeout h r => exact obs _ (ctrl_onTimeout_inv cfg c h r hc)
  | compactAt h => exact ⟨ctrl_compactAt_inv cfg c h hc, fun _ h => nomatch h⟩
  | runnerCompact m =>
    refine ⟨?_, fun _ h => nomatch h⟩
    simp only [stepC, Ctrl.compactIfNeeded]
    split
    · exact ctrl_compactAt_inv cfg c _ hc
    · exact hc

theorem runC_inv (ops : List COp) : ∀ c, CtrlInv cfg c →
    CtrlInv cfg (runC cfg c ops).1 ∧ ∀ o ∈ (runC cfg c ops).2, StepCerts cfg ⟨c, o.outs, o.res⟩ := by
  induction ops with
  | nil => exact fun c hc => ⟨hc, fun _ h => nomatch h⟩
  | cons op rest ih =>
    intro c hc
    obtain ⟨h1, h2⟩ := stepC_inv cfg c op hc
    obtain ⟨h3, h4⟩ := ih _ h1
    -- `StepCerts` reads only the outputs and the result of a step, not the controller in it
    have re : ∀ {o : CObs}, StepCerts cfg ⟨(stepC cfg c op).1, o.outs, o.res⟩ → StepCerts cfg ⟨c, o.outs, o.res⟩ :=
      fun h => ⟨h.returned, h.emitted⟩
    refine ⟨h3, fun o ho => ?_⟩
    simp only [runC] at ho
    cases hs : (stepC cfg c op).2 with
    | none =>
      rw [hs] at ho
      exact re (h4 o ho)
    | some x =>
      rw [hs] at ho
      rcases List.mem_cons.1 ho with rfl | ho
      · exact re (h2 _ hs)
      · exact re (h4 o ho)

/-- the stored pointer semantics: writing back the instance that was found changes nothing -/
theorem updateInstance_self {l : List State} {h : Nat} {i : State} (hf : findInstance l h = some i) : updateInstance l i = l := by
  induction l with
  | nil => exact nomatch hf
  | cons e rest ih =>
    unfold findInstance at hf
    unfold updateInstance
    rw [List.find?_cons] at hf
    split at hf
    · cases hf
      rw [if_pos (beq_self_eq_true _)]
    · rename_i he
      rw [(findInstance_some (l := rest) hf).2, if_neg (by simpa using he), ih hf]

/-- a commit that lists several signers but fewer than a quorum is rejected by every instance -/
theorem multiSigner_commit_invalid (cfg : Cfg) (s : State) (m : Msg) (ht : m.type = tCommit) (hl : m.signers.length ≠ 1) :
    ∀ u, baseMsgValidation cfg s m ≠ .ok u := by
  intro u hu
  obtain ⟨p, _, hv⟩ := baseMsgValidation_commit cfg s m u ht hu
  exact hl (validateCommit_checked cfg m.toBase s.height s.round p () hv).single

theorem uponExisting_rejected (h : ∀ s u, baseMsgValidation cfg s m ≠ .ok u) :
    Ignored c (uponExistingInstanceMsg cfg c m) := by
  refine uponExisting_cases cfg c m (ignored_err c _) (fun inst res hf hres => ?_)
    fun inst v d res hf hd _ => have ⟨_, _, hno⟩ := processMsg_rejected cfg inst m (h inst); absurd hd (hno _ _ _)
  obtain ⟨h1, h2, h3⟩ := processMsg_rejected cfg inst m (h inst)
  rw [h1, h2, updateInstance_self hf]
  exact ⟨rfl, rfl, fun x hx => have ⟨_, d, v, a, e⟩ := hres x hx; h3 d v a e⟩

theorem ctrl_invalid_decided_ignored (hd : isDecidedMsg cfg m = true) (hn : ¬ ValidCert cfg m) :
    Ignored c (c.processMsg cfg m) :=
  ctrl_processMsg_cases cfg c m (P := Ignored c) (ignored_err c)
    (fun hid _ => uponDecided_rejected cfg c m fun hv => hn (validCert_of_decided cfg m hv hid))
    (fun _ h => nomatch hd.symm.trans h)

end

end Ssv.Qbft
