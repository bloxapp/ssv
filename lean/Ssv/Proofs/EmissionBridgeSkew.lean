/-
Where the timing hypothesis `RcQuorumInRound` comes from.

"Messages arrive within the round" in its weakest useful form: every round-change delivered to an instance is for a round
≤ `State.Round + 1` (one round of skew between operators is fine). Under that assumption the round-change container obeys
`SkewInv`: (near) every stored round-change is for a round ≤ `State.Round + 1`, (noPQ) the stored round-changes for higher
rounds come from fewer than f+1 distinct signers — because the f+1-th one makes `uponChangeRoundPartialQuorum` jump.
`SkewInv` implies `RcQuorumInRound` (a quorum 2f+1 > f+1 for a FUTURE round cannot complete with one more single-signer
message), and is preserved by `ProcessMsg` (any message type, non-panicking step) and `UponRoundTimeout`; it holds in a
fresh instance. What lowers `State.Round` — `UponDecided` adopting a decided message of a LOWER round — is outside the
instance functions and breaks it; it is the second route to the finding of Props/C10Emission.lean.
-/
import Ssv.Proofs.EmissionBridgeCount
set_option linter.unusedSimpArgs false
set_option linter.unusedVariables false

namespace Ssv.Emission
open Ssv Ssv.Qbft Ssv.Qbft.B

section
variable (cfg : Cfg)

theorem uniqueCount_append_le (a b : List Nat) : uniqueCount (a ++ b) ≤ uniqueCount a + b.length := by
  unfold uniqueCount
  have h := List.Nodup.length_le_of_subset (uniq_nodup (a ++ b)) (l₂ := uniq a ++ b) (by
    intro x hx
    have := (uniq_mem (a ++ b) x).1 hx
    rcases List.mem_append.1 this with h | h
    · exact List.mem_append_left _ ((uniq_mem a x).2 h)
    · exact List.mem_append_right _ h)
  simpa using h

theorem hasPartialQuorum_false_iff (l : List Nat) : cfg.hasPartialQuorum l = false ↔ uniqueCount l < cfg.partialQuorum := by
  unfold Cfg.hasPartialQuorum; simp

/-- f+1 and 2f+1 -/
structure QuorumWF (cfg : Cfg) : Prop where
  pqPos : 1 ≤ cfg.partialQuorum
  pqLt : cfg.partialQuorum < cfg.quorum

structure SkewInv (cfg : Cfg) (s : State) : Prop where
  near : ∀ x ∈ s.roundChange, x.round ≤ s.round + 1
  noPQ : cfg.hasPartialQuorum (signersOf (higherRc s)) = false

theorem mem_higherRc (s : State) (x : Msg) : x ∈ higherRc s ↔ x ∈ s.roundChange ∧ s.round < x.round := by
  unfold higherRc
  simp [List.mem_filter, Nat.blt_eq]

theorem noPQ_of_nil (hq : QuorumWF cfg) (s : State) (h : higherRc s = []) :
    cfg.hasPartialQuorum (signersOf (higherRc s)) = false := by
  rw [hasPartialQuorum_false_iff, h]
  exact hq.pqPos

theorem skewInv_fresh (hq : QuorumWF cfg) (s : State) (h : s.roundChange = []) : SkewInv cfg s :=
  ⟨fun x hx => absurd (h ▸ hx) List.not_mem_nil, noPQ_of_nil cfg hq s (by unfold higherRc; rw [h]; rfl)⟩

theorem skewInv_mono (s s' : State) (hinv : SkewInv cfg s) (h2 : s.round ≤ s'.round)
    (hc : ∀ x ∈ s'.roundChange, x ∈ s.roundChange ∨ x.round ≤ s.round) : SkewInv cfg s' := by
  refine ⟨?_, ?_⟩
  · intro x hx
    rcases hc x hx with h | h
    · exact Nat.le_trans (hinv.near x h) (Nat.succ_le_succ h2)
    · exact Nat.le_trans h (Nat.le_trans h2 (Nat.le_succ _))
  · -- the signers of the round-changes above the new round are among those above the old one
    rw [hasPartialQuorum_false_iff]
    refine Nat.lt_of_le_of_lt (uniqueCount_mono _ _ ?_) ((hasPartialQuorum_false_iff _ _).1 hinv.noPQ)
    intro y hy
    obtain ⟨e, he, hye⟩ := List.mem_flatMap.1 hy
    obtain ⟨he1, he2⟩ := (mem_higherRc s' e).1 he
    rcases hc e he1 with h | h
    · exact List.mem_flatMap.2 ⟨e, (mem_higherRc s e).2 ⟨h, Nat.lt_of_le_of_lt h2 he2⟩, hye⟩
    · exact absurd (Nat.lt_of_lt_of_le he2 (Nat.le_trans h h2)) (Nat.lt_irrefl _)

theorem future_round_count (s : State) (hinv : SkewInv cfg s) (r : Nat) (hr : s.round < r) :
    uniqueCount (signersOf (forRound s.roundChange r)) < cfg.partialQuorum := by
  refine Nat.lt_of_le_of_lt (uniqueCount_mono _ _ ?_) ((hasPartialQuorum_false_iff _ _).1 hinv.noPQ)
  intro y hy
  obtain ⟨e, he, hye⟩ := List.mem_flatMap.1 hy
  have he1 := List.mem_filter.1 he
  have her : e.round = r := by simpa using he1.2
  exact List.mem_flatMap.2 ⟨e, (mem_higherRc s e).2 ⟨he1.1, her ▸ hr⟩, hye⟩

/-- CORE: with the invariant, one more single-signer round-change cannot complete a quorum for a FUTURE round
    (f + 1 + 1 ≤ 2f + 1) -/
theorem no_future_quorum (hq : QuorumWF cfg) (s : State) (m : Msg) (hinv : SkewInv cfg s)
    (hone : m.signers.length = 1)
    (hquo : cfg.hasQuorum (signersOf (forRound (addFirst s.roundChange m).1 m.round)) = true) : m.round ≤ s.round := by
  by_contra hlt
  have hsub : ∀ y ∈ signersOf (forRound (addFirst s.roundChange m).1 m.round),
      y ∈ signersOf (forRound s.roundChange m.round) ++ m.signers := by
    intro y hy
    obtain ⟨e, he, hye⟩ := List.mem_flatMap.1 hy
    have he1 := List.mem_filter.1 he
    rcases addFirst_mem _ _ _ he1.1 with h | h
    · exact List.mem_append_left _ (List.mem_flatMap.2 ⟨e, List.mem_filter.2 ⟨h, he1.2⟩, hye⟩)
    · subst h; exact List.mem_append_right _ hye
  have h1 := uniqueCount_mono _ _ hsub
  have h2 := uniqueCount_append_le (signersOf (forRound s.roundChange m.round)) m.signers
  rw [hone] at h2
  have h3 : _ + 1 ≤ cfg.partialQuorum := future_round_count cfg s hinv m.round (Nat.lt_of_not_le hlt)
  have h4 := (hasQuorum_iff _ _).1 hquo
  exact Nat.lt_irrefl _ (Nat.lt_of_le_of_lt (Nat.le_trans h4 (Nat.le_trans h1 (Nat.le_trans h2 h3))) hq.pqLt)

theorem rc_one_signer (s : State) (m : Msg) (ht : m.type = tRoundChange)
    (h : baseMsgValidation cfg s m = .ok ()) : m.signers.length = 1 := by
  unfold baseMsgValidation at h
  simp only [bind_eq_ok, rejectIf_eq_ok, wrap_eq_ok] at h
  obtain ⟨_, _, _, _, hv⟩ := h
  rw [ht] at hv
  obtain ⟨sg, hsg, _⟩ := (validRC_facts cfg _ _ _ _ _ () hv).signer
  have : m.signers = [sg] := hsg
  rw [this]; rfl

theorem rcQuorumInRound_of_skew (hq : QuorumWF cfg) (s : State) (m : Msg) (hinv : SkewInv cfg s) :
    RcQuorumInRound cfg s m :=
  fun ht hbv hquo => no_future_quorum cfg hq s m hinv (rc_one_signer cfg s m ht hbv) hquo

/-- `minRound` reads `noRound` = 0 as "none so far", hence `hpos` -/
theorem minRound_mem (l : List Msg) (hne : l ≠ []) (hpos : ∀ x ∈ l, 1 ≤ x.round) : ∃ x ∈ l, minRound l = x.round := by
  induction l with
  | nil => exact absurd rfl hne
  | cons a rest ih =>
    unfold minRound
    simp only
    split
    · exact ⟨a, List.mem_cons_self, rfl⟩
    · rename_i hc
      simp only [Bool.or_eq_true, beq_iff_eq, decide_eq_true_eq, not_or, Nat.not_lt] at hc
      have hrest : rest ≠ [] := by
        intro h0
        apply hc.1
        rw [h0]; rfl
      obtain ⟨x, hx, hxr⟩ := ih hrest (fun x hx => hpos x (List.mem_cons_of_mem _ hx))
      exact ⟨x, List.mem_cons_of_mem _ hx, hxr⟩

theorem uponRoundChange_skew (hq : QuorumWF cfg) (s : State) (m : Msg) (hinv : SkewInv cfg s)
    (hone : m.signers.length = 1) (hmr : m.round ≤ s.round + 1) (hnp : (uponRoundChange cfg s m).res ≠ .panic) :
    SkewInv cfg (uponRoundChange cfg s m).st := by
  have hnear1 : ∀ x ∈ (addFirst s.roundChange m).1, x.round ≤ s.round + 1 := by
    intro x hx
    rcases addFirst_mem _ _ _ hx with h | h
    · exact hinv.near x h
    · subst h; exact hmr
  have hsame : m.round ≤ s.round → SkewInv cfg (storeRc s m) := by
    intro hle
    refine skewInv_mono cfg s _ hinv (Nat.le_refl _) ?_
    intro x hx
    rcases addFirst_mem _ _ _ hx with h | h
    · exact Or.inl h
    · subst h; exact Or.inr hle
  -- f+1 higher round-changes are all for State.Round + 1, so that is their minimum
  have hmin : cfg.hasPartialQuorum (signersOf (higherRc (storeRc s m))) = true →
      minRound (higherRc (storeRc s m)) = s.round + 1 := by
    intro hpq
    have hne : higherRc (storeRc s m) ≠ [] := fun h0 => by rw [noPQ_of_nil cfg hq _ h0] at hpq; cases hpq
    have hmem := mem_higherRc (storeRc s m)
    obtain ⟨x, hx, hxr⟩ := minRound_mem _ hne (fun x hx => Nat.le_trans (Nat.succ_le_of_lt (Nat.zero_lt_of_lt ((hmem x).1 hx).2))
      (Nat.le_refl _))
    obtain ⟨hx1, hx2⟩ := (hmem x).1 hx
    rw [hxr]
    exact Nat.le_antisymm (hnear1 x hx1) hx2
  cases uponRoundChange_cases cfg s m with
  | dup h1 _ => rw [h1]; exact hinv
  | panic h _ _ => exact absurd h hnp
  | late hb h1 _ =>
    -- a quorum for the round already existed: it was not a future round
    rw [h1]
    apply hsame
    by_contra hlt
    have h1 := future_round_count cfg s hinv m.round (Nat.lt_of_not_le hlt)
    have h2 := (hasQuorum_iff _ _).1 hb
    exact Nat.lt_irrefl _ (Nat.lt_of_le_of_lt h2 (Nat.lt_trans h1 hq.pqLt))
  | propose j v hj h1 _ =>
    rw [h1]
    obtain ⟨hquo, _⟩ := (hasReceived_spec cfg _ m).found j v hj
    exact hsame (no_future_quorum cfg hq s m hinv hone hquo)
  | stay hpq h1 _ =>
    rw [h1]
    refine ⟨hnear1, ?_⟩
    cases hb : cfg.hasPartialQuorum (signersOf (higherRc (storeRc s m))) with
    | false => rfl
    | true => exact absurd (hmin hb ▸ hpq hb) (Nat.not_succ_le_self _)
  | jump hpq _ h1 _ =>
    rw [h1, hmin hpq]
    refine ⟨fun y hy => Nat.le_succ_of_le (hnear1 y hy), noPQ_of_nil cfg hq _ ?_⟩
    apply List.eq_nil_iff_forall_not_mem.2
    intro y hy
    obtain ⟨hy1, hy2⟩ := (mem_higherRc _ y).1 hy
    exact Nat.lt_irrefl _ (Nat.lt_of_lt_of_le hy2 (hnear1 y hy1))

theorem processMsg_skew (hq : QuorumWF cfg) (s : State) (m : Msg) (hinv : SkewInv cfg s)
    (hin : m.type = tRoundChange → m.round ≤ s.round + 1) (hnp : (processMsg cfg s m).res ≠ .panic) :
    SkewInv cfg (processMsg cfg s m).st := by
  have keep : ∀ s' : State, s'.roundChange = s.roundChange → s.round ≤ s'.round → SkewInv cfg s' :=
    fun s' h1 h2 => skewInv_mono cfg s s' hinv h2 (fun x hx => Or.inl (h1 ▸ hx))
  revert hnp
  refine processMsg_cases cfg s m (P := fun st => st.res ≠ .panic → SkewInv cfg st.st) ?_ ?_ ?_ ?_ ?_
  · intro f _
    rw [failStep_st]; exact hinv
  · intro hbv ht _
    rcases uponProposal_spec cfg s m with ⟨a, _⟩ | ⟨_, a, _⟩ <;> rw [a]
    · exact hinv
    · refine keep _ rfl ?_
      show s.round ≤ m.round
      rcases isValidProposal_state cfg s m () (baseMsgValidation_proposal cfg s m () ht hbv) with ⟨_, h⟩ | h
      · exact Nat.le_of_eq h.symm
      · exact Nat.le_of_lt h
  · intro hbv ht _
    obtain ⟨p, hacc, _⟩ := baseMsgValidation_prepare cfg s m () ht hbv
    rcases uponPrepare_spec cfg s m p hacc with ⟨a, _⟩ | ⟨a, _⟩ | ⟨_, a, _⟩ <;> rw [a] <;> exact keep _ rfl (Nat.le_refl _)
  · intro hbv ht _
    obtain ⟨p, hacc, _⟩ := baseMsgValidation_commit cfg s m () ht hbv
    rcases uponCommit_spec cfg s m p hacc with ⟨a, _⟩ | ⟨a, _⟩ | ⟨_, _, _, a, _⟩ <;> rw [a] <;> exact keep _ rfl (Nat.le_refl _)
  · intro hbv ht hnp
    exact uponRoundChange_skew cfg hq s m hinv (rc_one_signer cfg s m ht hbv) (hin ht) hnp

theorem uponRoundTimeout_skew (s : State) (hinv : SkewInv cfg s) : SkewInv cfg (uponRoundTimeout cfg s).st := by
  rcases uponRoundTimeout_cases cfg s with e | e <;> rw [e]
  · exact hinv
  · exact skewInv_mono cfg s _ hinv (Nat.le_succ _) (fun x hx => Or.inl hx)

end

end Ssv.Emission
