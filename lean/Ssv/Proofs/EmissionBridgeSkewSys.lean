/-
The container invariant `SkewInv` in the multi-node system: in every state of `SystemB`
reached through IN-ROUND deliveries (`ReachableT`: a delivered round-change is for a round ≤ State.Round + 1, a delivered
decided message is not for a round below State.Round, the step does not panic; starts and timeouts — also stale ones —
are unconstrained), every correct operator's instance satisfies `SkewInv`, hence every in-round delivery satisfies the
timing hypothesis `TimelyAction` of the headline theorem.
-/
import Ssv.Proofs.EmissionBridgeSkew
set_option linter.unusedSimpArgs false
set_option linter.unusedVariables false

namespace Ssv.Emission
open Ssv Ssv.Qbft Ssv.Qbft.B

def SkewO (cfg : Cfg) : Option State → Prop
  | none => True
  | some s => SkewInv cfg s

/-- IN-ROUND delivery (the property's "messages arrive within the round", with one round of skew): a round-change is for a
    round ≤ State.Round + 1; a decided message is not for a round below State.Round; the receiving operator does not crash -/
def InRoundAction {P : Params} (σ : Sys P) : Action P → Prop
  | .deliver i m =>
    (∀ s, instAt P.height (σ.ctrl i) = some s →
      (m.type = tRoundChange → m.round ≤ s.round + 1) ∧ (isDecidedMsg (P.cfg i) m = true → s.round ≤ m.round)) ∧
    ((σ.ctrl i).processMsg (P.cfg i) m).res ≠ .panic
  | _ => True

/-- reachability through in-round deliveries (starts and timeouts unconstrained) -/
inductive ReachableT {P : Params} : Sys P → Prop
  | init : ReachableT (Sys.init P)
  | step {σ : Sys P} (a : Action P) : ReachableT σ → enabled σ a = true → InRoundAction σ a → ReachableT (step σ a)

theorem ReachableT.reachable {P : Params} {σ : Sys P} (h : ReachableT σ) : Reachable σ := by
  induction h with
  | init => exact Reachable.init
  | step a _ hen _ ih => exact Reachable.step a ih hen

theorem kernel_partialQuorum (P : Params) (hP : P.Valid) : P.partialQuorum = P.f + 1 := by
  have hf := hP.size
  unfold Params.partialQuorum Params.n Gen.k_ComputeQuorumAndPartialQuorum Gen.toUint64
  have e1 : Int.tdiv (((3 * P.f + 1 : Nat) : Int) - 1) 3 = (P.f : Int) := by
    rw [Int.natCast_add, Int.natCast_mul]
    exact (congrArg (Int.tdiv · 3) (Int.add_sub_cancel _ _)).trans (Int.mul_tdiv_cancel_left _ (by decide))
  simp only [e1]
  rw [Int.emod_eq_of_lt (Int.add_nonneg (Int.natCast_nonneg _) (by decide)) (by omega)]
  exact Int.toNat_natCast (P.f + 1)

theorem quorumWF_of_params (P : Params) (hP : P.Valid) (hf : 1 ≤ P.f) (i : Op P) : QuorumWF (P.cfg i) where
  pqPos := by show 1 ≤ P.partialQuorum; rw [kernel_partialQuorum P hP]; exact Nat.le_add_left 1 _
  pqLt := by
    show P.partialQuorum < P.quorum
    rw [kernel_partialQuorum P hP, kernel_quorum P hP, Nat.two_mul]
    exact Nat.add_lt_add_right (Nat.lt_add_of_pos_left hf) 1

theorem skew_of_reachableT {P : Params} (hP : P.Valid) (hf : 1 ≤ P.f) {σ : Sys P} (h : ReachableT σ) :
    ∀ i, SkewO (P.cfg i) (instAt P.height (σ.ctrl i)) := by
  induction h with
  | init =>
    intro i
    rw [show instAt P.height ((Sys.init P).ctrl i) = none from instAt_of_nil rfl]
    trivial
  | step a hr hen hin ih =>
    rename_i σ0
    have hinv := inv_of_reachable hP hr.reachable
    refine step_ctrl_all (Q := fun j c => SkewO (P.cfg j) (instAt P.height c)) ih ?_
    have hq := quorumWF_of_params P hP hf (actor a)
    have ih0 := ih (actor a)
    cases a with
    | start i v =>
      show SkewO _ (instAt P.height ((σ0.ctrl i).startNewInstance (P.cfg i) P.height v).ct)
      rcases ctrl_start_cases (P.cfg i) P.height (σ0.ctrl i) v (hinv.shape i) (capacity_pos P i) with ⟨h1, _⟩ | ⟨_, h1, _⟩ <;>
        rw [h1]
      · exact ih0
      · exact skewInv_fresh _ hq _ (by rw [(start_spec _ _ _).1]; rfl)
    | timeout i r =>
      show SkewO _ (instAt P.height ((σ0.ctrl i).onTimeout (P.cfg i) P.height r).ct)
      have ih1 : SkewO (P.cfg i) (instAt P.height (σ0.ctrl i)) := ih0
      rcases ctrl_timeout_cases (P.cfg i) P.height (σ0.ctrl i) r (hinv.shape i) with ⟨h1, _⟩ | ⟨s, h0, h1, _⟩ <;> rw [h1]
      · exact ih1
      · rw [h0] at ih1
        exact uponRoundTimeout_skew _ s ih1
    | deliver i m =>
      show SkewO _ (instAt P.height ((σ0.ctrl i).processMsg (P.cfg i) m).ct)
      obtain ⟨hin1, hin2⟩ := hin
      have ih1 : SkewO (P.cfg i) (instAt P.height (σ0.ctrl i)) := ih0
      rcases ctrl_deliver_cases (P.cfg i) P.height (σ0.ctrl i) m (hinv.shape i) (capacity_pos P i)
          (decided_height hP hinv i m hen) with
        ⟨_, h1 | ⟨s', h1, h2⟩ | ⟨s, s', h0, h1, h2, h3⟩⟩ | ⟨s, h0, _, h1, _, h2⟩ <;> rw [h1]
      · exact ih1
      · exact skewInv_fresh _ hq s' h2
      · rw [h0] at ih1
        obtain ⟨_, hdecRound⟩ := hin1 s h0
        refine skewInv_mono _ s s' ih1 ?_ (fun x hx => Or.inl (h2 ▸ hx))
        rcases h3 with h3 | ⟨hd, h3⟩
        · exact Nat.le_of_eq h3.symm
        · rw [h3]; exact hdecRound hd
      · rw [h0] at ih1
        obtain ⟨hrcRound, _⟩ := hin1 s h0
        exact processMsg_skew _ hq s m ih1 hrcRound (fun hp => hin2 (h2 hp))

/-- reachability in a correct environment: every delivery is gated (passed the operator's message validation) and
    in-round -/
inductive ReachableC {P : Params} : Sys P → Prop
  | init : ReachableC (Sys.init P)
  | step {σ : Sys P} (a : Action P) : ReachableC σ → enabled σ a = true → GatedAction a → InRoundAction σ a →
      ReachableC (step σ a)

theorem ReachableC.gated {P : Params} {σ : Sys P} (h : ReachableC σ) : ReachableG σ := by
  induction h with
  | init => exact ReachableG.init
  | step a _ hen hg _ ih => exact ReachableG.step a ih hen hg

theorem ReachableC.inRound {P : Params} {σ : Sys P} (h : ReachableC σ) : ReachableT σ := by
  induction h with
  | init => exact ReachableT.init
  | step a _ hen _ hin ih => exact ReachableT.step a ih hen hin

end Ssv.Emission
