/- Lemmas for C03 (duty runner). Core Lean only.
   Every function of the model that is a chain of guards gets one lemma saying how it can end (`ctlProcess_spec`,
   `startNewInstance_spec`, `processConsG_cases`, `startDuty_cases`; `processPre_quiet`, `processPost_quiet` for the
   inputs that are always harmless); the window theorems and the at-most-once invariant `Inv` are read off those. -/
import Ssv.Model.Runner
import Ssv.Common.Lemmas

namespace Ssv.Runner

theorem mem_signAll_bcast {tag : SignTag} {objs rest : List Nat} {slot : Nat} {dom : Dom} {e : Ev}
    (h : e ∈ signAll tag objs slot dom ++ [.bcast rest]) (hs : e.isSign = true) :
    ∃ o ∈ objs, e = .sign tag o (epochOf slot) dom := by
  simp only [signAll, List.mem_append, List.mem_map, List.mem_singleton] at h
  rcases h with ⟨o, ho, rfl⟩ | rfl
  · exact ⟨o, ho, rfl⟩
  · cases hs

theorem no_sign_nil : ∀ e ∈ ([] : List Ev), e.isSign = false := fun _ h => nomatch h

theorem submitEvents_not_sign (o : PartialSig.Out) : ∀ e ∈ submitEvents o, e.isSign = false := by
  intro e he
  cases o <;> simp only [submitEvents, List.mem_map, List.not_mem_nil] at he
  all_goals (obtain ⟨_, _, rfl⟩ := he; rfl)

theorem setInst_duty (st : RSt) (id : Nat) (i : Inst) : (setInst st id i).duty = st.duty := rfl
theorem newInst_duty (st : RSt) (i : Inst) : (newInst st i).1.duty = st.duty := rfl
theorem setInst_role (st : RSt) (id : Nat) (i : Inst) : (setInst st id i).role = st.role := rfl
theorem newInst_role (st : RSt) (i : Inst) : (newInst st i).1.role = st.role := rfl

theorem heightOf_setInst (st : RSt) (id : Nat) (j i : Inst) (hj : instOf st id = some j) (hh : i.height = j.height)
    (rid : Nat) : heightOf (setInst st id i) rid = heightOf st rid := by
  unfold heightOf setInst instOf at *
  simp only []
  by_cases e : id = rid
  · subst e
    obtain ⟨hlt, hget⟩ := List.getElem?_eq_some_iff.1 hj
    simp [hlt, hget, hh]
  · rw [List.getElem?_set_ne e]

theorem heightOf_newInst (st : RSt) (i : Inst) (rid : Nat) (h : rid < st.heap.length) :
    heightOf (newInst st i).1 rid = heightOf st rid := by
  unfold heightOf newInst
  simp only []
  rw [List.getElem?_append_left h]

theorem heightOf_newInst_new (st : RSt) (i : Inst) : heightOf (newInst st i).1 st.heap.length = i.height := by
  unfold heightOf newInst
  simp

theorem cap_pos : 0 < Gen.ctrl_InstanceContainerDefaultCapacity := by decide

theorem mem_addNewInstance {st : RSt} {id h x : Nat} (hx : x ∈ addNewInstance st id h) : x = id ∨ x ∈ st.stored := by
  -- every branch is a sublist of the stored ids with `id` put in somewhere
  have ins : ∀ idx, x ∈ st.stored.take idx ++ [id] ++ st.stored.drop idx → x = id ∨ x ∈ st.stored := by
    intro idx hm
    simp only [List.mem_append, List.mem_singleton] at hm
    rcases hm with (a | a) | a
    · exact .inr (List.mem_of_mem_take a)
    · exact .inl a
    · exact .inr (List.mem_of_mem_drop a)
  unfold addNewInstance at hx
  dsimp only at hx
  split at hx
  · split at hx
    · exact (List.mem_append.1 hx).symm.imp_left List.mem_singleton.1
    · exact .inr hx
  · split at hx
    · exact ins _ ((List.dropLast_sublist _).subset hx)
    · exact ins _ hx

theorem addNewInstance_ne_nil (st : RSt) (id h : Nat) : addNewInstance st id h ≠ [] := by
  unfold addNewInstance
  dsimp only
  generalize insertIdx st h = idx
  split
  · split
    · exact List.append_ne_nil_of_right_ne_nil _ (List.cons_ne_nil _ _)
    · next hlt => exact fun e => hlt (e ▸ cap_pos)
  · split
    · next hcap =>
      -- the list before `dropLast` has one element more than the full container
      intro e
      have hl := congrArg List.length e
      have hlen := congrArg List.length (List.take_append_drop idx st.stored)
      simp only [List.length_dropLast, List.length_append, List.length_cons, List.length_nil] at hl hlen
      have := cap_pos
      omega
    · exact List.append_ne_nil_of_left_ne_nil (List.append_ne_nil_of_right_ne_nil _ (List.cons_ne_nil _ _)) _

/-- the controller part of the state is well formed: stored ids are allocated and not above the controller height -/
def StoredOK (st : RSt) : Prop := ∀ id ∈ st.stored, id < st.heap.length ∧ heightOf st id ≤ st.ctrlHeight

/-- `st1` continues `st`: what the controller's operations (`ProcessMsg`, `StartNewInstance`) do to a state, as far
    as the invariant `Inv` reads it -/
structure Ext (st st1 : RSt) : Prop where
  ch : st.ctrlHeight ≤ st1.ctrlHeight
  len : st.heap.length ≤ st1.heap.length
  hts : ∀ rid, rid < st.heap.length → heightOf st1 rid = heightOf st rid
  ne : st.stored ≠ [] → st1.stored ≠ []
  ok : StoredOK st → StoredOK st1
  role : st1.role = st.role
  duty : st1.duty = st.duty

theorem Ext.refl (st : RSt) : Ext st st := ⟨Nat.le_refl _, Nat.le_refl _, fun _ _ => rfl, id, id, rfl, rfl⟩

theorem Ext.trans {a b c : RSt} (h1 : Ext a b) (h2 : Ext b c) : Ext a c :=
  ⟨Nat.le_trans h1.ch h2.ch, Nat.le_trans h1.len h2.len,
   fun rid hr => by rw [h2.hts rid (Nat.lt_of_lt_of_le hr h1.len), h1.hts rid hr],
   fun h => h2.ne (h1.ne h), fun h => h2.ok (h1.ok h), h2.role.trans h1.role, h2.duty.trans h1.duty⟩

theorem bump_ext (st : RSt) (H' : Nat) (hH : st.ctrlHeight ≤ H') : Ext st { st with ctrlHeight := H' } :=
  ⟨hH, Nat.le_refl _, fun _ _ => rfl, id, fun hok x hx => ⟨(hok x hx).1, Nat.le_trans (hok x hx).2 hH⟩, rfl, rfl⟩

theorem setInst_ext (st : RSt) (id : Nat) (j i : Inst) (hj : instOf st id = some j) (hh : i.height = j.height) :
    Ext st (setInst st id i) := by
  have hht := heightOf_setInst st id j i hj hh
  have hlen : (setInst st id i).heap.length = st.heap.length := List.length_set
  refine ⟨Nat.le_refl _, Nat.le_of_eq hlen.symm, fun rid _ => hht rid, fun h => h, ?_, rfl, rfl⟩
  intro hok x hx
  obtain ⟨a, b⟩ := hok x hx
  exact ⟨Nat.lt_of_lt_of_eq a hlen.symm, by rw [hht]; exact b⟩

theorem newInst_ext (st : RSt) (i : Inst) (hi : i.height ≤ st.ctrlHeight) : Ext st (newInst st i).1 := by
  have hlen : (newInst st i).1.heap.length = st.heap.length + 1 := List.length_append
  have hlt : st.heap.length < (newInst st i).1.heap.length := Nat.lt_of_lt_of_eq (Nat.lt_succ_self _) hlen.symm
  refine ⟨Nat.le_refl _, Nat.le_of_lt hlt, heightOf_newInst st i, fun _ => addNewInstance_ne_nil _ _ _, ?_, rfl, rfl⟩
  intro hok x hx
  rcases mem_addNewInstance hx with rfl | a
  · exact ⟨hlt, le_of_eq_of_le (heightOf_newInst_new st i) hi⟩
  · obtain ⟨v1, v2⟩ := hok x a
    exact ⟨Nat.lt_trans v1 hlt, le_of_eq_of_le (heightOf_newInst st i x v1) v2⟩

/-- a decision `h v` reported for the message `c` is for its height and value, the message carried the controller's
    identifier, and the decision rests on a valid certificate or on the instance's own decision -/
structure Backed (c : ConsIn) (h : Nat) (v : Val) : Prop where
  idOk : c.idOk = true
  height : h = c.height
  value : v = c.value
  cert : (c.isDecided = true ∧ c.valid = true) ∨ (c.isDecided = false ∧ c.instDecides = true ∧ c.instErr = false)

/-- what `Controller.ProcessMsg` guarantees about its result `r` -/
structure CtlSpec (st : RSt) (c : ConsIn) (r : RSt × CtlOut) : Prop where
  ext : Ext st r.1
  backed : ∀ h v, r.2 = .decidedMsg h v → Backed c h v

theorem CtlSpec.err (st : RSt) (c : ConsIn) : CtlSpec st c (st, .err) := ⟨.refl st, nofun⟩

theorem CtlSpec.nothing (st : RSt) (c : ConsIn) : CtlSpec st c (st, .nothing) := ⟨.refl st, nofun⟩

theorem CtlSpec.decided {st X : RSt} {c : ConsIn} (hid : c.idOk = true) (hX : Ext st X)
    (hb : (c.isDecided = true ∧ c.valid = true) ∨ (c.isDecided = false ∧ c.instDecides = true ∧ c.instErr = false)) :
    CtlSpec st c (X, .decidedMsg c.height c.value) :=
  ⟨hX, fun _ _ e => (CtlOut.decidedMsg.inj e).elim fun e1 e2 => ⟨hid, e1.symm, e2.symm, hb⟩⟩

theorem uponDecided_spec (st : RSt) (c : ConsIn) (hid : c.idOk = true) (hdec : c.isDecided = true) :
    CtlSpec st c (uponDecided st c) := by
  unfold uponDecided
  refine ite_cases (fun _ => .err st c) fun hv => ?_
  rw [Bool.not_eq_true, Bool.not_eq_false'] at hv
  -- `isFutureDecided`: the controller moves up to the height of the message
  have hfut : decide (c.height > st.ctrlHeight) = true → st.ctrlHeight ≤ c.height := fun h => Nat.le_of_lt (of_decide_eq_true h)
  cases hf : findInst st c.height with
  | none =>
    refine .decided hid (ite_cases (fun h => ?_) fun h => ?_) (.inl ⟨hdec, hv⟩)
    · -- the code inserts the instance of the future height first and raises the controller height after; the two
      -- commute (by unfolding), and in this order the state in between is well formed (`StoredOK`)
      exact (bump_ext st _ (hfut h)).trans (newInst_ext _ _ (Nat.le_refl _))
    · exact newInst_ext st _ (Nat.le_of_not_lt fun h' => h (decide_eq_true h'))
  | some id =>
    dsimp only
    cases hi : instOf st id with
    | none => exact .err st c
    | some i =>
      have hset := setInst_ext st id i { i with decided := true, value := some c.value } hi rfl
      refine ite_cases (fun _ => ?_) fun _ => ?_
      · exact .decided hid (ite_cases (fun h => hset.trans (bump_ext _ _ (hfut h))) fun _ => hset) (.inl ⟨hdec, hv⟩)
      · -- the instance was decided before: nothing is reported
        exact ⟨ite_cases (fun h => bump_ext st _ (hfut h)) fun _ => .refl st, nofun⟩

theorem uponExisting_spec (st : RSt) (c : ConsIn) (hid : c.idOk = true) (hdec : c.isDecided = false) :
    CtlSpec st c (uponExisting st c) := by
  unfold uponExisting
  cases hf : findInst st c.height with
  | none => exact .err st c
  | some id =>
    dsimp only
    cases hi : instOf st id with
    | none => exact .err st c
    | some i =>
      refine ite_cases (fun _ => .err st c) fun herr => ?_
      refine ite_cases (fun _ => .nothing st c) fun hdecides => ?_
      refine ite_cases (fun _ => .nothing st c) fun _ => ?_
      rw [Bool.not_eq_true] at herr
      rw [Bool.not_eq_true, Bool.not_eq_false'] at hdecides
      exact .decided hid (setInst_ext st id i { i with decided := true, value := some c.value } hi rfl)
        (.inr ⟨hdec, hdecides, herr⟩)

theorem ctlProcess_spec (st : RSt) (c : ConsIn) : CtlSpec st c (ctlProcess st c) := by
  unfold ctlProcess
  refine ite_cases (fun _ => .err st c) fun hid => ?_
  rw [Bool.not_eq_true, Bool.not_eq_false'] at hid
  refine ite_cases (uponDecided_spec st c hid) fun hdec => ?_
  rw [Bool.not_eq_true] at hdec
  exact ite_cases (fun _ => .err st c) fun _ => uponExisting_spec st c hid hdec

/-- what `StartNewInstance` returns: the state is continued; on success the returned instance is stored, has the
    requested height, that height is the new controller height and had no instance before -/
def StartSpec (st : RSt) (height : Nat) (r : RSt × Option Nat) : Prop :=
  Ext st r.1 ∧ ∀ id, r.2 = some id → id ∈ r.1.stored ∧ heightOf r.1 id = height ∧ r.1.ctrlHeight = height ∧
    st.ctrlHeight ≤ height ∧ findInst st height = none

theorem startNewInstance_spec (st : RSt) (height : Nat) (ok : Bool) : StartSpec st height (startNewInstance st height ok) := by
  have fail : StartSpec st height (st, none) := ⟨.refl st, nofun⟩
  unfold startNewInstance
  refine ite_cases (fun _ => fail) fun _ => ?_
  refine ite_cases (fun _ => fail) fun hlt => ?_
  refine ite_cases (fun _ => fail) fun hnone => ?_
  rw [Bool.not_eq_true, Option.isSome_eq_false_iff, Option.isNone_iff_eq_none] at hnone
  have hle := Nat.le_of_not_lt hlt
  have hext := (bump_ext st height hle).trans
    (newInst_ext { st with ctrlHeight := height } { height := height, decided := false, value := none } (Nat.le_refl _))
  dsimp only
  split
  · exact ⟨hext, nofun⟩
  · next found hfound =>
    refine ⟨hext, fun id hid => ?_⟩
    cases hid
    obtain ⟨m1, m2⟩ := find?_key_some (heightOf _) hfound
    exact ⟨m1, m2, rfl, hle, hnone⟩

/-- what the at-most-once invariant says of a duty state `d`, the runner's or one about to be installed; `H` as in `Inv` -/
structure DutyOK (st : RSt) (H : List Nat) (d : DutySt) : Prop where
  /-- a running instance was put into the container, which does not become empty again; wanted for `Inv.ne` when the
      duty signs for height 0 -/
  ne : ∀ rid, d.running = some rid → st.stored ≠ []
  alloc : ∀ rid, d.running = some rid → rid < st.heap.length
  height : ∀ rid, d.running = some rid → heightOf st rid = d.slot
  le : ∀ rid, d.running = some rid → d.slot ≤ st.ctrlHeight
  /-- A duty that has taken no decided value cannot sign for a height signed before, since it has no running instance.
      Such a duty exists for slot 0 only, the one slot `ShouldProcessDuty` admits again (controller height 0), and it
      never gets an instance (`Inv.findInst_zero`). -/
  fresh : d.decidedValue = none → d.slot ∈ H → d.running = none ∧ d.slot = 0

theorem DutyOK.ext {st st1 : RSt} {H : List Nat} {d : DutySt} (h : DutyOK st H d) (hext : Ext st st1) : DutyOK st1 H d :=
  { h with
    ne := fun rid hr => hext.ne (h.ne rid hr)
    alloc := fun rid hr => Nat.lt_of_lt_of_le (h.alloc rid hr) hext.len
    height := fun rid hr => (hext.hts rid (h.alloc rid hr)).trans (h.height rid hr)
    le := fun rid hr => Nat.le_trans (h.le rid hr) hext.ch }

/-- the runner's own updates: the duty keeps slot and running instance and does not lose a decided value -/
theorem DutyOK.keep {st : RSt} {H : List Nat} {d d' : DutySt} (h : DutyOK st H d) (h1 : d'.slot = d.slot)
    (h2 : d'.running = d.running) (h3 : d'.decidedValue = none → d.decidedValue = none) : DutyOK st H d' := by
  refine ⟨?_, ?_, ?_, ?_, fun hn => ?_⟩
  · rw [h2]; exact h.ne
  · rw [h2]; exact h.alloc
  · rw [h1, h2]; exact h.height
  · rw [h1, h2]; exact h.le
  · rw [h1, h2]; exact h.fresh (h3 hn)

/-- the at-most-once invariant; `H`: heights for which a decided object has been signed so far -/
structure Inv (st : RSt) (H : List Nat) : Prop where
  ok : StoredOK st
  noCons : st.role.hasConsensus = false → H = []
  le : ∀ h ∈ H, h ≤ st.ctrlHeight
  /-- once height 0 has been signed the container is not empty; with `ok`, while the controller is at height 0 it
      holds an instance of height 0 -/
  ne : 0 ∈ H → st.stored ≠ []
  duty : ∀ d, st.duty = some d → DutyOK st H d

theorem Inv.init (role : Role) (n : Nat) : Inv (init role n) [] := by
  refine ⟨?_, fun _ => rfl, nofun, nofun, ?_⟩
  · intro id h; simp [Runner.init] at h
  · intro d h; simp [Runner.init] at h

theorem Inv.ext {st st1 : RSt} {H : List Nat} (hinv : Inv st H) (hext : Ext st st1) : Inv st1 H :=
  ⟨hext.ok hinv.ok, fun h => hinv.noCons (hext.role ▸ h), fun h hh => Nat.le_trans (hinv.le h hh) hext.ch,
   fun h => hext.ne (hinv.ne h), fun d hd => (hinv.duty d (hext.duty ▸ hd)).ext hext⟩

theorem Inv.setDuty {st : RSt} {H : List Nat} {d : DutySt} (hinv : Inv st H) (s : Nat) (hd : DutyOK st H d) :
    Inv { st with highestDecidedSlot := s, duty := some d } H :=
  -- `DutyOK` reads the controller part of the state only: the same fields prove it for the new state
  ⟨hinv.ok, hinv.noCons, hinv.le, hinv.ne, fun _ e => Option.some.inj e ▸ { hd with }⟩

theorem Inv.setHds {st : RSt} {H : List Nat} (hinv : Inv st H) (s : Nat) : Inv { st with highestDecidedSlot := s } H :=
  ⟨hinv.ok, hinv.noCons, hinv.le, hinv.ne, fun d hd => { hinv.duty d hd with }⟩

/-- heights signed for a running duty that holds its decided value -/
theorem Inv.signed {st : RSt} {H : List Nat} (hinv : Inv st H) {d : DutySt} {v : Val} {rid : Nat}
    (hc : st.role.hasConsensus = true) (hd : st.duty = some d) (hv : d.decidedValue = some v) (hr : d.running = some rid)
    (H' : List Nat) (hH' : ∀ h ∈ H', h = d.slot) : Inv st (H ++ H') := by
  have hdu := hinv.duty d hd
  refine ⟨hinv.ok, fun hn => (by rw [hc] at hn; cases hn), ?_, fun _ => hdu.ne rid hr, ?_⟩
  · intro x hx
    rcases List.mem_append.1 hx with a | a
    · exact hinv.le x a
    · exact hH' x a ▸ hdu.le rid hr
  · intro d' hd'
    cases hd.symm.trans hd'
    exact { hdu with fresh := fun hn => by rw [hv] at hn; cases hn }

/-- height 0 was signed and the controller is still at height 0: an instance of height 0 is stored, so
    `StartNewInstance` for height 0 fails ("instance already running") -/
theorem Inv.findInst_zero {st : RSt} {H : List Nat} (hinv : Inv st H) (h0 : 0 ∈ H) (hc : st.ctrlHeight = 0) :
    findInst st 0 ≠ none := by
  obtain ⟨x, hx⟩ := List.exists_mem_of_ne_nil _ (hinv.ne h0)
  -- `x` is stored, so its height is at most the controller height 0: it passes the test of `findInst st 0`
  have hxh := (hinv.ok x hx).2
  rw [hc] at hxh
  exact fun e => List.find?_eq_none.1 e x hx (beq_iff_eq.2 (Nat.le_zero.1 hxh))

/-- a harmless outcome `r` of an input -/
structure Quiet (st : RSt) (r : RSt × Bool × List Ev) : Prop where
  no_sign : ∀ e ∈ r.2.2, e.isSign = false
  role : r.1.role = st.role
  inv : ∀ H, Inv st H → Inv r.1 H

theorem Quiet.same (st : RSt) : Quiet st (st, false, []) := ⟨no_sign_nil, rfl, fun _ h => h⟩

/-- `BaseRunner.decide` for a duty state that is compatible with the invariant -/
theorem decideDuty_quiet {st : RSt} {d : DutySt} (ok : Bool) (hd : ∀ H, Inv st H → DutyOK st H d) :
    Quiet st ((decideDuty st d ok).1, (decideDuty st d ok).2, []) := by
  obtain ⟨hext, hsucc⟩ := startNewInstance_spec st d.slot ok
  unfold decideDuty
  generalize startNewInstance st d.slot ok = r at hext hsucc
  obtain ⟨st1, res⟩ := r
  refine ⟨no_sign_nil, ?_, fun H hinv => ?_⟩
  · cases res <;> exact hext.role
  have hinv1 := hinv.ext hext
  have hd1 := (hd H hinv).ext hext
  cases res with
  | none => exact hinv1.setDuty _ hd1
  | some id =>
    obtain ⟨hmem, hht, hch, hle, hnone⟩ := hsucc id rfl
    refine hinv1.setDuty _ ⟨fun _ _ => List.ne_nil_of_mem hmem, ?_, ?_, fun _ _ => Nat.le_of_eq hch.symm, fun hn hm => ?_⟩
    · intro rid hr
      cases hr
      exact (hinv1.ok id hmem).1
    · intro rid hr
      cases hr
      exact hht
    · -- a duty for a signed slot got an instance: impossible, the slot is 0 and the controller was at height 0
      obtain ⟨_, hz⟩ := (hd H hinv).fresh hn hm
      rw [hz] at hm hle hnone
      exact absurd hnone (hinv.findInst_zero hm (Nat.le_zero.1 hle))

theorem evSigns_nil_of (evs : List Ev) (h : ∀ e ∈ evs, e.isSign = false) : evSigns evs = [] := by
  unfold evSigns
  rw [List.filterMap_eq_nil_iff]
  intro e he
  have := h e he
  cases e <;> simp [Ev.isSign] at this ⊢

theorem evSigns_signAll (tag : SignTag) (objs : List Nat) (s : Nat) (dom : Dom) (rest : List Nat) :
    evSigns (signAll tag objs s dom ++ [.bcast rest]) =
      match tag with | .decided h => objs.map fun o => (h, o) | .atStart _ => [] := by
  unfold evSigns signAll
  rw [List.filterMap_append, List.filterMap_map]
  cases tag <;> simp [Function.comp_def]

/-- the outcome `r` of an input continues the invariant with the heights it signs, and what it signs is new -/
def StepOK (H : List Nat) (r : RSt × Bool × List Ev) : Prop :=
  Inv r.1 (H ++ (evSigns r.2.2).map (·.1)) ∧ (evSigns r.2.2).Nodup ∧ ∀ p ∈ evSigns r.2.2, p.1 ∉ H

theorem StepOK.quiet {H : List Nat} {r : RSt × Bool × List Ev} (h1 : Inv r.1 H) (h2 : evSigns r.2.2 = []) : StepOK H r := by
  unfold StepOK
  rw [h2, List.map_nil, List.append_nil]
  exact ⟨h1, List.nodup_nil, fun _ h => nomatch h⟩

theorem Quiet.stepOK {st : RSt} {r : RSt × Bool × List Ev} {H : List Nat} (hq : Quiet st r) (hinv : Inv st H) : StepOK H r :=
  .quiet (hq.inv H hinv) (evSigns_nil_of _ hq.no_sign)

/-- The two ways `processConsG pd st c` can end, `ctl` being the controller's answer.
    `quiet`: harmless. `signs`: every guard of `baseConsensusMsgProcessing` and `ProcessConsensus` passed — the
    controller reported a decision `h v`, a duty `d` is running, its instance `rid` has height `h`, `pd` is false, `v`
    decodes, passes the value check and yields its objects — and exactly the objects of `v` are signed. -/
inductive ConsCases (pd : Bool) (st : RSt) (ctl : RSt × CtlOut) (r : RSt × Bool × List Ev) : Prop
  | quiet (hq : Quiet st r)
  | signs (h : Nat) (v : Val) (d : DutySt) (rid : Nat)
      (hr : r = ({ ctl.1 with highestDecidedSlot := v.slot, duty := some { d with decidedValue := some v } }, true,
        signAll (.decided h) v.objs v.slot st.role.postDomain ++ [.bcast v.objs]))
      (cons : st.role.hasConsensus = true) (out : ctl.2 = .decidedMsg h v) (duty : st.duty = some d)
      (fin : d.finished = false) (run : d.running = some rid) (height : heightOf ctl.1 rid = h) (hpd : pd = false)
      (dec : v.decodeOk = true) (vc : v.vcOk = true) (get : v.getOk = true)

theorem processConsG_cases (pd : Bool) (st : RSt) (c : ConsIn) : ConsCases pd st (ctlProcess st c) (processConsG pd st c) := by
  have hext := (ctlProcess_spec st c).ext
  unfold processConsG
  generalize ctlProcess st c = ctl at hext
  obtain ⟨⟨role, q, cm, ch, stored, heap, duty, hds⟩, out⟩ := ctl
  -- the quiet ends but one: the controller's state, possibly with `highestDecidedSlot` set
  have quiet : ∀ ok s, ConsCases pd st (⟨role, q, cm, ch, stored, heap, duty, hds⟩, out)
      (⟨role, q, cm, ch, stored, heap, duty, s⟩, ok, []) :=
    fun ok s => .quiet ⟨no_sign_nil, hext.role, fun _ h => (h.ext hext).setHds s⟩
  refine ite_cases (fun _ => .quiet (.same st)) fun hcons => ?_
  cases out with
  | err => exact quiet _ _
  | nothing => exact quiet _ _
  | decidedMsg h v =>
    cases duty with
    | none => exact quiet _ _
    | some d =>
    obtain ⟨slot, preObjs, running, decidedValue, finished, pre, post⟩ := d
    refine ite_cases (fun _ => quiet _ _) fun hfin => ?_
    cases running with
    | none => exact quiet _ _
    | some rid =>
    refine ite_cases (fun _ => quiet _ _) fun hh => ?_
    refine ite_cases (fun _ => quiet _ _) fun hpd => ?_
    refine ite_cases (fun _ => quiet _ _) fun hdec => ?_
    refine ite_cases (fun _ => quiet _ _) fun hvc => ?_
    refine ite_cases (fun _ => .quiet ⟨no_sign_nil, hext.role, fun _ h =>
      (h.ext hext).setDuty _ (((h.ext hext).duty _ rfl).keep rfl rfl nofun)⟩) fun hget => ?_
    rw [Bool.not_eq_true, Bool.not_eq_false'] at hcons hdec hvc hget
    rw [Bool.not_eq_true] at hfin hpd
    exact .signs h v _ rid rfl hcons rfl hext.duty.symm hfin rfl (Decidable.not_not.1 hh).symm hpd hdec hvc hget

theorem Inv.consStepOK {st : RSt} {H : List Nat} (hinv : Inv st H) (pd : Bool) (c : ConsIn)
    (hpd : pd = false → ∀ d, st.duty = some d → d.finished = false → d.decidedValue = none)
    (hobjs : c.value.objs.Nodup) : StepOK H (processConsG pd st c) := by
  have hctl := ctlProcess_spec st c
  rcases processConsG_cases pd st c with hq | ⟨h, v, d, rid, hres, hcons, hout, hd, hfin, hr, hh, hpdf⟩
  · exact hq.stepOK hinv
  · have hv := (hctl.backed h v hout).value
    have hdu := hinv.duty d hd
    obtain rfl : h = d.slot := by rw [← hh, hctl.ext.hts rid (hdu.alloc rid hr)]; exact hdu.height rid hr
    -- the duty holds no decided value yet, so its slot has not been signed
    have hnotin : d.slot ∉ H := fun hm => by
      have := (hdu.fresh (hpd hpdf d hd hfin) hm).1
      rw [hr] at this; cases this
    have hinv1 := (hinv.ext hctl.ext).setDuty v.slot
      ((hdu.ext hctl.ext).keep (d' := { d with decidedValue := some v }) rfl rfl nofun)
    rw [hres]
    unfold StepOK
    dsimp only
    rw [evSigns_signAll]
    refine ⟨hinv1.signed (hctl.ext.role ▸ hcons) rfl rfl hr _ ?_, ?_, ?_⟩
    · intro x hx
      simp only [List.map_map, List.mem_map, Function.comp_apply] at hx
      obtain ⟨_, _, rfl⟩ := hx
      rfl
    · rw [hv, List.Nodup, List.pairwise_map]
      exact hobjs.imp fun hab e => hab (by simpa using e)
    · intro p hp
      simp only [List.mem_map] at hp
      obtain ⟨_, _, rfl⟩ := hp
      exact hnotin

theorem prevDecided_false (st : RSt) (h : prevDecided st = false) :
    ∀ d, st.duty = some d → d.finished = false → d.decidedValue = none := by
  intro d hd hfin
  have h2 := (Bool.or_eq_false_iff.1 h).2
  simp only [dutyDecided, hd, hfin] at h2
  cases hv : d.decidedValue with
  | none => rfl
  | some v => rw [hv] at h2; cases h2

theorem processPre_quiet (st : RSt) (m : PartialSig.Msg) (slot : Nat) (iok : Bool) : Quiet st (processPre st m slot iok) := by
  unfold processPre
  cases hd : st.duty with
  | none => exact .same st
  | some d =>
    refine ite_cases (fun _ => .same st) fun _ => ?_
    dsimp only
    generalize PartialSig.step _ _ = r
    -- the duty's containers and `finished` flag are updated; `decide` is called after a quorum
    refine ite_cases (fun _ => ⟨submitEvents_not_sign _, rfl, fun _ h => h.setDuty _ ((h.duty d hd).keep rfl rfl id)⟩) fun _ => ?_
    split
    · exact decideDuty_quiet iok fun _ h => (h.duty d hd).keep rfl rfl id
    · exact ⟨no_sign_nil, rfl, fun _ h => h.setDuty _ ((h.duty d hd).keep rfl rfl id)⟩

theorem processPost_quiet (st : RSt) (m : PartialSig.Msg) (slot : Nat) : Quiet st (processPost st m slot) := by
  unfold processPost
  refine ite_cases (fun _ => .same st) fun _ => ?_
  cases hd : st.duty with
  | none => exact .same st
  | some d =>
    dsimp only
    split
    · exact ite_cases (fun _ => .same st) fun _ =>
        ⟨submitEvents_not_sign _, rfl, fun _ h => h.setDuty _ ((h.duty d hd).keep rfl rfl id)⟩
    · exact .same st

/-- `ShouldProcessDuty` lets a slot that is not above the controller height through only while that height is 0 -/
theorem ctrlHeight_of_not_refuse {st : RSt} {slot : Nat} (href : ¬refuseDuty st slot = true)
    (hc : st.role.hasConsensus = true) (hle : st.ctrlHeight ≥ slot) : st.ctrlHeight = 0 := by
  rw [refuseDuty, if_pos hc, decide_eq_true hle, Bool.true_and, bne_iff_ne, ne_eq, Decidable.not_not] at href
  exact href

/-- The ways `startDuty` can end. `quiet`: refused, or `decide` was called. `signs`: the role signs at start; the fresh
    duty state is compatible with the invariant and exactly its pre-consensus objects are signed. -/
inductive StartCases (st : RSt) (slot : Nat) (pre : List Nat) (r : RSt × Bool × List Ev) : Prop
  | quiet (hq : Quiet st r)
  | signs (hs : st.role.signsAtStart = true)
      (hfresh : ∀ H, Inv st H → DutyOK st H (freshDuty slot pre))
      (hr : r = ({ st with duty := some (freshDuty slot pre) }, true,
        signAll (.atStart slot) pre slot st.role.preDomain ++ [.bcast pre]))

theorem startDuty_cases (st : RSt) (slot : Nat) (pre : List Nat) (iok : Bool) :
    StartCases st slot pre (startDuty st slot pre iok) := by
  unfold startDuty
  refine ite_cases (fun _ => .quiet (.same st)) fun href => ?_
  have hfresh : ∀ H, Inv st H → DutyOK st H (freshDuty slot pre) := by
    refine fun H hinv => ⟨nofun, nofun, nofun, nofun, fun _ hmem => ⟨rfl, ?_⟩⟩
    show slot = 0
    have hle := hinv.le slot hmem
    have hc : st.role.hasConsensus = true := by
      cases h : st.role.hasConsensus
      · rw [hinv.noCons h] at hmem; cases hmem
      · rfl
    rw [ctrlHeight_of_not_refuse href hc hle] at hle
    exact Nat.le_zero.1 hle
  exact ite_cases (fun hs => .signs hs hfresh rfl) fun _ => .quiet (decideDuty_quiet iok hfresh)

theorem step_role (st : RSt) (i : In) : (step st i).1.role = st.role := by
  cases i with
  | start slot pre iok =>
    rcases startDuty_cases st slot pre iok with hq | ⟨_, _, hr⟩
    · exact hq.role
    · rw [step, hr]
  | pre m slot iok => exact (processPre_quiet st m slot iok).role
  | cons c =>
    rcases processConsG_cases (prevDecided st) st c with hq | ⟨_, _, _, _, hr⟩
    · exact hq.role
    · rw [step, processCons, hr]
      exact (ctlProcess_spec st c).ext.role
  | post m slot => exact (processPost_quiet st m slot).role
  | «foreign» => rfl

theorem Inv.stepOK {st : RSt} {H : List Nat} (hinv : Inv st H) (i : In) (hobjs : ∀ c, i = .cons c → c.value.objs.Nodup) :
    StepOK H (step st i) := by
  cases i with
  | start slot pre iok =>
    rcases startDuty_cases st slot pre iok with hq | ⟨_, hfresh, hr⟩
    · exact hq.stepOK hinv
    · rw [step, hr]
      exact .quiet (hinv.setDuty _ (hfresh H hinv)) (evSigns_signAll _ _ _ _ _)
  | pre m slot iok => exact (processPre_quiet st m slot iok).stepOK hinv
  | post m slot => exact (processPost_quiet st m slot).stepOK hinv
  | «foreign» => exact .quiet hinv rfl
  | cons c => exact hinv.consStepOK (prevDecided st) c (prevDecided_false st) (hobjs c rfl)

/-- over every input sequence: no (decision height, root) is signed twice, also counting what was signed before -/
theorem run_decidedSigns_nodup (ins : List In) (st : RSt) (Sg : List (Nat × Nat)) (hSg : Sg.Nodup)
    (hinv : Inv st (Sg.map (·.1))) (hobjs : ∀ i ∈ ins, ∀ c, i = .cons c → c.value.objs.Nodup) :
    (Sg ++ decidedSigns (run st ins)).Nodup := by
  induction ins generalizing st Sg with
  | nil => simpa [run, decidedSigns] using hSg
  | cons i t ih =>
    obtain ⟨hinv1, hnd1, hnew⟩ := hinv.stepOK i (hobjs i (by simp))
    have hnd : (Sg ++ evSigns (step st i).2.2).Nodup := by
      rw [List.nodup_append]
      refine ⟨hSg, hnd1, ?_⟩
      intro x hx y hy e
      subst e
      exact hnew x hy (List.mem_map_of_mem hx)
    have := ih (step st i).1 (Sg ++ evSigns (step st i).2.2) hnd (by rw [List.map_append]; exact hinv1)
      (fun j hj => hobjs j (List.mem_cons_of_mem _ hj))
    simpa [run, decidedSigns, List.append_assoc] using this

end Ssv.Runner
