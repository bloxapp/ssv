/-
C01 Layer B, part 3 — the bridge between the system's ghost trace and the Layer-A context (`QAbs.Ctx`), trace-extension
lemmas, and the counting lemmas that turn signer lists into committee subsets.
-/
import Ssv.Proofs.QbftNodeCtrl
import Ssv.Proofs.QbftAbstract
import Mathlib.Data.Finset.Card
import Mathlib.Data.Fintype.Card
import Mathlib.Data.List.Nodup

namespace Ssv.Qbft.B
open Ssv.Qbft

def toQ {N : Type} : Ev N → QAbs.Ev N
  | .P i r v => .P i r v
  | .K i r v => .K i r v
  | .RC i r pr pv => .RC i r pr pv
  | .G i rc => .G i rc
  | .D i r v => .D i r v

/-- `toQ` only renames the constructors: this is its inverse -/
def ofQ {N : Type} : QAbs.Ev N → Ev N
  | .P i r v => .P i r v
  | .K i r v => .K i r v
  | .RC i r pr pv => .RC i r pr pv
  | .G i rc => .G i rc
  | .D i r v => .D i r v

theorem ofQ_toQ {N : Type} (e : Ev N) : ofQ (toQ e) = e := by cases e <;> rfl

theorem toQ_ofQ {N : Type} (q : QAbs.Ev N) : toQ (ofQ q) = q := by cases q <;> rfl

theorem toQ_inj {N : Type} {e e' : Ev N} (h : toQ e = toQ e') : e = e' := by
  rw [← ofQ_toQ e, h, ofQ_toQ]

theorem toQ_surj {N : Type} (q : QAbs.Ev N) : ∃ e, toQ e = q := ⟨ofQ q, toQ_ofQ q⟩

/-- the operator an event belongs to -/
def Ev.node {N : Type} : Ev N → N
  | .P i _ _ => i
  | .K i _ _ => i
  | .RC i _ _ _ => i
  | .G i _ => i
  | .D i _ _ => i

theorem nstep_evs_node {N : Type} {cfg : Cfg} {h : Nat} {A : Msg → Prop} {i : N} {os os' : Option State} {bs : List Msg}
    {evs : List (Ev N)} (hst : NStep cfg h A i os os' bs evs) : ∀ e ∈ evs, e.node = i := by
  intro e he
  have ho := hst.origin he
  cases e <;> exact ho.1

/-- side conditions on the parameters: at most f Byzantine members; the committee size fits a Go `int` (so that the
    translated quorum kernel does not wrap) -/
structure Params.Valid (P : Params) : Prop where
  byz : P.byz.length ≤ P.f
  size : P.f < 2 ^ 61

def byzSet (P : Params) : Finset (Op P) := P.byz.toFinset

/-- the Layer-A context of a trace -/
def ctxT (P : Params) (hP : P.Valid) (T : List (Ev (Op P))) : QAbs.Ctx (Op P) :=
  { f := P.f, byz := byzSet P, T := T.map toQ,
    hn := by simp,
    hb := le_trans (List.toFinset_card_le _) hP.byz }

theorem honest_iff (P : Params) (hP : P.Valid) (T : List (Ev (Op P))) (i : Op P) :
    i ∉ (ctxT P hP T).byz ↔ P.honest i = true := by
  simp [ctxT, byzSet, Params.honest]

theorem at_iff {P : Params} {hP : P.Valid} {T : List (Ev (Op P))} {k : Nat} {e : Ev (Op P)} :
    QAbs.At (ctxT P hP T) k (toQ e) ↔ T[k]? = some e := by
  unfold QAbs.At ctxT
  simp only [List.getElem?_map]
  constructor
  · intro h
    obtain ⟨a, ha, hq⟩ := Option.map_eq_some_iff.1 h
    rw [ha, toQ_inj hq]
  · intro h; rw [h]; rfl

theorem at_P {P : Params} {hP : P.Valid} {T : List (Ev (Op P))} {k : Nat} {i : Op P} {r v : Nat} :
    QAbs.At (ctxT P hP T) k (.P i r v) ↔ T[k]? = some (.P i r v) := at_iff (e := .P i r v)
theorem at_K {P : Params} {hP : P.Valid} {T : List (Ev (Op P))} {k : Nat} {i : Op P} {r v : Nat} :
    QAbs.At (ctxT P hP T) k (.K i r v) ↔ T[k]? = some (.K i r v) := at_iff (e := .K i r v)
theorem at_RC {P : Params} {hP : P.Valid} {T : List (Ev (Op P))} {k : Nat} {i : Op P} {r pr pv : Nat} :
    QAbs.At (ctxT P hP T) k (.RC i r pr pv) ↔ T[k]? = some (.RC i r pr pv) := at_iff (e := .RC i r pr pv)
theorem at_G {P : Params} {hP : P.Valid} {T : List (Ev (Op P))} {k : Nat} {i : Op P} {rc : Nat} :
    QAbs.At (ctxT P hP T) k (.G i rc) ↔ T[k]? = some (.G i rc) := at_iff (e := .G i rc)
theorem at_D {P : Params} {hP : P.Valid} {T : List (Ev (Op P))} {k : Nat} {i : Op P} {r v : Nat} :
    QAbs.At (ctxT P hP T) k (.D i r v) ↔ T[k]? = some (.D i r v) := at_iff (e := .D i r v)

theorem getElem?_append_cases {α : Type} {T evs : List α} {k : Nat} {e : α} (h : (T ++ evs)[k]? = some e) :
    (k < T.length ∧ T[k]? = some e) ∨ (T.length ≤ k ∧ evs[k - T.length]? = some e) := by
  by_cases hk : k < T.length
  · left; rw [List.getElem?_append_left hk] at h; exact ⟨hk, h⟩
  · right
    have hk' : T.length ≤ k := Nat.le_of_not_lt hk
    rw [List.getElem?_append_right hk'] at h
    exact ⟨hk', h⟩

theorem single_index {α : Type} {x e : α} {n : Nat} (h : [x][n]? = some e) : n = 0 ∧ e = x := by
  cases n with
  | zero => exact ⟨rfl, (Option.some.inj h).symm⟩
  | succ n => cases h

theorem getElem?_lt {α : Type} {T : List α} {k : Nat} {e : α} (h : T[k]? = some e) : k < T.length :=
  (List.getElem?_eq_some_iff.1 h).1

theorem getElem?_mem' {α : Type} {T : List α} {k : Nat} {e : α} (h : T[k]? = some e) : e ∈ T :=
  List.mem_of_getElem? h

theorem getElem?_append_old {α : Type} {T evs : List α} {k : Nat} {e : α} (h : T[k]? = some e) :
    (T ++ evs)[k]? = some e := by
  rw [List.getElem?_append_left (getElem?_lt h)]; exact h

theorem mem_append_foreign {α : Type} {T evs : List α} {e : α} (h : e ∈ T ++ evs) (hf : e ∉ evs) : e ∈ T := by
  rcases List.mem_append.1 h with h | h
  · exact h
  · exact absurd h hf

theorem getElem?_append_foreign {α : Type} {T evs : List α} {k : Nat} {e : α} (h : (T ++ evs)[k]? = some e) (hf : e ∉ evs) :
    T[k]? = some e := by
  rcases getElem?_append_cases h with ⟨_, h⟩ | ⟨_, h⟩
  · exact h
  · exact absurd (getElem?_mem' h) hf

theorem getElem?_append_single {α : Type} {T : List α} {k : Nat} {e x : α} (h : (T ++ [x])[k]? = some e) :
    T[k]? = some e ∨ (k = T.length ∧ e = x) := by
  rcases getElem?_append_cases h with ⟨_, h⟩ | ⟨hk, h⟩
  · exact Or.inl h
  · obtain ⟨h0, he⟩ := single_index h
    exact Or.inr ⟨Nat.le_antisymm (Nat.le_of_sub_eq_zero h0) hk, he⟩

theorem getElem?_append_two {α : Type} {T : List α} {k : Nat} {e x y : α} (h : (T ++ [x, y])[k]? = some e) :
    T[k]? = some e ∨ (k = T.length ∧ e = x) ∨ (k = T.length + 1 ∧ e = y) := by
  rw [show T ++ [x, y] = T ++ [x] ++ [y] from (List.append_assoc T [x] [y]).symm] at h
  rcases getElem?_append_single h with h | ⟨hk, he⟩
  · exact (getElem?_append_single h).imp_right Or.inl
  · exact .inr (.inr ⟨hk.trans List.length_append, he⟩)

theorem getElem?_append_at {α : Type} (T : List α) (x : α) (rest : List α) : (T ++ x :: rest)[T.length]? = some x := by
  rw [List.getElem?_append_right (Nat.le_refl _), Nat.sub_self]; rfl

theorem at_ext {P : Params} {hP : P.Valid} {T evs : List (Ev (Op P))} {k : Nat} {q : QAbs.Ev (Op P)}
    (h : QAbs.At (ctxT P hP T) k q) : QAbs.At (ctxT P hP (T ++ evs)) k q := by
  obtain ⟨e, rfl⟩ := toQ_surj q
  exact at_iff.2 (getElem?_append_old (at_iff.1 h))

theorem at_cases {P : Params} {hP : P.Valid} {T evs : List (Ev (Op P))} {k : Nat} {e : Ev (Op P)}
    (h : QAbs.At (ctxT P hP (T ++ evs)) k (toQ e)) :
    (k < T.length ∧ QAbs.At (ctxT P hP T) k (toQ e)) ∨ (T.length ≤ k ∧ evs[k - T.length]? = some e) := by
  rcases getElem?_append_cases (at_iff.1 h) with ⟨h1, h2⟩ | ⟨h1, h2⟩
  · exact Or.inl ⟨h1, at_iff.2 h2⟩
  · exact Or.inr ⟨h1, h2⟩

theorem at_lt {P : Params} {hP : P.Valid} {T : List (Ev (Op P))} {k : Nat} {q : QAbs.Ev (Op P)}
    (h : QAbs.At (ctxT P hP T) k q) : k < T.length := by
  obtain ⟨e, rfl⟩ := toQ_surj q
  exact getElem?_lt (at_iff.1 h)

theorem at_old {P : Params} {hP : P.Valid} {T evs : List (Ev (Op P))} {k : Nat} {q : QAbs.Ev (Op P)}
    (h : QAbs.At (ctxT P hP (T ++ evs)) k q) (hk : k < T.length) : QAbs.At (ctxT P hP T) k q := by
  obtain ⟨e, rfl⟩ := toQ_surj q
  rcases at_cases h with ⟨_, h2⟩ | ⟨h1, _⟩
  · exact h2
  · exact absurd hk (Nat.not_lt.2 h1)

theorem before_of_mem {P : Params} {hP : P.Valid} {T evs : List (Ev (Op P))} {k : Nat} {e : Ev (Op P)}
    (h : e ∈ T) (hk : T.length ≤ k) : QAbs.Before (ctxT P hP (T ++ evs)) k (toQ e) := by
  obtain ⟨j, hj⟩ := List.getElem?_of_mem h
  exact ⟨j, lt_of_lt_of_le (getElem?_lt hj) hk, at_iff.2 (getElem?_append_old hj)⟩

theorem before_mem {P : Params} {hP : P.Valid} {T : List (Ev (Op P))} {k : Nat} {e : Ev (Op P)}
    (h : QAbs.Before (ctxT P hP T) k (toQ e)) : e ∈ T := by
  obtain ⟨j, _, hj⟩ := h
  exact getElem?_mem' (at_iff.1 hj)

theorem before_ext {P : Params} {hP : P.Valid} {T evs : List (Ev (Op P))} {k : Nat} {q : QAbs.Ev (Op P)}
    (h : QAbs.Before (ctxT P hP T) k q) : QAbs.Before (ctxT P hP (T ++ evs)) k q := by
  obtain ⟨j, hj, ha⟩ := h
  exact ⟨j, hj, at_ext ha⟩

theorem pq_ext {P : Params} {hP : P.Valid} {T evs : List (Ev (Op P))} {k r v : Nat}
    (h : QAbs.PQ (ctxT P hP T) k r v) : QAbs.PQ (ctxT P hP (T ++ evs)) k r v := by
  obtain ⟨S, hS, hm⟩ := h
  exact ⟨S, hS, fun j hj hb => before_ext (hm j hj hb)⟩

theorem kq_ext {P : Params} {hP : P.Valid} {T evs : List (Ev (Op P))} {k r v : Nat}
    (h : QAbs.KQ (ctxT P hP T) k r v) : QAbs.KQ (ctxT P hP (T ++ evs)) k r v := by
  obtain ⟨S, hS, hm⟩ := h
  exact ⟨S, hS, fun j hj hb => before_ext (hm j hj hb)⟩

theorem rcq_ext {P : Params} {hP : P.Valid} {T evs : List (Ev (Op P))} {k r : Nat} {S : Finset (Op P)} {d : Op P → Nat × Nat}
    (h : QAbs.RCQ (ctxT P hP T) k r S d) : QAbs.RCQ (ctxT P hP (T ++ evs)) k r S d := by
  obtain ⟨hS, hm⟩ := h
  refine ⟨hS, fun j hj => ?_⟩
  obtain ⟨hle, hpq, hbf⟩ := hm j hj
  exact ⟨hle, fun hp => pq_ext (hpq hp), fun hb => before_ext (hbf hb)⟩

theorem pq_of_mem {P : Params} {hP : P.Valid} {T evs : List (Ev (Op P))} {k r v : Nat} (hk : T.length ≤ k)
    (S : Finset (Op P)) (hS : 2 * P.f + 1 ≤ S.card) (hm : ∀ j ∈ S, P.honest j = true → Ev.P j r v ∈ T) :
    QAbs.PQ (ctxT P hP (T ++ evs)) k r v :=
  ⟨S, hS, fun j hj hb => before_of_mem (e := .P j r v) (hm j hj ((honest_iff P hP _ j).1 hb)) hk⟩

theorem kq_of_mem {P : Params} {hP : P.Valid} {T evs : List (Ev (Op P))} {k r v : Nat} (hk : T.length ≤ k)
    (S : Finset (Op P)) (hS : 2 * P.f + 1 ≤ S.card) (hm : ∀ j ∈ S, P.honest j = true → Ev.K j r v ∈ T) :
    QAbs.KQ (ctxT P hP (T ++ evs)) k r v :=
  ⟨S, hS, fun j hj hb => before_of_mem (e := .K j r v) (hm j hj ((honest_iff P hP _ j).1 hb)) hk⟩

theorem mem_committee (P : Params) (s : Nat) : s ∈ P.committee ↔ 1 ≤ s ∧ s ≤ P.n := by
  unfold Params.committee
  simp only [List.mem_map, List.mem_range]
  constructor
  · rintro ⟨a, ha, rfl⟩; exact ⟨Nat.le_add_left 1 a, ha⟩
  · intro h; exact ⟨s - 1, Nat.lt_of_lt_of_le (Nat.pred_lt (Nat.ne_of_gt h.1)) h.2, Nat.sub_add_cancel h.1⟩

/-- the member with operator id `s` -/
def toOp (P : Params) (s : Nat) : Op P := ⟨(s - 1) % (3 * P.f + 1), Nat.mod_lt _ (by omega)⟩

theorem opId_toOp (P : Params) (s : Nat) (h : s ∈ P.committee) : opId (toOp P s) = s := by
  obtain ⟨h1, h2⟩ := (mem_committee P s).1 h
  show (s - 1) % (3 * P.f + 1) + 1 = s
  have hlt : s - 1 < 3 * P.f + 1 := Nat.lt_of_lt_of_le (Nat.pred_lt (Nat.ne_of_gt h1)) h2
  rw [Nat.mod_eq_of_lt hlt, Nat.sub_add_cancel h1]

theorem toOp_opId (P : Params) (i : Op P) : toOp P (opId i) = i := by
  apply Fin.ext
  simp only [opId, toOp]
  have := i.isLt
  rw [Nat.add_sub_cancel, Nat.mod_eq_of_lt this]

theorem opId_mem_committee (P : Params) (i : Op P) : opId i ∈ P.committee :=
  (mem_committee P _).2 ⟨Nat.le_add_left 1 _, i.isLt⟩

theorem opId_inj {P : Params} {i j : Op P} (h : opId i = opId j) : i = j :=
  Fin.ext (Nat.succ.inj h)

theorem honestId_iff (P : Params) (i : Op P) : P.honestId (opId i) = true ↔ P.honest i = true := by
  unfold Params.honestId Params.honest
  have h1 := (mem_committee P (opId i)).1 (opId_mem_committee P i)
  simp only [Bool.and_eq_true, decide_eq_true_eq, Bool.not_eq_true', List.any_eq_false, beq_iff_eq,
    List.contains_eq_mem, decide_eq_false_iff_not]
  constructor
  · rintro ⟨_, h3⟩ hmem
    exact h3 i hmem rfl
  · intro h
    refine ⟨h1, ?_⟩
    intro b hb hbi
    have : b = i := opId_inj hbi
    subst this
    exact h hb

/-- the translated kernel computes `uint64(2 * ((n - 1) / 3) + 1)` on Go `int`s; for n = 3f+1 with f < 2^61 nothing wraps -/
theorem kernel_quorum (P : Params) (hP : P.Valid) : P.quorum = 2 * P.f + 1 := by
  have hf := hP.size
  have e0 : ((3 * P.f + 1 : Nat) : Int) - 1 = 3 * (P.f : Int) := by
    rw [Int.natCast_add, Int.natCast_mul]; exact Int.add_sub_cancel _ _
  have h2 : (P.f : Int) * 2 + 1 < 18446744073709551616 := by omega
  have e2 : ((P.f : Int) * 2 + 1) % 18446744073709551616 = ((2 * P.f + 1 : Nat) : Int) :=
    (Int.emod_eq_of_lt (Int.natCast_nonneg (P.f * 2 + 1)) h2).trans
      (congrArg (fun n : Nat => (n : Int)) (by rw [Nat.mul_comm]))
  show (((Int.tdiv (((3 * P.f + 1 : Nat) : Int) - 1) 3) * 2 + 1) % 18446744073709551616).toNat = 2 * P.f + 1
  rw [e0, Int.mul_tdiv_cancel_left _ (by decide), e2, Int.toNat_natCast]

theorem uniq_mem (l : List Nat) (x : Nat) : x ∈ uniq l ↔ x ∈ l := by
  induction l with
  | nil => simp [uniq]
  | cons a l ih =>
    unfold uniq
    split
    · rename_i h
      rw [ih]
      constructor
      · exact fun hx => List.mem_cons_of_mem _ hx
      · intro hx
        rcases List.mem_cons.1 hx with rfl | hx
        · exact h
        · exact hx
    · simp [ih]

theorem uniq_nodup (l : List Nat) : (uniq l).Nodup := by
  induction l with
  | nil => simp [uniq]
  | cons a l ih =>
    unfold uniq
    split
    · exact ih
    · rename_i h
      exact List.nodup_cons.2 ⟨fun hx => h ((uniq_mem l a).1 hx), ih⟩

theorem quorum_set (P : Params) (l : List Nat) (q : Nat) (hc : ∀ s ∈ l, s ∈ P.committee) (hq : q ≤ uniqueCount l) :
    ∃ S : Finset (Op P), q ≤ S.card ∧ ∀ j ∈ S, opId j ∈ l := by
  refine ⟨((uniq l).map (toOp P)).toFinset, ?_, ?_⟩
  · have hnd : ((uniq l).map (toOp P)).Nodup := by
      apply List.Nodup.map_on _ (uniq_nodup l)
      intro a ha b hb hab
      have ha' := hc a ((uniq_mem l a).1 ha)
      have hb' := hc b ((uniq_mem l b).1 hb)
      rw [← opId_toOp P a ha', ← opId_toOp P b hb', hab]
    rw [List.toFinset_card_of_nodup hnd, List.length_map]
    exact hq
  · intro j hj
    simp only [List.mem_toFinset, List.mem_map] at hj
    obtain ⟨a, ha, rfl⟩ := hj
    have ha' := (uniq_mem l a).1 ha
    rw [opId_toOp P a (hc a ha')]
    exact ha'

/-- a quorum of distinct committee signers over a list of signed parts gives a set of 2f+1 members; each is a signer of one
    of the parts, so it has whatever property `Q` the signers of every part have -/
theorem quorum_members {P : Params} (hP : P.Valid) {α : Type} (sig : α → List Nat) (xs : List α)
    (hq : P.quorum ≤ uniqueCount (xs.flatMap sig)) (Q : Op P → Prop)
    (h : ∀ x ∈ xs, ∀ sg ∈ sig x, sg ∈ P.committee ∧ ∀ j, opId j = sg → Q j) :
    ∃ S : Finset (Op P), 2 * P.f + 1 ≤ S.card ∧ ∀ j ∈ S, Q j := by
  obtain ⟨S, hS, hm⟩ := quorum_set P (xs.flatMap sig) P.quorum
    (fun s hs => by obtain ⟨x, hx, hsx⟩ := List.mem_flatMap.1 hs; exact (h x hx s hsx).1) hq
  rw [kernel_quorum P hP] at hS
  refine ⟨S, hS, fun j hj => ?_⟩
  obtain ⟨x, hx, hsx⟩ := List.mem_flatMap.1 (hm j hj)
  exact (h x hx _ hsx).2 j rfl

end Ssv.Qbft.B
