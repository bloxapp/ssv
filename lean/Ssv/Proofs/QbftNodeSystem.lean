/-
C01 Layer B, part 8 — the system invariant (controller shape, log, node invariants, the eight rules) holds in every
reachable state of the executable multi-node system.
-/
import Ssv.Proofs.QbftNodeRules2

namespace Ssv.Qbft.B
open Ssv.Qbft

/-- the Layer-A context of a system state: f, the Byzantine set, the ghost trace -/
def ctxOf {P : Params} (hP : P.Valid) (σ : Sys P) : QAbs.Ctx (Op P) := ctxT P hP σ.trace

structure Inv (P : Params) (hP : P.Valid) (σ : Sys P) : Prop where
  shape : ∀ i, Shape P.height (σ.ctrl i)
  log : ∀ m ∈ σ.log, LogOK P σ.trace m
  node : ∀ i, P.honest i = true → NodeInvO P σ.trace i (instAt P.height (σ.ctrl i))
  rules : QAbs.Rules (ctxOf hP σ)

theorem inv_init (P : Params) (hP : P.Valid) : Inv P hP (Sys.init P) where
  shape := fun _ => Or.inl rfl
  log := by intro m hm; simp [Sys.init] at hm
  node := by
    intro i _
    show NodeInvO P [] i (instAt P.height newController)
    rw [instAt_of_nil (c := newController) rfl]
    exact fun e he => nomatch he
  rules := rules_nil P hP

theorem capacity_pos (P : Params) (i : Op P) : 1 ≤ (P.cfg i).capacity := by
  show 1 ≤ Gen.qbft_InstanceContainerDefaultCapacity
  decide

theorem backedT_of_log {P : Params} {T : List (Ev (Op P))} {log : List Msg} (hlog : ∀ m ∈ log, LogOK P T m) {b : Base}
    (hb : backed P log b = true) : M.BackedT P T b :=
  fun _ hid hs j hj hm => (backed_event hlog hb hs hid j hj hm).2

theorem authT_of_log {P : Params} {T : List (Ev (Op P))} {log : List Msg} (hlog : ∀ m ∈ log, LogOK P T m) (m : Msg)
    (ha : authentic P log m = true ∧ m.ident = ownIdent) : M.AuthT P T m :=
  .of_backed (fun _ => backedT_of_log hlog) ha.1 ha.2

/-- a validated authentic decided message lists a correct signer, who broadcast for the system's height only: so the
    message is of that height, and the certificate facts follow -/
theorem cert_facts {P : Params} (hP : P.Valid) {T : List (Ev (Op P))} {log : List Msg} (hlog : ∀ m ∈ log, LogOK P T m)
    (i : Op P) (m : Msg) (hv : validateDecided (P.cfg i) m = .ok ()) (ha : authentic P log m = true)
    (hid : m.ident = ownIdent) : CertFacts P T m := by
  obtain ⟨_, hq, hnd, _, hso, hc, _⟩ := validateDecided_ok _ m () hv
  obtain ⟨j, hj, hmem⟩ := exists_honest_signer P hP m.signers hc (by rw [uniqueCount_of_nodup _ hnd]; exact hq)
  exact M.cert_facts hP i m hv (backed_event hlog (authentic_base ha) hso hid j hj hmem).1 hid
    (backedT_of_log hlog (authentic_base ha))

/-- every enabled action is a node transition of one correct operator -/
theorem step_nstep {P : Params} (hP : P.Valid) (σ : Sys P) (hinv : Inv P hP σ) (a : Action P)
    (hen : enabled σ a = true) :
    ∃ (i : Op P) (c' : Ctrl) (outs : List Out) (evs : List (Ev (Op P))), P.honest i = true ∧
      step σ a = σ.update i c' outs evs ∧ Shape P.height c' ∧
      NStep (P.cfg i) P.height (fun m => authentic P σ.log m = true ∧ m.ident = ownIdent) i (instAt P.height (σ.ctrl i))
        (instAt P.height c') (bcasts outs) evs := by
  cases a with
  | start i v =>
    exact ⟨i, _, _, _, hen, rfl, ctrl_start_node _ _ _ i (σ.ctrl i) v (hinv.shape i) (capacity_pos P i)⟩
  | deliver i m =>
    have hen' : P.honest i = true ∧ authentic P σ.log m = true := by
      simpa [enabled] using hen
    exact ⟨i, _, _, _, hen'.1, rfl, ctrl_processMsg_node _ _ _ i (σ.ctrl i) m (hinv.shape i) (capacity_pos P i)
      (fun hid => ⟨hen'.2, hid⟩) (fun hv hid => (cert_facts hP hinv.log i m hv hen'.2 hid).height)⟩
  | timeout i r =>
    exact ⟨i, _, _, _, hen, rfl, ctrl_onTimeout_node _ _ _ i (σ.ctrl i) r (hinv.shape i)⟩

theorem inv_update {P : Params} (hP : P.Valid) (σ : Sys P) (hinv : Inv P hP σ) (i : Op P) (hi : P.honest i = true)
    (c' : Ctrl) (outs : List Out) (evs : List (Ev (Op P))) (hsh : Shape P.height c')
    (hst : NStep (P.cfg i) P.height (fun m => authentic P σ.log m = true ∧ m.ident = ownIdent) i (instAt P.height (σ.ctrl i))
        (instAt P.height c') (bcasts outs) evs) :
    Inv P hP (σ.update i c' outs evs) := by
  have hself : (σ.update i c' outs evs).ctrl i = c' := if_pos rfl
  have hoth : ∀ j, j ≠ i → (σ.update i c' outs evs).ctrl j = σ.ctrl j := fun j h => if_neg h
  have hnode : ∀ j, P.honest j = true →
      NodeInvO P (σ.trace ++ evs) j (instAt P.height ((σ.update i c' outs evs).ctrl j)) := by
    intro j hj
    by_cases hji : j = i
    · subst hji
      rw [hself]
      exact M.nodeInv_step (authT_of_log hinv.log) hinv.rules j hst (hinv.node j hj)
    · rw [hoth j hji]
      exact nodeInvO_other (hinv.node j hj) evs (fun e he => by rw [nstep_evs_node hst e he]; exact fun h => hji h.symm)
  exact {
    shape := fun j => by
      by_cases hji : j = i
      · subst hji; rw [hself]; exact hsh
      · rw [hoth j hji]; exact hinv.shape j
    log := fun m hm => (List.mem_append.1 hm).elim (fun h => (hinv.log m h).ext evs)
      (log_step i hi hst (hinv.node i hi) m)
    node := hnode
    rules := step_rules (authT_of_log hinv.log) hst (fun s hs => by have := hinv.node i hi; rwa [hs] at this) hinv.rules
      (fun _ s' hs' => by have := hnode i hi; rw [hself, hs'] at this; exact this) }

theorem inv_step {P : Params} (hP : P.Valid) (σ : Sys P) (hinv : Inv P hP σ) (a : Action P)
    (hen : enabled σ a = true) : Inv P hP (step σ a) := by
  obtain ⟨i, c', outs, evs, hi, he, hsh, hst⟩ := step_nstep hP σ hinv a hen
  rw [he]
  exact inv_update hP σ hinv i hi c' outs evs hsh hst

theorem inv_of_reachable {P : Params} (hP : P.Valid) {σ : Sys P} (h : Reachable σ) : Inv P hP σ := by
  induction h with
  | init => exact inv_init P hP
  | step a _ hen ih => exact inv_step hP _ ih a hen

/-- `Controller.ProcessMsg` returns a decided message only through `UponDecided` (events `G`, `D` of the message), or through
    `UponExistingInstanceMsg` together with the decided broadcast of the aggregate (event `D`) -/
theorem returned_reported {P : Params} (σ : Sys P) (i : Op P) (m d : Msg)
    (h : ((σ.ctrl i).processMsg (P.cfg i) m).res = .ok (some d)) : reported (step σ (.deliver i m)) i d.fullData := by
  refine ⟨d.round, List.mem_append_right _ ?_⟩
  show Ev.D i d.round d.fullData ∈ deliverEvents (P.cfg i) P.height i (σ.ctrl i) ((σ.ctrl i).processMsg (P.cfg i) m) m
  unfold deliverEvents
  rcases ctrlProcessMsg_cases (P.cfg i) (σ.ctrl i) m with ⟨_, _, h3⟩ | ⟨_, _, hdm, _⟩ | ⟨_, e, _, s, hs⟩
  · exact absurd h (h3 d)
  · rw [hdm, h]
    exact List.mem_append_right _ (.tail _ (.head _))
  · rw [e] at h ⊢
    obtain ⟨_, _, hev, hres⟩ := uponExisting_outs i (P.cfg i) (σ.ctrl i) m s hs
    rw [hev, hres d h]
    exact List.mem_append_left _ (List.mem_append_right _ (List.mem_append_right _ (.head _)))

end Ssv.Qbft.B
