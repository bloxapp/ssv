/-
The individual gossip rules implied by the guards of an accepted message (the clauses of C09).
-/
import Ssv.Proofs.ValidationWindow

namespace Ssv.Validation
open Ssv

theorem accept_partial_guards (x : Ctx) (st : State) (i : Input) (m : PMsg) (hb : i.body = .partialSig m)
    (h : (validate x st i).2 = .accept) : ∃ sh, i.share = some sh ∧ PartialOk x st i sh m := by
  obtain ⟨_, sh, hsh, hc⟩ := accept_cases x st i h
  rcases hc with ⟨m', hm', _, _⟩ | ⟨m', hm', _, hok⟩ <;> rw [hb] at hm' <;> cases hm'
  exact ⟨sh, hsh, hok⟩

theorem accept_validRole {x : Ctx} {st : State} {i : Input} (h : (validate x st i).2 = .accept) : validRole i.role = true :=
  (preChecks_ok_spec i (accept_cases x st i h).1).roleOk

/-- the three cases of the `switch`: no signer fails; a single signer is checked against the leader when the message is a
    proposal; several signers need a commit of quorum size -/
theorem signersShape_spec (sh : Share) (m : QMsg) (h : signersShape sh m = .ok ()) :
    (m.signers.length = 1 ∨
      (m.mtype = Gen.val_CommitMsgType ∧ sh.quorum ≤ m.signers.length ∧ m.signers.length ≤ sh.committee.length)) ∧
    (m.mtype = Gen.val_ProposalMsgType → ∀ s, m.signers = [s] → roundRobinProposer sh.committee m.height m.round = .ok s) := by
  unfold signersShape at h
  split at h
  · cases h
  · rename_i s hs
    refine ⟨.inl (by rw [hs]; rfl), fun hp s' hs' => ?_⟩
    obtain rfl : s = s' := by rw [hs] at hs'; exact (List.cons.inj hs').1
    rw [if_pos (beq_iff_eq.mpr hp)] at h
    split at h
    · cases h
    · rename_i leader hl
      rw [hl, Decidable.not_not.mp (rejectIf_decide_ok.mp h)]
  · rename_i hs
    split at h
    · cases h
    · rename_i hc
      rw [rejectIf_ok_iff, Bool.or_eq_false_iff, Bool.not_eq_eq_eq_not, Bool.not_false, decide_eq_false_iff_not] at h
      refine ⟨.inr ⟨by simpa using hc, of_decide_eq_true h.1, Nat.le_of_not_gt h.2⟩, fun _ s hs' => ?_⟩
      rw [hs] at hs'
      cases hs'

theorem validConsensusSigners_shape (sh : Share) (m : QMsg) (h : validConsensusSigners sh m = .ok ()) :
    signersShape sh m = .ok () := by
  unfold validConsensusSigners at h
  exact (firstFail_ok_iff _).mp h _ List.mem_cons_self

theorem envSigCheck_ok_iff (e : EnvSig) : envSigCheck e = .ok () ↔ e = .none ∨ e = .valid := by
  cases e <;> simp [envSigCheck, ok, failT]

theorem signatureFormat_ok_iff (l : Nat) (z : Bool) : signatureFormat l z = .ok () ↔ l = Gen.val_signatureSize ∧ z = false := by
  unfold signatureFormat
  rw [firstFail_cons_ok_iff, firstFail_cons_ok_iff, rejectIf_ok_iff, bne_eq_false_iff_eq]
  constructor
  · rintro ⟨rfl, h, _⟩
    exact ⟨rfl, (rejectIf_ok_iff _ _).mp h⟩
  · rintro ⟨rfl, rfl⟩
    exact ⟨rfl, rfl, rfl⟩

theorem validateSlotTime_ok_spec (c : NetCfg) (slot role : Nat) (now : GoTime) (h : validateSlotTime c slot role now = .ok ()) :
    earlyMessage c slot now = false ∧ ¬ (lateMessage c slot role now > 0) := by
  simp only [validateSlotTime, firstFail_cons_ok_iff, rejectIf_ok_iff, decide_eq_false_iff_not] at h
  obtain ⟨hearly, hlate, _⟩ := h
  exact ⟨hearly, hlate⟩

/-- the roles that run consensus have a time-to-live of 34 slots (attester, aggregator) or 3 slots -/
theorem lateTtl_cases (role : Nat) (hv : validRole role = true)
    (hn : (role == Gen.val_BNRoleValidatorRegistration || role == Gen.val_BNRoleVoluntaryExit) = false) :
    ∃ ttl, lateTtl role = some ttl ∧ (ttl = 3 ∨ ttl = 34) := by
  have h6 := (validRole_iff role).mp hv
  simp only [g_roleVR, g_roleVE, Bool.or_eq_false_iff, beq_eq_false_iff_ne] at hn
  rcases (by omega : role = 0 ∨ role = 1 ∨ role = 2 ∨ role = 3 ∨ role = 4) with rfl | rfl | rfl | rfl | rfl <;>
    exact ⟨_, rfl, by decide⟩

theorem validateBeaconDuty_spec (x : Ctx) (role slot : Nat) (sh : Share) (h : validateBeaconDuty x role slot sh = .ok ()) :
    (role = Gen.val_BNRoleProposer → x.duties.proposer.contains ((epochAtSlot x.cfg slot).toNat, slot, sh.index) = true) ∧
    ((role = Gen.val_BNRoleSyncCommittee ∨ role = Gen.val_BNRoleSyncCommitteeContribution) →
      x.duties.sync.contains ((periodAtEpoch x.cfg (epochAtSlot x.cfg slot)).toNat, sh.index) = true) := by
  unfold validateBeaconDuty at h
  refine ⟨fun hr => ?_, fun hr => ?_⟩
  · rw [if_pos (beq_iff_eq.mpr hr), firstFail_cons_ok_iff, firstFail_cons_ok_iff] at h
    obtain ⟨_, hduty, _⟩ := h
    exact rejectIf_not_ok.mp hduty
  · rw [if_neg (by rcases hr with rfl | rfl <;> decide), if_pos (by rcases hr with rfl | rfl <;> rfl), firstFail_cons_ok_iff,
      firstFail_cons_ok_iff] at h
    obtain ⟨_, hduty, _⟩ := h
    exact rejectIf_not_ok.mp hduty

theorem validateJustifications_spec (m : QMsg) (h : validateJustifications m = .ok ()) :
    m.pjMalformed = false ∧ m.rcjMalformed = false ∧
    (m.mtype ≠ Gen.val_ProposalMsgType → m.pjLen = 0) ∧
    (m.mtype ≠ Gen.val_ProposalMsgType → m.mtype ≠ Gen.val_RoundChangeMsgType → m.rcjLen = 0) ∧
    (m.mtype = Gen.val_ProposalMsgType → m.justOk = true) := by
  simp only [validateJustifications, firstFail_cons_ok_iff, rejectIf_ok_iff] at h
  obtain ⟨h1, h2, h3, h4, h5, _⟩ := h
  refine ⟨h1, h3, fun hne => ?_, fun hne1 hne2 => ?_, fun he => ?_⟩
  · rw [bne_iff_ne.mpr hne, Bool.and_true] at h2
    exact Decidable.not_not.mp (of_decide_eq_false h2)
  · rw [bne_iff_ne.mpr hne1, bne_iff_ne.mpr hne2, Bool.and_true, Bool.and_true] at h4
    exact Decidable.not_not.mp (of_decide_eq_false h4)
  · rw [beq_iff_eq.mpr he] at h5
    simpa using h5

theorem partialItemLoop_spec (sh : Share) (signer : Nat) (l : List PItem) : ∀ seen, partialItemLoop sh signer seen l = .ok () →
    (∀ it ∈ l, it.signer = signer ∧ it.sigLen = 96 ∧ it.sigZero = false) ∧ (∀ it ∈ l, it.root ∉ seen) ∧
    (l.map (·.root)).Nodup := by
  induction l with
  | nil => intro _ _; exact ⟨nofun, nofun, .nil⟩
  | cons it rest ih =>
    intro seen h
    simp only [partialItemLoop, firstFail_cons_ok_iff, rejectIf_ok_iff, signatureFormat_ok_iff] at h
    obtain ⟨hseen, hsigner, _, hsig, hrest, _⟩ := h
    -- the rest of the loop runs with this item's root among the roots seen
    obtain ⟨r1, r2, r3⟩ := ih _ hrest
    refine ⟨List.forall_mem_cons.mpr ⟨⟨by simpa using hsigner, hsig⟩, r1⟩,
      List.forall_mem_cons.mpr ⟨by simpa using hseen, fun it' he hm => r2 it' he (List.mem_cons_of_mem _ hm)⟩,
      List.nodup_cons.mpr ⟨fun hm => ?_, r3⟩⟩
    obtain ⟨it', hit', he⟩ := List.mem_map.mp hm
    exact r2 it' hit' (he ▸ List.mem_cons_self)

theorem validatePartialMessages_spec (sh : Share) (m : PMsg) (h : validatePartialMessages sh m = .ok ()) :
    m.signer ≠ 0 ∧ m.signer ∈ sh.committee ∧ m.msgs ≠ [] ∧
    (∀ it ∈ m.msgs, it.signer = m.signer ∧ it.sigLen = 96 ∧ it.sigZero = false) ∧ (m.msgs.map (·.root)).Nodup := by
  simp only [validatePartialMessages, firstFail_cons_ok_iff, rejectIf_ok_iff] at h
  obtain ⟨h1, h2, h3, _⟩ := h
  obtain ⟨a, b⟩ := commonSigner_ok sh m.signer h1
  obtain ⟨l1, _, l2⟩ := partialItemLoop_spec sh m.signer m.msgs [] h3
  exact ⟨a, b, (fun hn => by rw [hn] at h2; cases h2), l1, l2⟩

end Ssv.Validation
