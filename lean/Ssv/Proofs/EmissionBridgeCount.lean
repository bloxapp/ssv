/-
The message-count clause over the whole log of `SystemB`: a correct operator hands to
`Instance.Broadcast` at most ONE prepare and at most ONE commit per round (all schedules, all Byzantine behaviours), and at
most one round-change per round as long as no `UponDecided` moved its round (ghost event `G`).

Why: a prepare goes out only together with a NEW entry of the propose container (one proposal per (round, leader),
`AddFirstMsgForSignerAndRound`, never compacted in `SystemB`); a commit only on the step where the prepare quorum of the
current round is FIRST reached (the prepare container only grows, so that happens once per round); a round-change only for
a round strictly above the current one, and without `G` the round never decreases.
-/
import Ssv.Proofs.EmissionBridgeSys
set_option linter.unusedSimpArgs false
set_option linter.unusedVariables false

namespace Ssv.Emission
open Ssv Ssv.Qbft Ssv.Qbft.B

def sentRounds {P : Params} (i : Op P) (t : Nat) (log : List Msg) : List Nat :=
  (log.filter (fun x => x.signers == [opId i] && x.type == t)).map (·.round)

section
variable {P : Params} (i : Op P) (t : Nat)

theorem sentRounds_append (a b : List Msg) :
    sentRounds i t (a ++ b) = sentRounds i t a ++ sentRounds i t b := by
  simp [sentRounds, List.filter_append]

theorem mem_sentRounds (r : Nat) (l : List Msg) :
    r ∈ sentRounds i t l ↔ ∃ x ∈ l, x.signers = [opId i] ∧ x.type = t ∧ x.round = r := by
  unfold sentRounds
  simp only [List.mem_map, List.mem_filter, Bool.and_eq_true, beq_iff_eq]
  constructor
  · rintro ⟨x, ⟨hx, h1, h2⟩, h3⟩; exact ⟨x, hx, h1, h2, h3⟩
  · rintro ⟨x, hx, h1, h2, h3⟩; exact ⟨x, ⟨hx, h1, h2⟩, h3⟩

theorem sentRounds_none (l : List Msg)
    (h : ∀ x ∈ l, ¬ (x.signers = [opId i] ∧ x.type = t)) : sentRounds i t l = [] := by
  apply List.eq_nil_iff_forall_not_mem.2
  intro r hr
  obtain ⟨x, hx, h1, h2, _⟩ := (mem_sentRounds i t r l).1 hr
  exact h x hx ⟨h1, h2⟩

theorem sentRounds_append_proposals (ht : t = tPrepare ∨ t = tCommit ∨ t = tRoundChange) (log : List Msg)
    {bs : List Msg} (hbs : ∀ x ∈ bs, x.type = tProposal) : sentRounds i t (log ++ bs) = sentRounds i t log := by
  rw [sentRounds_append, sentRounds_none i t bs, List.append_nil]
  rintro x hx ⟨_, h2⟩
  rw [hbs x hx] at h2
  rcases ht with ht | ht | ht <;> exact absurd (h2.trans ht) (by decide)

theorem sentRounds_single (x : Msg) (h1 : x.signers = [opId i]) (h2 : x.type = t) :
    sentRounds i t [x] = [x.round] := by
  simp [sentRounds, h1, h2]

end

theorem sentRounds_nil {P : Params} (i : Op P) (t : Nat) : sentRounds i t [] = [] := rfl

theorem uniqueCount_mono (a b : List Nat) (h : ∀ x ∈ a, x ∈ b) : uniqueCount a ≤ uniqueCount b := by
  unfold uniqueCount
  apply List.Nodup.length_le_of_subset (uniq_nodup a)
  intro x hx
  exact (uniq_mem b x).2 (h x ((uniq_mem a x).1 hx))

theorem hasQuorum_forRound_append (cfg : Cfg) (c : Container) (m : Msg) (r : Nat)
    (h : cfg.hasQuorum (signersOf (forRound c r)) = true) : cfg.hasQuorum (signersOf (forRound (c ++ [m]) r)) = true := by
  rw [hasQuorum_iff] at h ⊢
  refine Nat.le_trans h (uniqueCount_mono _ _ ?_)
  intro x hx
  simp only [signersOf, forRound, List.mem_flatMap, List.mem_filter, List.filter_append, List.mem_append] at hx ⊢
  obtain ⟨y, hy, hxy⟩ := hx
  exact ⟨y, Or.inl hy, hxy⟩

structure CountInvL {P : Params} (log : List Msg) (T : List (Ev (Op P))) (i : Op P) (os : Option State) : Prop where
  prepares : (sentRounds i tPrepare log).Nodup
  commits : (sentRounds i tCommit log).Nodup
  commitQ : ∀ s, os = some s → ∀ r ∈ sentRounds i tCommit log,
    (P.cfg i).hasQuorum (signersOf (forRound s.prepare r)) = true
  rcs : (∀ rc, Ev.G i rc ∉ T) → (sentRounds i tRoundChange log).Nodup

section
variable {P : Params} {T evs : List (Ev (Op P))} {log : List Msg} {i : Op P}

theorem logOK_own {x : Msg} (h : LogOK P T x) (hs : x.signers = [opId i]) :
    (x.type = tPrepare → Ev.P i x.round x.root ∈ T) ∧ (x.type = tCommit → Ev.K i x.round x.root ∈ T) ∧
    (x.type = tRoundChange → Ev.RC i x.round x.dataRound x.root ∈ T) := by
  obtain ⟨i', _, h2, _, h4, h5, h6⟩ := h
  have : i' = i := by
    rw [hs] at h2
    injection h2 with h2 _
    exact (opId_inj h2).symm
  subst this
  exact ⟨h4, h5, h6⟩

theorem sent_none_of_noInst {i : Op P}
    (hlog : ∀ m ∈ log, LogOK P T m) (hn : NodeInvO P T i none) (t : Nat)
    (ht : t = tPrepare ∨ t = tCommit ∨ t = tRoundChange) : sentRounds i t log = [] := by
  apply sentRounds_none
  rintro x hx ⟨h1, h2⟩
  obtain ⟨a, b, c⟩ := logOK_own (hlog x hx) h1
  rcases ht with ht | ht | ht
  · exact hn _ (a (h2.trans ht)) rfl
  · exact hn _ (b (h2.trans ht)) rfl
  · exact hn _ (c (h2.trans ht)) rfl

theorem countInvL_of_empty {os : Option State}
    (h1 : sentRounds i tPrepare log = []) (h2 : sentRounds i tCommit log = []) (h3 : sentRounds i tRoundChange log = []) :
    CountInvL log T i os :=
  ⟨(by rw [h1]; exact List.nodup_nil), (by rw [h2]; exact List.nodup_nil),
   (by intro s _ r hr; rw [h2] at hr; cases hr), (by intro _; rw [h3]; exact List.nodup_nil)⟩

theorem noG_of_append (h : ∀ rc, Ev.G i rc ∉ T ++ evs) :
    ∀ rc, Ev.G i rc ∉ T := fun rc hm => h rc (List.mem_append_left _ hm)

theorem countInvL_congr {log' : List Msg} {os : Option State}
    (hc : CountInvL log T i os) (e : ∀ t, sentRounds i t log' = sentRounds i t log) : CountInvL log' (T ++ evs) i os :=
  ⟨e _ ▸ hc.prepares, e _ ▸ hc.commits, fun s hs r hr => hc.commitQ s hs r (e _ ▸ hr),
    fun hg => e _ ▸ hc.rcs (noG_of_append hg)⟩

theorem countInvL_frame {bs : List Msg} {s s' : State}
    (hc : CountInvL log T i (some s))
    (hbs : ∀ x ∈ bs, x.type = tProposal)
    (hp : s'.prepare = s.prepare ∨ ∃ m, s'.prepare = s.prepare ++ [m]) :
    CountInvL (log ++ bs) (T ++ evs) i (some s') := by
  have e : ∀ t, (t = tPrepare ∨ t = tCommit ∨ t = tRoundChange) → sentRounds i t (log ++ bs) = sentRounds i t log :=
    fun t ht => sentRounds_append_proposals i t ht log hbs
  refine ⟨by rw [e _ (Or.inl rfl)]; exact hc.prepares, by rw [e _ (Or.inr (Or.inl rfl))]; exact hc.commits, ?_, ?_⟩
  · intro s0 hs0 r hr
    injection hs0 with hs0
    subst hs0
    rw [e _ (Or.inr (Or.inl rfl))] at hr
    have := hc.commitQ s rfl r hr
    rcases hp with hp | ⟨m, hp⟩
    · rw [hp]; exact this
    · rw [hp]; exact hasQuorum_forRound_append _ _ _ _ this
  · intro hg
    rw [e _ (Or.inr (Or.inr rfl))]
    exact hc.rcs (noG_of_append hg)

theorem sentRounds_snoc (i : Op P) (t : Nat) (log : List Msg) (x : Msg) :
    sentRounds i t (log ++ [x]) = sentRounds i t log ++ if x.signers = [opId i] ∧ x.type = t then [x.round] else [] := by
  rw [sentRounds_append]
  split
  · rename_i h; rw [sentRounds_single i t x h.1 h.2]
  · rename_i h; rw [sentRounds_none i t [x] (fun y hy => by rw [List.mem_singleton.1 hy]; exact h)]

/-- the operator sends ONE message `x` whose round is new among its sent messages of that type (for a round-change: as
    long as no decided message moved its round); a commit is sent for a round that has its prepare quorum -/
theorem countInvL_send {s s' : State} {x : Msg}
    (hc : CountInvL log T i (some s))
    (hnew : (x.type = tRoundChange → ∀ rc, Ev.G i rc ∉ T) → x.round ∉ sentRounds i x.type log)
    (hp : s'.prepare = s.prepare ∨ ∃ m, s'.prepare = s.prepare ++ [m])
    (hq : x.type = tCommit → (P.cfg i).hasQuorum (signersOf (forRound s'.prepare x.round)) = true) :
    CountInvL (log ++ [x]) (T ++ evs) i (some s') := by
  have keep : ∀ t, (sentRounds i t log).Nodup → (x.type = t → x.type = tRoundChange → ∀ rc, Ev.G i rc ∉ T) →
      (sentRounds i t (log ++ [x])).Nodup := by
    intro t hn hg
    rw [sentRounds_snoc]
    split
    · rename_i h
      obtain ⟨_, rfl⟩ := h
      exact List.nodup_append.2 ⟨hn, List.nodup_singleton _,
        fun b hb c hc e => hnew (hg rfl) (List.mem_singleton.1 hc ▸ e ▸ hb)⟩
    · rw [List.append_nil]; exact hn
  refine ⟨keep _ hc.prepares (fun h h' => absurd (h.symm.trans h') (by decide)),
    keep _ hc.commits (fun h h' => absurd (h.symm.trans h') (by decide)), ?_,
    fun hg => keep _ (hc.rcs (noG_of_append hg)) (fun _ _ => noG_of_append hg)⟩
  intro s0 hs0 r hr
  injection hs0 with hs0
  subst hs0
  rw [sentRounds_snoc] at hr
  rcases List.mem_append.1 hr with hr | hr
  · have := hc.commitQ s rfl r hr
    rcases hp with hp | ⟨m, hp⟩ <;> rw [hp]
    · exact this
    · exact hasQuorum_forRound_append _ _ _ _ this
  · split at hr
    · rename_i h
      rw [List.mem_singleton.1 hr]
      exact hq h.2
    · cases hr

/-- `hcommit`: a commit is only broadcast when the current round had no prepare quorum before the step (`Emit.commit`) -/
theorem countInvL_nstep {A : Msg → Prop} {i : Op P}
    {os os' : Option State} {bs : List Msg}
    (hlog : ∀ m ∈ log, LogOK P T m) (hnode : NodeInvO P T i os)
    (hst : NStep (P.cfg i) P.height A i os os' bs evs)
    (hcommit : ∀ x ∈ bs, x.type = tCommit → ∀ s, os = some s →
      (P.cfg i).hasQuorum (signersOf (forRound s.prepare s.round)) = false)
    (hc : CountInvL log T i os) : CountInvL (log ++ bs) (T ++ evs) i os' := by
  have nil : ∀ x ∈ ([] : List Msg), x.type = tProposal := fun x hx => nomatch hx
  have sent : ∀ {t r}, r ∈ sentRounds i t log → ∃ x ∈ log, LogOK P T x ∧ x.signers = [opId i] ∧ x.type = t ∧ x.round = r := by
    intro t r h
    obtain ⟨x, hx, h1, h2, h3⟩ := (mem_sentRounds i _ _ _).1 h
    exact ⟨x, hx, hlog x hx, h1, h2, h3⟩
  cases hst with
  | idle h1 h2 h3 =>
    subst h1 h2 h3
    rw [List.append_nil, List.append_nil]
    exact hc
  | create v h0 h1 h2 h3 =>
    subst h0 h1 h3
    have e : ∀ t, (t = tPrepare ∨ t = tCommit ∨ t = tRoundChange) → sentRounds i t (log ++ bs) = [] := fun t ht =>
      (sentRounds_append_proposals i t ht log (fun x hx => (h2 x hx).1)).trans (sent_none_of_noInst hlog hnode t ht)
    exact countInvL_of_empty (e _ (Or.inl rfl)) (e _ (Or.inr (Or.inl rfl))) (e _ (Or.inr (Or.inr rfl)))
  | createDecided m ha h0 hv hh h1 h2 h3 =>
    subst h0 h1 h2
    rw [List.append_nil]
    exact countInvL_of_empty (sent_none_of_noInst hlog hnode _ (Or.inl rfl))
      (sent_none_of_noInst hlog hnode _ (Or.inr (Or.inl rfl))) (sent_none_of_noInst hlog hnode _ (Or.inr (Or.inr rfl)))
  | adopt _ _ _ h0 _ _ _ h1 h2 | more _ _ _ h0 _ _ _ h1 h2 | com _ _ _ _ h0 _ _ h1 h2 | comQ _ _ _ _ _ h0 _ _ _ _ h1 h2 =>
    subst h0 h1 h2; exact countInvL_frame hc nil (Or.inl rfl)
  | prep s m p ha h0 hacc hv h1 h2 h3 => subst h0 h1 h2; exact countInvL_frame hc nil (Or.inr ⟨m, rfl⟩)
  | rc s X h0 h1 h2 h3 =>
    subst h0 h1
    exact countInvL_frame hc (fun x hx => (h2 x hx).1) (Or.inl rfl)
  | prop s m ha h0 hv hnew h1 h2 h3 =>
    subst h0 h1
    have hn : NodeInv P T i s := hnode
    rcases h2 with h2 | h2 <;> subst h2
    · exact countInvL_frame hc nil (Or.inl rfl)
    · refine countInvL_send hc (fun _ hr => ?_) (Or.inl rfl) (fun h => absurd h (by show tPrepare ≠ tCommit; decide))
      -- an earlier prepare of this round would mean a stored proposal of this round from the same leader
      obtain ⟨x, _, hx, hx1, hx2, hx3⟩ := sent hr
      obtain ⟨hevP, _, _⟩ := logOK_own hx hx1
      obtain ⟨q, hq, hqr, _⟩ := hn.evProp _ _ (hevP hx2)
      have hqm : q.round = m.round := hqr.trans hx3
      have hms := hnew q hq hqm
      obtain ⟨l, hl, hls⟩ := (hn.propGood q hq).leader
      obtain ⟨l', hl', hls'⟩ := (isValidProposal_ok _ s m () hv).leader
      rw [hn.height, ← hqm, hl] at hl'
      injection hl' with hl'
      rw [hls, hls', hl', matchedSigners_self] at hms
      cases hms
  | prepQ s m p ha h0 hacc hv hq h1 h2 =>
    subst h0 h1
    rcases h2 with ⟨h2, _⟩ | ⟨h2, _⟩ <;> subst h2
    · exact countInvL_frame hc nil (Or.inr ⟨m, rfl⟩)
    · refine countInvL_send hc (fun _ hr => ?_) (Or.inr ⟨m, rfl⟩) (fun _ => hq)
      -- an earlier commit of this round would mean the round had its prepare quorum before
      have := hc.commitQ s rfl s.round hr
      rw [hcommit _ List.mem_cons_self rfl s rfl] at this
      cases this
  | jump s X R h0 hR h1 h2 =>
    subst h0 h1
    have hn : NodeInv P T i s := hnode
    rcases h2 with ⟨h2, _⟩ | ⟨h2, _⟩ <;> subst h2
    · exact countInvL_frame hc nil (Or.inl rfl)
    · refine countInvL_send hc (fun hg hr => ?_) (Or.inl rfl)
        (fun h => absurd ((createRoundChange_type _ s R).symm.trans h) (by decide))
      -- an earlier round-change was for a round ≤ the current one, unless a decided message moved the round since
      rw [createRoundChange_type, createRoundChange_round] at hr
      obtain ⟨x, _, hx, hx1, hx2, hx3⟩ := sent hr
      obtain ⟨_, _, hevRC⟩ := logOK_own hx hx1
      obtain ⟨k1, hk1⟩ := List.getElem?_of_mem (hevRC hx2)
      rcases hn.rcRound k1 _ _ _ hk1 with h | ⟨g, rc, _, hgm, _⟩
      · exact absurd (hx3 ▸ h) (Nat.not_le_of_lt hR)
      · exact hg (createRoundChange_type _ s R) rc (getElem?_mem' hgm)

end

theorem step_commit_first {P : Params} (hP : P.Valid) {σ : Sys P} (hinv : Inv P hP σ) (a : Action P)
    (hen : enabled σ a = true) (x : Msg) (hx : x ∈ bcasts (stepOuts σ a)) (hty : x.type = tCommit) (s : State)
    (hs : instAt P.height (σ.ctrl (actor a)) = some s) :
    (P.cfg (actor a)).hasQuorum (signersOf (forRound s.prepare s.round)) = false := by
  rcases step_bcast_cases hP hinv a hen x ((mem_bcasts _ _).1 hx) with
    ⟨i, v, rfl, _, hb⟩ | ⟨i, m, s', rfl, hi, he⟩ | ⟨i, r, s', rfl, _, rfl⟩
  · obtain ⟨hprop, _⟩ := start_bcast _ _ _ _ x hb
    rw [hprop] at hty
    exact absurd hty (by show tProposal ≠ tCommit; decide)
  · have hs : instAt P.height (σ.ctrl i) = some s := hs
    rw [hi] at hs
    injection hs with hs
    subst hs
    obtain ⟨_, _, hb, _⟩ := (emit_byType he).commit hty
    exact hb
  · rw [createRoundChange_type] at hty
    exact absurd hty (by decide)

theorem nstep_evs_own {N : Type} {cfg : Cfg} {h : Nat} {A : Msg → Prop} {i : N} {os os' : Option State}
    {bs : List Msg} {evs : List (Ev N)} (hst : NStep cfg h A i os os' bs evs) : ∀ e ∈ evs, e.node = i :=
  fun e he => nstep_evs_node hst e he

/-- MESSAGE COUNTS: in every reachable state of `SystemB`, every correct operator has handed to `Instance.Broadcast` at
    most one prepare per round, at most one commit per round, and — unless `UponDecided` ever moved its round — at most
    one round-change per round -/
theorem countInv_of_reachable {P : Params} (hP : P.Valid) {σ : Sys P} (h : Reachable σ) :
    ∀ i, P.honest i = true → CountInvL σ.log σ.trace i (instAt P.height (σ.ctrl i)) := by
  induction h with
  | init =>
    intro i _
    exact countInvL_of_empty rfl rfl rfl
  | step a hr hen ih =>
    rename_i σ0
    have hinv := inv_of_reachable hP hr
    obtain ⟨evs, hi, he, hst⟩ := step_nstepE hP σ0 hinv a hen (fun _ => True) (fun _ _ _ => trivial)
    have htr : (step σ0 a).trace = σ0.trace ++ evs := by rw [he]; rfl
    intro j hj
    rw [step_log, htr, step_ctrl]
    split
    · rename_i hji
      subst hji
      exact countInvL_nstep hinv.log (hinv.node _ hj) hst
        (fun x hx hty s hs => step_commit_first hP hinv a hen x hx hty s hs) (ih _ hj)
    · rename_i hji
      -- the new messages are signed by the actor alone
      refine countInvL_congr (ih j hj) (fun t => ?_)
      rw [sentRounds_append, sentRounds_none j t (bcasts (stepOuts σ0 a)), List.append_nil]
      rintro x hx ⟨h1, _⟩
      have h2 : x.signers = [opId (actor a)] := by
        rcases step_bcast_cases hP hinv a hen x ((mem_bcasts _ _).1 hx) with
          ⟨i, v, rfl, _, hb⟩ | ⟨i, m, s, rfl, _, he⟩ | ⟨i, r, s, rfl, _, rfl⟩
        · obtain ⟨hprop, _⟩ := start_bcast _ _ _ _ x hb
          rw [hprop]; rfl
        · exact emit_signer he
        · exact createRoundChange_signers _ s _
      rw [h1] at h2
      injection h2 with h2 _
      exact hji (opId_inj h2)

end Ssv.Emission
