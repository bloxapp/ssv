/-
Blocks and streams seen from the wallet and the decided history (property C12): both are folds over the handler steps
of a block; for a share key the last key-manager call decides, cleaning the history is idempotent; nodes that agree
up to record ids (`SameNode`) process a stream alike. Core Lean only.
-/
import Ssv.Proofs.RegistryWallet

namespace Ssv.Registry

def walRun (w : Wal) (l : List Step) : Wal := l.foldl walStep w
def histRun (h : Hist) (l : List Step) : Hist := l.foldl stepHist h

theorem runMacro_append (n : Node) (a b : List Step) : runMacro n (a ++ b) = runMacro (runMacro n a) b := by
  induction a generalizing n with
  | nil => rfl
  | cons s a ih => simp only [List.cons_append, runMacro, ih]

theorem runMacro_wal (n : Node) (l : List Step) : (runMacro n l).wal = walRun n.wal l := by
  induction l generalizing n with
  | nil => rfl
  | cons s l ih =>
    simp only [runMacro, ih, walRun, List.foldl_cons, runSteps_wal]
    rfl

theorem runMacro_db (n : Node) (l : List Step) (hl : ∀ s ∈ l, s.handler = true) : (runMacro n l).reg.db = n.reg.db := by
  rw [runMacro_reg]; exact (foldl_stepReg_handler_db n.reg l hl).1

theorem walRun_append (w : Wal) (a b : List Step) : walRun w (a ++ b) = walRun (walRun w a) b :=
  List.foldl_append

theorem histRun_append (h : Hist) (a b : List Step) : histRun h (a ++ b) = histRun (histRun h a) b :=
  List.foldl_append

theorem walRun_sane {w : Wal} (l : List Step) (hl : ∀ s ∈ l, s.handler = true) (h : Sane w) : Sane (walRun w l) := by
  induction l generalizing w with
  | nil => exact h
  | cons s l ih =>
    exact ih (fun s hs => hl s (List.mem_cons_of_mem _ hs)) (walStep_spec h s (hl s List.mem_cons_self)).1

/-- handler steps executed by the events of a block, in order (a panic ends the block) -/
def eventsMacros (me blk : Nat) : RegMem → List Event → List Step
  | _, [] => []
  | r, e :: es =>
    (regSteps me blk (viewOf r) e).1 ++
      (if (regOutcome me blk r e).isPanic then [] else eventsMacros me blk (regEvent me blk r e) es)

theorem eventsMacros_handler (me blk : Nat) (r : RegMem) (es : List Event) :
    ∀ s ∈ eventsMacros me blk r es, s.handler = true := by
  induction es generalizing r with
  | nil => intro s hs; cases hs
  | cons e es ih =>
    intro s hs
    simp only [eventsMacros, List.mem_append] at hs
    rcases hs with hs | hs
    · exact regSteps_handler me blk _ e s hs
    · split at hs
      · cases hs
      · exact ih _ s hs

theorem runEvents_eq_runMacro (me blk : Nat) (n : Node) (es : List Event) :
    (runEvents me blk n es).1 = runMacro n (eventsMacros me blk n.reg es) := by
  induction es generalizing n with
  | nil => rfl
  | cons e es ih =>
    simp only [runEvents, eventsMacros, applyEvent_outcome]
    by_cases hp : (regOutcome me blk n.reg e).isPanic = true
    · simp [hp, applyEvent]
    · simp only [hp, Bool.false_eq_true, ↓reduceIte]
      rw [ih, runMacro_append, applyEvent_reg]
      rfl

/-- handler steps executed by a block (none for a refused block) -/
def blockMacros (me : Nat) (r : RegMem) (b : Block) : List Step :=
  if decide (r.db.marker.getD 0 ≥ b.number) then [] else eventsMacros me b.number (beginReg r) b.events

theorem blockMacros_handler (me : Nat) (r : RegMem) (b : Block) : ∀ s ∈ blockMacros me r b, s.handler = true := by
  unfold blockMacros
  split
  · intro s hs; cases hs
  · exact eventsMacros_handler me b.number _ b.events

theorem blockMacros_of_not_inferior {me : Nat} {n : Node} {b : Block} (hinf : inferior n b = false) :
    blockMacros me n.reg b = eventsMacros me b.number (beginReg n.reg) b.events :=
  if_neg (Bool.eq_false_iff.1 hinf)

theorem beginTxn_wal_hist (n : Node) : (beginTxn n).wal = n.wal ∧ (beginTxn n).hist = n.hist := ⟨rfl, rfl⟩

theorem commit_hist (n : Node) (m : Nat) : (runSteps n [.putMarker m, .commit]).hist = n.hist := rfl

theorem applyBlock_wal_hist (me : Nat) (n : Node) (b : Block) :
    (applyBlock me n b).1.wal = walRun n.wal (blockMacros me n.reg b) ∧
    (applyBlock me n b).1.hist = histRun n.hist (blockMacros me n.reg b) := by
  by_cases hi : decide (n.reg.db.marker.getD 0 ≥ b.number) = true
  · rw [applyBlock, inferior, if_pos hi, blockMacros, if_pos hi]; exact ⟨rfl, rfl⟩
  · rw [applyBlock, inferior, if_neg hi, blockMacros, if_neg hi]
    rw [← (beginTxn_wal_hist n).1, ← (beginTxn_wal_hist n).2, ← beginTxn_reg, histRun, ← runMacro_wal, ← runMacro_hist,
      ← runEvents_eq_runMacro]
    dsimp only
    split
    · exact ⟨rfl, rfl⟩
    · exact ⟨commit_wal _ _, commit_hist _ _⟩

theorem applyBlock_sane (me : Nat) (n : Node) (b : Block) (h : Sane n.wal) : Sane (applyBlock me n b).1.wal :=
  (applyBlock_wal_hist me n b).1 ▸ walRun_sane _ (blockMacros_handler me n.reg b) h

theorem applyBlock_ok_marker (me : Nat) (n : Node) (b : Block) (hok : (applyBlock me n b).2.1 = .ok) :
    (applyBlock me n b).1.reg.db.marker = some b.number := by
  rw [(applyBlock_ok_eq me n b hok).2.2, commit_reg]; rfl

theorem applyBlock_db_of_not_ok (me : Nat) (n : Node) (b : Block) (h : (applyBlock me n b).2.1 ≠ .ok) :
    (applyBlock me n b).1.reg.db = n.reg.db := by
  by_cases hi : inferior n b = true
  · rw [applyBlock, if_pos hi]
  · simp only [applyBlock, hi, Bool.false_eq_true, ↓reduceIte] at h ⊢
    split
    · show (runEvents me b.number (beginTxn n) b.events).1.reg.db = n.reg.db
      rw [runEvents_eq_runMacro]
      exact runMacro_db _ _ (eventsMacros_handler me b.number _ b.events)
    · rename_i hp
      rw [if_neg hp] at h
      exact absurd rfl h

/-- is the key stored after the handler steps `l`, if `b` says whether it was stored before -/
def memAfter (l : List Step) (b : Prop) (k : Nat) : Prop := l.foldl (fun b s => memStep s k b) b

/-- a step decides the key its key-manager call is about and leaves every other key alone -/
theorem memStep_iff (s : Step) (k : Nat) (b : Prop) :
    memStep s k b ↔ if s.kmKey = some k then s = .kmAdd k else b := by
  cases s with
  | kmAdd k0 =>
    by_cases e : k0 = k
    · simp [memStep, Step.kmKey, e]
    · simp [memStep, Step.kmKey, e, Ne.symm e]
  | kmRemove k0 =>
    by_cases e : k0 = k
    · simp [memStep, Step.kmKey, e]
    · simp [memStep, Step.kmKey, e, Ne.symm e]
  | _ => exact Iff.rfl

theorem memStep_touched {s : Step} {k : Nat} (hs : s.kmKey = some k) (b b' : Prop) : memStep s k b ↔ memStep s k b' := by
  rw [memStep_iff, memStep_iff, if_pos hs, if_pos hs]

theorem memStep_untouched {s : Step} {k : Nat} (hs : s.kmKey ≠ some k) (b : Prop) : memStep s k b ↔ b := by
  rw [memStep_iff, if_neg hs]

theorem memStep_congr (s : Step) (k : Nat) {b b' : Prop} (h : b ↔ b') : memStep s k b ↔ memStep s k b' := by
  by_cases hs : s.kmKey = some k
  · exact memStep_touched hs b b'
  · exact (memStep_untouched hs b).trans (h.trans (memStep_untouched hs b').symm)

theorem memAfter_congr (l : List Step) (k : Nat) {b b' : Prop} (h : b ↔ b') : memAfter l b k ↔ memAfter l b' k := by
  induction l generalizing b b' with
  | nil => exact h
  | cons s l ih => exact ih (memStep_congr s k h)

theorem memAfter_append (a l : List Step) (b : Prop) (k : Nat) :
    memAfter (a ++ l) b k ↔ memAfter l (memAfter a b k) k := by
  unfold memAfter; rw [List.foldl_append]

theorem memAfter_touched (l : List Step) (k : Nat) (ht : some k ∈ l.map Step.kmKey) (b b' : Prop) :
    memAfter l b k ↔ memAfter l b' k := by
  induction l generalizing b b' with
  | nil => cases ht
  | cons s l ih =>
    by_cases hs : s.kmKey = some k
    · exact memAfter_congr l k (memStep_touched hs b b')
    · exact ih ((List.mem_cons.1 ht).resolve_left (Ne.symm hs)) _ _

theorem memAfter_untouched (l : List Step) (k : Nat) (hn : some k ∉ l.map Step.kmKey) (b : Prop) :
    memAfter l b k ↔ b := by
  induction l generalizing b with
  | nil => exact Iff.rfl
  | cons s l ih =>
    have hn' := not_or.1 (fun h => hn (List.mem_cons.2 h))
    exact (ih hn'.2 _).trans (memStep_untouched (Ne.symm hn'.1) b)

theorem memAfter_idem (l : List Step) (b : Prop) (k : Nat) : memAfter l (memAfter l b k) k ↔ memAfter l b k := by
  by_cases ht : some k ∈ l.map Step.kmKey
  · exact memAfter_touched l k ht _ _
  · exact memAfter_untouched l k ht _

theorem walRun_mem {w : Wal} (l : List Step) (hl : ∀ s ∈ l, s.handler = true) (h : Sane w) (k : Nat) :
    k ∈ keysOf (walRun w l) ↔ memAfter l (k ∈ keysOf w) k := by
  induction l generalizing w with
  | nil => exact Iff.rfl
  | cons s l ih =>
    obtain ⟨hsane, hkeys⟩ := walStep_spec h s (hl s List.mem_cons_self)
    exact (ih (fun s hs => hl s (List.mem_cons_of_mem _ hs)) hsane).trans (memAfter_congr l k (hkeys k))

/-- Re-executing a block absorbs what an interrupted execution of it left in the wallet: if `w'` agrees with the
    wallet after the first steps `l1` except on keys that the remaining steps `r` touch anyway, then executing all
    the steps from `w'` stores exactly the same keys as executing them from the original wallet. -/
theorem walRun_absorb {w w' : Wal} (l1 r : List Step) (hl : ∀ s ∈ l1 ++ r, s.handler = true) (h : Sane w) (h' : Sane w')
    (hag : ∀ k, (k ∈ keysOf w' ↔ k ∈ keysOf (walRun w l1)) ∨ some k ∈ r.map Step.kmKey) (k : Nat) :
    k ∈ keysOf (walRun w' (l1 ++ r)) ↔ k ∈ keysOf (walRun w (l1 ++ r)) := by
  rw [walRun_mem _ hl h', walRun_mem _ hl h, memAfter_append, memAfter_append]
  rcases hag k with hk | hk
  · rw [walRun_mem _ (fun s hs => hl s (List.mem_append_left _ hs)) h] at hk
    exact memAfter_congr r k ((memAfter_congr l1 k hk).trans (memAfter_idem l1 _ k))
  · exact memAfter_touched r k hk _ _

/-- two sane wallets with the same keys keep the same keys under the same handler steps -/
theorem walRun_congr {w w' : Wal} (l : List Step) (hl : ∀ s ∈ l, s.handler = true) (h : Sane w) (h' : Sane w')
    (hk : ∀ k, k ∈ keysOf w' ↔ k ∈ keysOf w) (k : Nat) : k ∈ keysOf (walRun w' l) ↔ k ∈ keysOf (walRun w l) := by
  rw [walRun_mem _ hl h', walRun_mem _ hl h]
  exact memAfter_congr l k (hk k)

/-- does the step leave validator `x` in the list of stored instances / of highest instances? -/
def Step.keepInst (s : Step) (x : Nat) : Bool :=
  match s with
  | .cleanInst pk => x != pk
  | _ => true

def Step.keepHigh (s : Step) (x : Nat) : Bool :=
  match s with
  | .cleanHigh pk => x != pk
  | _ => true

theorem hist_filter_true (h : Hist) (p q : Nat → Bool) (hp : ∀ x, p x = true) (hq : ∀ x, q x = true) :
    h = { inst := h.inst.filter p, high := h.high.filter q } :=
  congr (congrArg Hist.mk (List.filter_eq_self.2 fun x _ => hp x).symm) (List.filter_eq_self.2 fun x _ => hq x).symm

theorem stepHist_eq (h : Hist) (s : Step) :
    stepHist h s = { inst := h.inst.filter s.keepInst, high := h.high.filter s.keepHigh } := by
  cases s with
  | cleanInst pk => exact congrArg (Hist.mk _) (List.filter_eq_self.2 fun _ _ => rfl).symm
  | cleanHigh pk => exact congrArg (Hist.mk · _) (List.filter_eq_self.2 fun _ _ => rfl).symm
  | _ => exact hist_filter_true h _ _ (fun _ => rfl) (fun _ => rfl)

theorem histRun_eq (h : Hist) (l : List Step) :
    histRun h l = { inst := h.inst.filter (fun x => l.all (·.keepInst x)),
                    high := h.high.filter (fun x => l.all (·.keepHigh x)) } := by
  induction l generalizing h with
  | nil => exact hist_filter_true h _ _ (fun _ => rfl) (fun _ => rfl)
  | cons s l ih =>
    show histRun (stepHist h s) l = _
    rw [ih, stepHist_eq]
    simp only [List.filter_filter, List.all_cons, Bool.and_comm]

theorem histRun_idem (h : Hist) (l : List Step) : histRun (histRun h l) l = histRun h l := by
  rw [histRun_eq (histRun h l), histRun_eq h l]
  simp only [List.filter_filter, Bool.and_self]

/-- re-executing the steps of a block absorbs the cleaning an interrupted execution already did -/
theorem histRun_absorb (h : Hist) (l1 r : List Step) : histRun (histRun h l1) (l1 ++ r) = histRun h (l1 ++ r) := by
  rw [histRun_append h, histRun_append (histRun h l1), histRun_idem]

/-- What C12 compares: the registry (database and memory: shares, operators, recipients with nonces, marker, own
    operator id), the decided history, and the stored key shares as a set (record ids — UUIDs in the code — are not
    compared; both wallets are sane, so no key is stored twice). -/
structure SameNode (x y : Node) : Prop where
  reg : x.reg = y.reg
  hist : x.hist = y.hist
  keys : ∀ k, k ∈ keysOf x.wal ↔ k ∈ keysOf y.wal
  saneL : Sane x.wal
  saneR : Sane y.wal

theorem SameNode.refl {x : Node} (h : Sane x.wal) : SameNode x x := ⟨rfl, rfl, fun _ => Iff.rfl, h, h⟩

theorem SameNode.trans {x y z : Node} (h1 : SameNode x y) (h2 : SameNode y z) : SameNode x z :=
  ⟨h1.reg.trans h2.reg, h1.hist.trans h2.hist, fun k => (h1.keys k).trans (h2.keys k), h1.saneL, h2.saneR⟩

/-- every key is stored equally often (once or not at all) on both sides -/
theorem SameNode.count {x y : Node} (h : SameNode x y) (key : Nat) :
    (keysOf x.wal).count key = (keysOf y.wal).count key := by
  rw [(keysOf_nodup h.saneL.dsane).count, (keysOf_nodup h.saneR.dsane).count]
  by_cases hm : key ∈ keysOf x.wal
  · rw [if_pos hm, if_pos ((h.keys key).1 hm)]
  · rw [if_neg hm, if_neg (mt (h.keys key).2 hm)]

/-- after the stream has been processed: was it processed completely, and `SameNode` -/
structure SameOutcome (x y : Node × Bool) : Prop where
  ok : x.2 = y.2
  node : SameNode x.1 y.1

theorem SameOutcome.trans {x y z : Node × Bool} (h1 : SameOutcome x y) (h2 : SameOutcome y z) : SameOutcome x z :=
  ⟨h1.ok.trans h2.ok, h1.node.trans h2.node⟩

/-- two nodes with the same registry, whose wallets and histories are such that the handler steps of the block lead
    to the same stored keys and the same history: they agree after the block -/
theorem applyBlock_same (me : Nat) (n n' : Node) (b : Block) (hreg : n'.reg = n.reg) (hS : Sane n.wal) (hS' : Sane n'.wal)
    (hk : ∀ k, k ∈ keysOf (walRun n'.wal (blockMacros me n.reg b)) ↔ k ∈ keysOf (walRun n.wal (blockMacros me n.reg b)))
    (hh : histRun n'.hist (blockMacros me n.reg b) = histRun n.hist (blockMacros me n.reg b)) :
    (applyBlock me n' b).2.1 = (applyBlock me n b).2.1 ∧ SameNode (applyBlock me n' b).1 (applyBlock me n b).1 := by
  have a := applyBlock_reg me n b
  have a' := applyBlock_reg me n' b
  obtain ⟨hwal, hhist⟩ := applyBlock_wal_hist me n b
  obtain ⟨hwal', hhist'⟩ := applyBlock_wal_hist me n' b
  rw [hreg] at a' hwal' hhist'
  refine ⟨a'.2.trans a.2.symm, a'.1.trans a.1.symm, hhist'.trans (hh.trans hhist.symm), ?_,
    applyBlock_sane me n' b hS', applyBlock_sane me n b hS⟩
  rw [hwal', hwal]; exact hk

/-- a stream goes on after its first block iff that block is processed; agreement after the block carries over -/
theorem run_cons_same (me : Nat) (n n' : Node) (b : Block) (rest : List Block)
    (hst : (applyBlock me n' b).2.1 = (applyBlock me n b).2.1) (hnode : SameNode (applyBlock me n' b).1 (applyBlock me n b).1)
    (ih : SameOutcome (run me (applyBlock me n' b).1 rest) (run me (applyBlock me n b).1 rest)) :
    SameOutcome (run me n' (b :: rest)) (run me n (b :: rest)) := by
  rw [run, run, hst]
  cases (applyBlock me n b).2.1 with
  | ok => exact ih
  | refused => exact ⟨rfl, hnode⟩
  | panicked => exact ⟨rfl, hnode⟩

theorem run_same (me : Nat) (bs : List Block) (n n' : Node) (h : SameNode n' n) : SameOutcome (run me n' bs) (run me n bs) := by
  induction bs generalizing n n' with
  | nil => exact ⟨rfl, h⟩
  | cons b bs ih =>
    obtain ⟨hst, hnode⟩ := applyBlock_same me n n' b h.reg h.saneR h.saneL
      (walRun_congr _ (blockMacros_handler me n.reg b) h.saneR h.saneL h.keys) (by rw [h.hist])
    exact run_cons_same me n n' b bs hst hnode (ih _ _ hnode)

/-- sanity of the wallets is a field of `SameNode`, so it rides along `run_same` -/
theorem run_sane (me : Nat) (n : Node) (bs : List Block) (h : Sane n.wal) : Sane (run me n bs).1.wal :=
  (run_same me bs n n (.refl h)).node.saneL

end Ssv.Registry
