/-
For C14. The scan of `pop` returns an admitted item that no admitted item beats; every queue operation permutes the
stored messages up to the message it returns; the standard prioritizer compares five-level keys lexicographically,
so strict precedence is decided at the first level on which two keys differ.
-/
import Ssv.Model.Queue

namespace Ssv.Queue

variable {α : Type}

/-- the accumulator of the scan after it has looked at item `x` at index `i`:
    `selectFrom (x :: xs) i best` is by definition `selectFrom xs (i + 1) (pick x i best)` -/
def pick (prior : α → α → Bool) (adm : α → Bool) (x : α) (i : Nat) (best : Option (Nat × α)) : Option (Nat × α) :=
  if adm x then
    match best with
    | none => some (i, x)
    | some (j, h) => if prior x h then some (i, x) else some (j, h)
  else best

section scan
variable (prior : α → α → Bool) (adm : α → Bool) (x : α) (l : List α) (i : Nat) (best : Option (Nat × α))

theorem pick_cases :
    (adm x = false ∧ pick prior adm x i best = best) ∨
    (adm x = true ∧ pick prior adm x i best = some (i, x) ∧ ∀ j h, best = some (j, h) → prior x h = true) ∨
    (adm x = true ∧ ∃ j h, best = some (j, h) ∧ prior x h = false ∧ pick prior adm x i best = best) := by
  by_cases hx : adm x = true
  · refine Or.inr ?_
    match best with
    | none => exact Or.inl ⟨hx, if_pos hx, fun _ _ hb => nomatch hb⟩
    | some (j, h) =>
      by_cases hp : prior x h = true
      · exact Or.inl ⟨hx, (if_pos hx).trans (if_pos hp), fun _ _ hb => by cases hb; exact hp⟩
      · exact Or.inr ⟨hx, j, h, rfl, Bool.eq_false_iff.mpr hp, (if_pos hx).trans (if_neg hp)⟩
  · exact Or.inl ⟨Bool.eq_false_iff.mpr hx, if_neg hx⟩

variable {prior adm}

/-- the scan returns its initial accumulator (and, if that was empty, nothing in the list is admitted) or an
    admitted item of the list with its index; needs no assumption on `prior` -/
theorem selectFrom_cases :
    (selectFrom prior adm l i best = best ∧ (best = none → ∀ y ∈ l, adm y = false)) ∨
    ∃ k h, l[k]? = some h ∧ adm h = true ∧ selectFrom prior adm l i best = some (i + k, h) := by
  induction l generalizing i best with
  | nil => exact Or.inl ⟨rfl, fun _ _ hy => (nomatch hy)⟩
  | cons x xs ih =>
    rcases ih (i + 1) (pick prior adm x i best) with ⟨hs, hno⟩ | ⟨k, h, hk, ha, hs⟩
    · rcases pick_cases prior adm x i best with ⟨hx, hp⟩ | ⟨hx, hp, _⟩ | ⟨_, _, _, hbest, _, hp⟩
      · exact Or.inl ⟨hs.trans hp, fun hb => List.forall_mem_cons.mpr ⟨hx, hno (hp.trans hb)⟩⟩
      · exact Or.inr ⟨0, x, rfl, hx, hs.trans hp⟩
      · exact Or.inl ⟨hs.trans hp, fun hb => nomatch hbest.symm.trans hb⟩
    · exact Or.inr ⟨k + 1, h, hk, ha, hs.trans (by rw [Nat.add_right_comm, Nat.add_assoc])⟩

/-- for a total preorder the selected item is `Prior` to every admitted item of the list and to the initial
    accumulator: a new best beats the old one, which by transitivity beat everything before it; an item that
    does not beat the best so far is beaten by it, by totality -/
theorem selectFrom_max
    (hrefl : ∀ a, prior a a = true)
    (htot : ∀ a b, prior a b = true ∨ prior b a = true)
    (htr : ∀ a b c, prior a b = true → prior b c = true → prior a c = true)
    (j : Nat) (h : α) (hs : selectFrom prior adm l i best = some (j, h)) :
    (∀ y ∈ l, adm y = true → prior h y = true) ∧ ∀ j0 h0, best = some (j0, h0) → prior h h0 = true := by
  induction l generalizing i best with
  | nil => exact ⟨fun _ hy => (nomatch hy), fun _ _ hb => by cases hb.symm.trans hs; exact hrefl h⟩
  | cons x xs ih =>
    obtain ⟨hxs, hacc⟩ := ih _ _ hs
    rcases pick_cases prior adm x i best with ⟨hx, hp⟩ | ⟨_, hp, hbx⟩ | ⟨_, j1, h1, hbest, hpx, hp⟩
    · refine ⟨List.forall_mem_cons.mpr ⟨fun hax => ?_, hxs⟩, fun j0 h0 hb => hacc j0 h0 (hp.trans hb)⟩
      cases hx.symm.trans hax
    · have hhx := hacc i x hp
      exact ⟨List.forall_mem_cons.mpr ⟨fun _ => hhx, hxs⟩, fun j0 h0 hb => htr _ _ _ hhx (hbx j0 h0 hb)⟩
    · have hh1 := hacc j1 h1 (hp.trans hbest)
      have h1x : prior h1 x = true := (htot h1 x).resolve_right (by rw [hpx]; exact Bool.false_ne_true)
      exact ⟨List.forall_mem_cons.mpr ⟨fun _ => htr _ _ _ hh1 h1x, hxs⟩,
        fun j0 h0 hb => by cases hbest.symm.trans hb; exact hh1⟩

end scan

/-- the two outcomes of a pop: nothing is admitted and the list is returned as it is, or an admitted item is
    selected and unlinked -/
theorem popList_cases (prior : α → α → Bool) (adm : α → Bool) (l : List α) :
    ((∀ y ∈ l, adm y = false) ∧ popList prior adm l = (l, none)) ∨
    ∃ j x, l[j]? = some x ∧ adm x = true ∧ selectFrom prior adm l 0 none = some (j, x) ∧
      popList prior adm l = (l.eraseIdx j, some x) := by
  unfold popList
  rcases selectFrom_cases (prior := prior) (adm := adm) l 0 none with ⟨hs, hno⟩ | ⟨k, x, hk, ha, hs⟩ <;> rw [hs]
  · exact Or.inl ⟨hno rfl, rfl⟩
  · exact Or.inr ⟨0 + k, x, (Nat.zero_add k).symm ▸ hk, ha, rfl, rfl⟩

theorem perm_eraseIdx (l : List α) (i : Nat) (x : α) (h : l[i]? = some x) : l.Perm (x :: l.eraseIdx i) := by
  induction l generalizing i with
  | nil => cases h
  | cons y ys ih =>
    cases i with
    | zero => cases h; exact List.Perm.refl _
    | succ k => exact (List.Perm.cons y (ih k h)).trans (List.Perm.swap x y _)

/-- the stored messages: channel, then linked list -/
def Q.all (q : Q α) : List α := q.inbox ++ q.list

theorem readInbox_all (q : Q α) : q.readInbox.all.Perm q.all :=
  (List.reverse_perm q.inbox).append_right q.list

theorem recvOne_all (q : Q α) : q.recvOne.all.Perm q.all := by
  unfold Q.recvOne Q.all
  split
  · exact .refl _
  · next m rest hm => rw [hm]; exact List.perm_middle

theorem tryPush_all (q : Q α) (m : α) :
    (q.tryPush m).1.all.Perm (if (q.tryPush m).2 then m :: q.all else q.all) := by
  unfold Q.tryPush
  split
  · show ((q.inbox ++ [m]) ++ q.list).Perm (m :: (q.inbox ++ q.list))
    rw [List.append_assoc]
    exact List.perm_middle
  · exact .refl _

theorem waitLoop_all (adm : α → Bool) (inb list : List α) :
    ((waitLoop adm inb list).1 ++ (waitLoop adm inb list).2).Perm (inb ++ list) := by
  induction inb generalizing list with
  | nil => exact .refl _
  | cons m rest ih =>
    rw [waitLoop]
    split
    · exact List.perm_middle
    · exact (ih (m :: list)).trans List.perm_middle

section
variable (q : Q α) (prior : α → α → Bool) (adm : α → Bool)

/-- a pop moves the message it returns, and nothing else, out of the stored messages -/
theorem popMem_all :
    q.all.Perm ((q.popMem prior adm).2.toList ++ (q.popMem prior adm).1.all) := by
  show (q.inbox ++ q.list).Perm ((popList prior adm q.list).2.toList ++ (q.inbox ++ (popList prior adm q.list).1))
  refine (List.Perm.append_left _ ?_).trans (List.perm_append_comm_assoc _ _ _)
  rcases popList_cases prior adm q.list with ⟨_, hp⟩ | ⟨j, x, hj, _, _, hp⟩ <;> rw [hp]
  · exact .refl _
  · exact perm_eraseIdx _ j x hj

theorem tryPop_all :
    q.all.Perm ((q.tryPop prior adm).2.toList ++ (q.tryPop prior adm).1.all) :=
  (readInbox_all q).symm.trans (popMem_all q.readInbox prior adm)

/-- the blocking pop is a pop from memory that returns a message, or, when that pop finds nothing (and so takes
    nothing), a `TryPop` after the wait loop has moved messages from the channel to the list; the optional inbox
    read in front only moves messages too -/
theorem popBlocking_cases (rf : Bool) :
    ∃ q' : Q α, q'.all.Perm q.all ∧
      ((q.popBlocking rf prior adm).2.isSome = true ∧ q.popBlocking rf prior adm = q'.popMem prior adm ∨
       q.popBlocking rf prior adm = q'.tryPop prior adm) := by
  simp only [Q.popBlocking]
  have h1 : (if rf then q.readInbox else q).all.Perm q.all := by
    cases rf
    · exact .refl _
    · exact readInbox_all q
  generalize (if rf = true then q.readInbox else q) = q1 at h1 ⊢
  have h2 := popMem_all q1 prior adm
  cases hp : q1.popMem prior adm with
  | mk q2 r =>
    rw [hp] at h2
    cases r with
    | some m => exact ⟨q1, h1, Or.inl ⟨rfl, hp.symm⟩⟩
    | none =>
      exact ⟨⟨(waitLoop adm q2.inbox q2.list).1, q2.cap, (waitLoop adm q2.inbox q2.list).2⟩,
        (waitLoop_all adm q2.inbox q2.list).trans (h2.symm.trans h1), Or.inr rfl⟩

theorem popBlocking_all (rf : Bool) :
    q.all.Perm ((q.popBlocking rf prior adm).2.toList ++ (q.popBlocking rf prior adm).1.all) := by
  obtain ⟨q', hq, ⟨_, h⟩ | h⟩ := popBlocking_cases q prior adm rf <;> rw [h]
  · exact hq.symm.trans (popMem_all q' prior adm)
  · exact hq.symm.trans (tryPop_all q' prior adm)

end

/-- the five scores `prior` compares, in its order; the closing `()` makes every level a `lexStep` -/
def key (s : PState) (m : Msg) : Nat × Nat × Nat × Nat × Nat × Unit :=
  (scoreMessageType m, scoreHeight (compareHeightOrSlot s m),
   scoreMessageSubtype s m (compareHeightOrSlot s m), scoreRound s m, scoreConsensusType m, ())

/-- one level of a lexicographic "greater or equal": compare the first components, else defer -/
def lexStep {β : Type} (R : β → β → Bool) (a b : Nat × β) : Bool :=
  if a.1 ≠ b.1 then decide (a.1 > b.1) else R a.2 b.2

/-- five levels; keys that agree on all of them are equivalent -/
def lexGe : (a b : Nat × Nat × Nat × Nat × Nat × Unit) → Bool :=
  lexStep (lexStep (lexStep (lexStep (lexStep fun _ _ => true))))

theorem lexStep_iff {β : Type} {R : β → β → Bool} {a b : Nat × β} :
    lexStep R a b = true ↔ b.1 < a.1 ∨ a.1 = b.1 ∧ R a.2 b.2 = true := by
  unfold lexStep
  by_cases e : a.1 = b.1
  · rw [if_neg (not_not_intro e)]
    exact ⟨fun h => Or.inr ⟨e, h⟩, fun h => h.elim (fun l => absurd (e ▸ l) (Nat.lt_irrefl _)) (·.2)⟩
  · rw [if_pos e, decide_eq_true_iff]
    exact ⟨Or.inl, fun h => h.elim id (fun h => absurd h.1 e)⟩

section
variable {β : Type} (R : β → β → Bool)

theorem lexStep_refl (h : ∀ a, R a a = true) (a : Nat × β) :
    lexStep R a a = true :=
  lexStep_iff.mpr (Or.inr ⟨rfl, h _⟩)

theorem lexStep_total (h : ∀ a b, R a b = true ∨ R b a = true)
    (a b : Nat × β) : lexStep R a b = true ∨ lexStep R b a = true := by
  rcases Nat.lt_trichotomy a.1 b.1 with l | e | l
  · exact Or.inr (lexStep_iff.mpr (Or.inl l))
  · exact (h a.2 b.2).imp (fun r => lexStep_iff.mpr (Or.inr ⟨e, r⟩)) (fun r => lexStep_iff.mpr (Or.inr ⟨e.symm, r⟩))
  · exact Or.inl (lexStep_iff.mpr (Or.inl l))

theorem lexStep_trans
    (h : ∀ a b c, R a b = true → R b c = true → R a c = true)
    (a b c : Nat × β) (h1 : lexStep R a b = true) (h2 : lexStep R b c = true) : lexStep R a c = true := by
  refine lexStep_iff.mpr ?_
  rcases lexStep_iff.mp h1 with l1 | ⟨e1, r1⟩ <;> rcases lexStep_iff.mp h2 with l2 | ⟨e2, r2⟩
  · exact Or.inl (Nat.lt_trans l2 l1)
  · exact Or.inl (e2 ▸ l1)
  · exact Or.inl (e1 ▸ l2)
  · exact Or.inr ⟨e1.trans e2, h _ _ _ r1 r2⟩

/-- strictly greater at this level -/
theorem lexStep_gt {x y : Nat} {ta tb : β} (h : y < x) :
    lexStep R (x, ta) (y, tb) = true ∧ lexStep R (y, tb) (x, ta) = false :=
  ⟨lexStep_iff.mpr (Or.inl h), Bool.eq_false_iff.mpr fun h' =>
    (lexStep_iff.mp h').elim (Nat.lt_asymm h) (fun e => Nat.ne_of_lt h e.1)⟩

/-- equal at this level, strictly greater below -/
theorem lexStep_eq {x y : Nat} {ta tb : β} (e : x = y)
    (h : R ta tb = true ∧ R tb ta = false) : lexStep R (x, ta) (y, tb) = true ∧ lexStep R (y, tb) (x, ta) = false :=
  ⟨lexStep_iff.mpr (Or.inr ⟨e, h.1⟩), Bool.eq_false_iff.mpr fun h' =>
    (lexStep_iff.mp h').elim (fun l => Nat.lt_irrefl _ (e ▸ l)) (fun r => Bool.eq_false_iff.mp h.2 r.2)⟩

end

theorem lexGe_refl (a) : lexGe a a = true :=
  lexStep_refl _ (lexStep_refl _ (lexStep_refl _ (lexStep_refl _ (lexStep_refl _ fun _ => rfl)))) a

theorem lexGe_total (a b) : lexGe a b = true ∨ lexGe b a = true :=
  lexStep_total _ (lexStep_total _ (lexStep_total _ (lexStep_total _ (lexStep_total _ fun _ _ => Or.inl rfl)))) a b

theorem lexGe_trans (a b c) (h1 : lexGe a b = true) (h2 : lexGe b c = true) : lexGe a c = true :=
  lexStep_trans _ (lexStep_trans _ (lexStep_trans _ (lexStep_trans _ (lexStep_trans _ fun _ _ _ _ _ => rfl))))
    a b c h1 h2

theorem rel_le_two (s : PState) (m : Msg) : compareHeightOrSlot s m ≤ 2 := by
  have h3 : ∀ (p q : Prop) [Decidable p] [Decidable q], (if p then 1 else if q then 2 else 0) ≤ 2 := by
    intro p q _ _
    split
    · decide
    · split <;> decide
  unfold compareHeightOrSlot
  cases m.body with
  | event _ => exact Nat.zero_le _
  | consensus h _ _ _ => exact h3 _ _
  | partialSig sl _ => exact h3 _ _

/-- `scoreHeight` keeps the three outcomes of `compareHeightOrSlot` apart, so `prior`, which tests the outcomes
    for equality and then compares their scores, compares the scores lexicographically -/
theorem scoreHeight_inj : ∀ a, a ≤ 2 → ∀ b, b ≤ 2 → scoreHeight a = scoreHeight b → a = b := by decide

theorem prior_eq_lexGe (s : PState) (a b : Msg) : prior s a b = lexGe (key s a) (key s b) := by
  unfold prior lexGe lexStep key
  dsimp only
  by_cases h1 : scoreMessageType a = scoreMessageType b
  · by_cases h2 : compareHeightOrSlot s a = compareHeightOrSlot s b
    · simp only [h1, h2, ne_eq, not_true_eq_false, if_false]
    · have h2' : scoreHeight (compareHeightOrSlot s a) ≠ scoreHeight (compareHeightOrSlot s b) :=
        fun e => h2 (scoreHeight_inj _ (rel_le_two s a) _ (rel_le_two s b) e)
      simp only [h1, eq_true (Ne.intro h2), eq_true h2', if_true]
  · simp only [eq_true (Ne.intro h1), if_true]

theorem prior_refl (s : PState) (a : Msg) : prior s a a = true := by
  rw [prior_eq_lexGe]; exact lexGe_refl _

theorem prior_total (s : PState) (a b : Msg) : prior s a b = true ∨ prior s b a = true := by
  rw [prior_eq_lexGe, prior_eq_lexGe]; exact lexGe_total _ _

theorem prior_trans (s : PState) (a b c : Msg) (h1 : prior s a b = true) (h2 : prior s b c = true) :
    prior s a c = true := by
  rw [prior_eq_lexGe] at *; exact lexGe_trans _ _ _ h1 h2

/-- consensus traffic of the current height scores the same at the subtype level whatever its round and type -/
theorem subtype_consensus_current (s : PState) (i r t n : Nat) :
    scoreMessageSubtype s ⟨i, .consensus s.height r t n⟩ (compareHeightOrSlot s ⟨i, .consensus s.height r t n⟩) =
      if s.hasRunningInstance then 3 else 1 := by
  have hc : compareHeightOrSlot s ⟨i, .consensus s.height r t n⟩ = 1 := if_pos rfl
  rw [hc, scoreMessageSubtype, if_pos rfl]
  cases s.hasRunningInstance <;> rfl

/-- `a` goes strictly before `b` -/
def Before (s : PState) (a b : Msg) : Prop := prior s a b = true ∧ prior s b a = false

variable {s : PState} {a b : Msg}

theorem before_of_key (h : lexGe (key s a) (key s b) = true ∧ lexGe (key s b) (key s a) = false) : Before s a b := by
  rw [Before, prior_eq_lexGe, prior_eq_lexGe]
  exact h

/-- the current height or slot scores above both other outcomes -/
theorem scoreHeight_lt_of_ne_one {r : Nat} (h : r ≠ 1) : scoreHeight r < scoreHeight 1 := by
  unfold scoreHeight
  split
  · exact absurd rfl h
  · decide
  · decide

theorem subtype_future (m : Msg) (hc : compareHeightOrSlot s m = 2) :
    scoreMessageSubtype s m (compareHeightOrSlot s m) =
      if isDecided s m then 4 else if isPre m then 3 else if isConsensus m then 2 else if isPost m then 1 else 0 := by
  rw [hc]
  exact (if_neg (by decide)).trans (if_pos rfl)

theorem subtype_past (m : Msg) (hc : compareHeightOrSlot s m = 0) :
    scoreMessageSubtype s m (compareHeightOrSlot s m) = if isDecided s m then 2 else if isCommit m then 1 else 0 := by
  rw [hc]
  exact (if_neg (by decide)).trans (if_neg (by decide))

/-- proposal 4, prepare 3, commit 2, round-change 1 -/
theorem scoreConsensusType_consensus (i h r n : Nat) {t : Nat} (ht : t ≤ 3) :
    scoreConsensusType ⟨i, .consensus h r t n⟩ = 4 - t := by
  match t, ht with
  | 0, _ => rfl
  | 1, _ => rfl
  | 2, _ => rfl
  | 3, _ => rfl

end Ssv.Queue
