/-
C01 Layer A — agreement from abstract trace rules H0–H7 (DESIGN Appendix E; the steps below are numbered as there).
Events of honest nodes: P prepare sent, K commit sent, RC round-change sent (pr = 0: unprepared), G the instance adopted a
decided message of round rc (Controller.UponDecided on an undecided instance: Round := rc), D first decision reported.
The rules tolerate the round regression by decided messages that is specific to this code base. Layer B (deriving the rules
from the executable node model Ssv/Model/Qbft) is Ssv/Props/C01LayerB.lean.
-/
import Mathlib.Data.Finset.Card
import Mathlib.Data.Fintype.Card
import Mathlib.Tactic.Linarith
import Mathlib.Tactic.IntervalCases
import Mathlib.Tactic.FinCases

namespace QAbs

variable {N : Type} [Fintype N] [DecidableEq N]

inductive Ev (N : Type) where
  | P  (i : N) (r v : Nat)
  | K  (i : N) (r v : Nat)
  | RC (i : N) (r pr pv : Nat)
  | G  (i : N) (rc : Nat)
  | D  (i : N) (r v : Nat)
  deriving DecidableEq

structure Ctx (N : Type) [Fintype N] [DecidableEq N] where
  f   : Nat
  byz : Finset N
  T   : List (Ev N)
  hn  : Fintype.card N = 3 * f + 1
  hb  : byz.card ≤ f

variable (c : Ctx N)

def At (k : Nat) (e : Ev N) : Prop := c.T[k]? = some e
def Before (k : Nat) (e : Ev N) : Prop := ∃ k', k' < k ∧ At c k' e

/-- authentic prepare quorum for (r,v) strictly before index k -/
def PQ (k r v : Nat) : Prop :=
  ∃ S : Finset N, 2 * c.f + 1 ≤ S.card ∧ ∀ j ∈ S, j ∉ c.byz → Before c k (.P j r v)
def KQ (k r v : Nat) : Prop :=
  ∃ S : Finset N, 2 * c.f + 1 ≤ S.card ∧ ∀ j ∈ S, j ∉ c.byz → Before c k (.K j r v)

/-- a round-change quorum for round r, validated by a correct receiver, strictly before k -/
def RCQ (k r : Nat) (S : Finset N) (d : N → Nat × Nat) : Prop :=
  2 * c.f + 1 ≤ S.card ∧ ∀ j ∈ S, (d j).1 ≤ r ∧ ((d j).1 > 0 → PQ c k (d j).1 (d j).2) ∧
    (j ∉ c.byz → Before c k (.RC j r (d j).1 (d j).2))

structure Rules : Prop where
  H1 : ∀ i r v v' k k', i ∉ c.byz → At c k (.P i r v) → At c k' (.P i r v') → v = v'
  H0 : ∀ i r v k, i ∉ c.byz → At c k (.K i r v) → 1 ≤ r
  H2 : ∀ i r v k, i ∉ c.byz → At c k (.K i r v) →
        PQ c k r v ∨ ((∃ g rc, g < k ∧ At c g (.G i rc) ∧ rc ≤ r) ∧ ∃ r2, r < r2 ∧ Before c k (.P i r2 v))
  H3 : ∀ i r v k, i ∉ c.byz → At c k (.P i r v) → 1 < r →
        ∃ S d, RCQ c k r S d ∧
          ((∀ j ∈ S, (d j).1 = 0) ∨ ∃ js ∈ S, (∀ j ∈ S, (d j).1 ≤ (d js).1) ∧ 0 < (d js).1 ∧ (d js).2 = v)
  H4 : ∀ i r v r' pr pv k1 k2, i ∉ c.byz → At c k1 (.K i r v) → At c k2 (.RC i r' pr pv) → k1 < k2 → r < r' →
        (∀ g rc, k1 < g → g < k2 → At c g (.G i rc) → r ≤ rc) → r ≤ pr
  H5 : ∀ i r v r' pr pv k1 k2, i ∉ c.byz → At c k1 (.RC i r' pr pv) → At c k2 (.K i r v) → k1 < k2 → r < r' →
        ∃ g rc, k1 < g ∧ g < k2 ∧ At c g (.G i rc) ∧ rc ≤ r
  H6 : ∀ i rc k, i ∉ c.byz → At c k (.G i rc) → ∃ v, KQ c k rc v
  H7 : ∀ i r v k, i ∉ c.byz → At c k (.D i r v) → KQ c (k+1) r v

theorem before_mono {c : Ctx N} {k k' : Nat} {e : Ev N} (h : Before c k e) (hk : k ≤ k') : Before c k' e := by
  obtain ⟨j, hj, ha⟩ := h; exact ⟨j, lt_of_lt_of_le hj hk, ha⟩

theorem pq_mono {c : Ctx N} {k k' r v : Nat} (h : PQ c k r v) (hk : k ≤ k') : PQ c k' r v := by
  obtain ⟨S, hS, hm⟩ := h; exact ⟨S, hS, fun j hj hb => before_mono (hm j hj hb) hk⟩

/-- the two counting facts behind the rules, for `n = 3f + 1`: a quorum meets every set of `f + 1` members … -/
theorem quorum_meets {S A : Finset N} (hS : 2 * c.f + 1 ≤ S.card) (hA : c.f + 1 ≤ A.card) : ∃ j ∈ S, j ∈ A := by
  have hn : Finset.univ.card = 3 * c.f + 1 := c.hn
  obtain ⟨j, hj⟩ := Finset.inter_nonempty_of_card_lt_card_add_card S.subset_univ A.subset_univ (by omega)
  exact ⟨j, Finset.mem_inter.mp hj⟩

/-- … and has `f + 1` correct members -/
theorem quorum_correct {S : Finset N} (hS : 2 * c.f + 1 ≤ S.card) : c.f + 1 ≤ (S \ c.byz).card := by
  have hb := c.hb
  exact le_trans (Nat.le_sub_of_add_le (by omega)) (Finset.le_card_sdiff c.byz S)

theorem exists_honest (A : Finset N) (h : c.f < A.card) : ∃ j ∈ A, j ∉ c.byz :=
  Finset.exists_mem_notMem_of_card_lt_card (Nat.lt_of_le_of_lt c.hb h)

/-- what `PQ` and `KQ` share: a quorum whose honest members all did `q` has an honest member that did -/
theorem quorum_honest {c : Ctx N} {q : N → Prop} (h : ∃ S : Finset N, 2 * c.f + 1 ≤ S.card ∧ ∀ j ∈ S, j ∉ c.byz → q j) :
    ∃ j, j ∉ c.byz ∧ q j := by
  obtain ⟨S, hS, hm⟩ := h
  obtain ⟨j, hj, hjb⟩ := exists_honest c S (by omega)
  exact ⟨j, hjb, hm j hj hjb⟩

/-- step 1: two authentic prepare quorums of one round agree -/
theorem pq_unique (R : Rules c) {k k' r v v' : Nat} (h : PQ c k r v) (h' : PQ c k' r v') : v = v' := by
  obtain ⟨S, hS, hm⟩ := h
  obtain ⟨S', hS', hm'⟩ := h'
  obtain ⟨j, hj, hj'⟩ := quorum_meets c hS (quorum_correct c hS')
  rw [Finset.mem_sdiff] at hj'
  obtain ⟨a, _, ha⟩ := hm j hj hj'.2
  obtain ⟨b, _, hb⟩ := hm' j hj'.1 hj'.2
  exact R.H1 j r v v' a b hj'.2 ha hb

open Classical in
/-- honest nodes that have sent commit (r,v) strictly before k -/
noncomputable def committers (k r v : Nat) : Finset N :=
  Finset.univ.filter (fun j => j ∉ c.byz ∧ Before c k (.K j r v))

theorem mem_committers {c : Ctx N} {k r v : Nat} {j : N} :
    j ∈ committers c k r v ↔ j ∉ c.byz ∧ Before c k (.K j r v) := by
  simp only [committers, Finset.mem_filter, Finset.mem_univ, true_and]

/-- `f + 1` correct committers: what a commit quorum is sure to contain (`quorum_correct`), and enough to meet every
    round-change quorum (`quorum_meets`) -/
def Done (k r v : Nat) : Prop := c.f + 1 ≤ (committers c k r v).card

theorem done_mono {k k' r v : Nat} (h : Done c k r v) (hk : k ≤ k') : Done c k' r v := by
  refine le_trans h (Finset.card_le_card fun j hj => ?_)
  rw [mem_committers] at hj ⊢
  exact ⟨hj.1, before_mono hj.2 hk⟩

theorem kq_done {k r v : Nat} (h : KQ c k r v) : Done c k r v := by
  obtain ⟨S, hS, hm⟩ := h
  refine le_trans (quorum_correct c hS) (Finset.card_le_card fun j hj => ?_)
  rw [Finset.mem_sdiff] at hj
  exact mem_committers.mpr ⟨hj.2, hm j hj.1 hj.2⟩

/-- step 2: the least round `r0` in which `f + 1` correct members commit to one value, the earliest index `k0` at which
    that is complete, and the value `v0` -/
structure Pivot where
  r0 : Nat
  k0 : Nat
  v0 : Nat
  done0 : Done c k0 r0 v0
  minR : ∀ k r v, Done c k r v → r0 ≤ r
  minK : ∀ k v, Done c k r0 v → k0 ≤ k

variable {c}

theorem exists_pivot {k r v : Nat} (h : Done c k r v) : Nonempty (Pivot c) := by
  classical
  have hex : ∃ r k v, Done c k r v := ⟨r, k, v, h⟩
  have hexk : ∃ k v, Done c k (Nat.find hex) v := Nat.find_spec hex
  obtain ⟨v0, hv0⟩ := Nat.find_spec hexk
  exact ⟨⟨_, _, v0, hv0, fun k r v hd => Nat.find_min' hex ⟨k, v, hd⟩, fun k v hd => Nat.find_min' hexk ⟨v, hd⟩⟩⟩

section
variable (R : Rules c) (p : Pivot c)
include R

/-- step 2, second half: no instance regresses below the pivot round, nor to it before the pivot is complete -/
theorem G_not_below_pivot {i : N} {g rc : Nat} (hi : i ∉ c.byz) (hg : At c g (.G i rc)) :
    p.r0 ≤ rc ∧ (rc ≤ p.r0 → p.k0 ≤ g) := by
  obtain ⟨v, hkq⟩ := R.H6 i rc g hi hg
  have hd := kq_done c hkq
  refine ⟨p.minR _ _ _ hd, fun hle => ?_⟩
  have : rc = p.r0 := le_antisymm hle (p.minR _ _ _ hd)
  subst this
  exact p.minK _ _ hd

/-- step 3: the pivot round is a real round, and the pivot value is backed by an authentic prepare quorum: look at one of
    the committers of the pivot -/
theorem pivot_pq : 1 ≤ p.r0 ∧ ∃ t, PQ c t p.r0 p.v0 := by
  obtain ⟨j, hj⟩ := Finset.card_pos.mp (Nat.lt_of_lt_of_le (Nat.succ_pos _) p.done0)
  obtain ⟨hjb, t, htk, ht⟩ := mem_committers.mp hj
  refine ⟨R.H0 j _ _ t hjb ht, ?_⟩
  rcases R.H2 j _ _ t hjb ht with h | ⟨⟨g, rc, hgt, hG, hrc⟩, _⟩
  · exact ⟨t, h⟩
  · have := (G_not_below_pivot R p hjb hG).2 hrc
    omega

/-- step 4: a committer of the pivot (the set `F` of Appendix E) carries the lock in every round-change for a later round -/
theorem lockF {j : N} {r' pr pv k2 : Nat} (hjF : j ∈ committers c p.k0 p.r0 p.v0)
    (hrc : At c k2 (.RC j r' pr pv)) (hr : p.r0 < r') : p.r0 ≤ pr := by
  obtain ⟨hjb, t, htk, ht⟩ := mem_committers.mp hjF
  rcases lt_trichotomy k2 t with h | h | h
  · obtain ⟨g, rc, hg1, hg2, hG, hle⟩ := R.H5 j _ _ _ _ _ k2 t hjb hrc ht h hr
    have := (G_not_below_pivot R p hjb hG).2 hle
    omega
  · subst h
    cases Option.some.inj (hrc.symm.trans ht)
  · exact R.H4 j _ _ _ _ _ t k2 hjb ht hrc h hr (fun g rc _ _ hG => (G_not_below_pivot R p hjb hG).1)

/-- a prepare quorum of a round from the pivot round on is for the pivot value, as soon as the honest prepares before it
    in rounds after the pivot round are: in the pivot round by `pq_unique`, later because an honest member prepared -/
theorem pq_pivot_of {k r v : Nat}
    (ih : ∀ k' < k, ∀ (i : N) (r' v' : Nat), i ∉ c.byz → At c k' (.P i r' v') → p.r0 < r' → v' = p.v0)
    (h : PQ c k r v) (hr : p.r0 ≤ r) : v = p.v0 := by
  rcases Nat.eq_or_lt_of_le hr with rfl | hlt
  · obtain ⟨-, t, hpiv⟩ := pivot_pq R p
    exact pq_unique c R h hpiv
  · obtain ⟨j, hjb, k', hk', hP⟩ := quorum_honest h
    exact ih k' hk' j _ _ hjb hP hlt

/-- step 5: after the pivot round every honest prepare is for the pivot value -/
theorem main_lemma : ∀ k (i : N) (r' v' : Nat), i ∉ c.byz → At c k (.P i r' v') → p.r0 < r' → v' = p.v0 := by
  intro k
  induction k using Nat.strong_induction_on with
  | _ k ih =>
    intro i r' v' hi hP hr
    have hr0 := (pivot_pq R p).1
    obtain ⟨S, d, ⟨hS, hm⟩, hcase⟩ := R.H3 i r' v' k hi hP (by omega)
    -- the round-change quorum meets the committers of the pivot in some j, whose round-change carries the lock
    obtain ⟨j, hjS, hjF⟩ := quorum_meets c hS p.done0
    obtain ⟨-, -, hsent⟩ := hm j hjS
    obtain ⟨k2, _, hrc⟩ := hsent (mem_committers.mp hjF).1
    have hlock := lockF R p hjF hrc hr
    -- so the highest prepared round of the quorum is at least r0, and its prepare quorum is for v0
    rcases hcase with hall | ⟨js, hjs, hmax, hpos, rfl⟩
    · have := hall j hjS; omega
    · obtain ⟨-, hbacked, -⟩ := hm js hjs
      exact pq_pivot_of R p ih (hbacked hpos) (le_trans hlock (hmax j hjS))

/-- step 6: every reported decision is the pivot value -/
theorem decision_is_pivot {i : N} {r v k : Nat} (hi : i ∉ c.byz) (hD : At c k (.D i r v)) : v = p.v0 := by
  have hkq := R.H7 i r v k hi hD
  have hr : p.r0 ≤ r := p.minR _ _ _ (kq_done c hkq)
  obtain ⟨j, hjb, kk, _, hK⟩ := quorum_honest hkq
  rcases R.H2 j r v kk hjb hK with hpq | ⟨_, r2, hr2, k3, _, hP⟩
  · exact pq_pivot_of R p (fun k' _ => main_lemma R p k') hpq hr
  · exact main_lemma R p k3 j _ _ hjb hP (by omega)

omit p in
/-- AGREEMENT (Layer A): any two decisions reported by correct operators carry the same value. -/
theorem agreement {i j : N} {r v k r' v' k' : Nat} (hi : i ∉ c.byz) (hj : j ∉ c.byz)
    (hD : At c k (.D i r v)) (hD' : At c k' (.D j r' v')) : v = v' := by
  obtain ⟨p⟩ := exists_pivot (kq_done c (R.H7 i r v k hi hD))
  rw [decision_is_pivot R p hi hD, decision_is_pivot R p hj hD']

end

/-- non-vacuity: committee of 4 (f = 1, member 3 Byzantine); members 0,1,2 prepare, commit and decide value 7 in round 1 -/
def exT : List (Ev (Fin 4)) :=
  [.P 0 1 7, .P 1 1 7, .P 2 1 7, .K 0 1 7, .K 1 1 7, .K 2 1 7, .D 0 1 7, .D 1 1 7, .D 2 1 7]

def exCtx : Ctx (Fin 4) := { f := 1, byz := {3}, T := exT, hn := by decide, hb := by decide }

theorem ex_by_sender (j : Fin 4) (hj : j ∉ exCtx.byz) :
    (j : Nat) < 3 ∧ At exCtx j (.P j 1 7) ∧ At exCtx (3 + j) (.K j 1 7) := by
  rcases j with ⟨_ | _ | _ | _ | j, hlt⟩
  · exact ⟨(by omega : 0 < 3), rfl, rfl⟩
  · exact ⟨(by omega : 1 < 3), rfl, rfl⟩
  · exact ⟨(by omega : 2 < 3), rfl, rfl⟩
  · exact absurd (Finset.mem_singleton_self _) hj
  · omega

theorem ex_by_position {k : Nat} {e : Ev (Fin 4)} (h : At exCtx k e) :
    match e with
    | .P _ r v => r = 1 ∧ v = 7
    | .K _ r v => r = 1 ∧ v = 7 ∧ 3 ≤ k
    | .D _ r v => r = 1 ∧ v = 7 ∧ 6 ≤ k
    | _ => False := by
  change exT[k]? = some e at h
  rcases k with _ | _ | _ | _ | _ | _ | _ | _ | _ | k
  · cases h
    exact ⟨rfl, rfl⟩
  · cases h
    exact ⟨rfl, rfl⟩
  · cases h
    exact ⟨rfl, rfl⟩
  · cases h
    exact ⟨rfl, rfl, by decide⟩
  · cases h
    exact ⟨rfl, rfl, by decide⟩
  · cases h
    exact ⟨rfl, rfl, by decide⟩
  · cases h
    exact ⟨rfl, rfl, by decide⟩
  · cases h
    exact ⟨rfl, rfl, by decide⟩
  · cases h
    exact ⟨rfl, rfl, by decide⟩
  · cases h

/-- the whole committee is a quorum; its correct members have all prepared by position 3 and committed by 6 -/
theorem ex_pq {k : Nat} (hk : 3 ≤ k) : PQ exCtx k 1 7 := by
  refine ⟨Finset.univ, by decide, fun j _ hj => ?_⟩
  obtain ⟨hlt, hP, -⟩ := ex_by_sender j hj
  exact ⟨j, Nat.lt_of_lt_of_le hlt hk, hP⟩

theorem ex_kq {k : Nat} (hk : 6 ≤ k) : KQ exCtx k 1 7 := by
  refine ⟨Finset.univ, by decide, fun j _ hj => ?_⟩
  obtain ⟨hlt, -, hK⟩ := ex_by_sender j hj
  exact ⟨3 + j, Nat.lt_of_lt_of_le (Nat.add_lt_add_left hlt 3) hk, hK⟩

theorem exRules : Rules exCtx where
  H1 _ _ _ _ _ _ _ h h' := by
    obtain ⟨-, rfl⟩ := ex_by_position h
    exact (ex_by_position h').2.symm
  H0 _ _ _ _ _ h := by
    obtain ⟨rfl, -⟩ := ex_by_position h
    exact Nat.le_refl 1
  H2 _ _ _ _ _ h := by
    obtain ⟨rfl, rfl, hk⟩ := ex_by_position h
    exact .inl (ex_pq hk)
  H3 _ _ _ _ _ h hr := by
    obtain ⟨rfl, -⟩ := ex_by_position h
    exact absurd hr (Nat.lt_irrefl 1)
  H4 _ _ _ _ _ _ _ _ _ _ h := False.elim (ex_by_position h)
  H5 _ _ _ _ _ _ _ _ _ h := False.elim (ex_by_position h)
  H6 _ _ _ _ h := False.elim (ex_by_position h)
  H7 _ _ _ _ _ h := by
    obtain ⟨rfl, rfl, hk⟩ := ex_by_position h
    exact ex_kq (Nat.le_succ_of_le hk)

end QAbs
