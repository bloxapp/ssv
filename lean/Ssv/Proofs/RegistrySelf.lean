/-
Registry model (properties C11, C12): handler steps leave the database alone; the node's own operator id versus the
stored operators (`SelfInv`); what a restarted process finds as its id (`lookupSelf_eq`). Core Lean only.
-/
import Ssv.Proofs.Registry

namespace Ssv.Registry

theorem stepReg_handler_db (r : RegMem) (s : Step) (hs : s.handler = true) :
    (stepReg r s).db = r.db ∧ (stepReg r s).txn.marker = r.txn.marker := by
  cases s with
  | putMarker _ | commit | memIdxSet _ | memIdxDel _ | saveAccount _ | deleteAccount _ | saveWallet => cases hs
  | _ => exact ⟨rfl, rfl⟩

theorem foldl_stepReg_handler_db (r : RegMem) (l : List Step) (hl : ∀ s ∈ l, s.handler = true) :
    (l.foldl stepReg r).db = r.db ∧ (l.foldl stepReg r).txn.marker = r.txn.marker := by
  induction l generalizing r with
  | nil => exact ⟨rfl, rfl⟩
  | cons s l ih =>
    have h1 := stepReg_handler_db r s (hl s List.mem_cons_self)
    have h2 := ih (stepReg r s) (fun s hs => hl s (List.mem_cons_of_mem _ hs))
    exact ⟨h2.1.trans h1.1, h2.2.trans h1.2⟩

/-- ids of the OperatorAdded events -/
def addIds : List Event → List Nat
  | [] => []
  | .operatorAdded id _ _ :: es => id :: addIds es
  | _ :: es => addIds es

theorem addIds_append (a b : List Event) : addIds (a ++ b) = addIds a ++ addIds b := by
  fun_induction addIds a with
  | case1 => rfl
  | case2 id o p es ih => exact congrArg (id :: ·) ih
  | case3 e es h ih => rw [List.cons_append, addIds.eq_3 _ _ h, ih]

/-- Operator ids come from the contract's counter: every OperatorAdded event carries a fresh id, and ids start at 1. -/
def OpAddsWF (evs : List Event) : Prop := (addIds evs).Nodup ∧ 0 ∉ addIds evs

theorem OpAddsWF.prefix {a b : List Event} (h : OpAddsWF (a ++ b)) : OpAddsWF a := by
  unfold OpAddsWF at *
  rw [addIds_append] at h
  exact ⟨(List.nodup_append.1 h.1).1, fun h0 => h.2 (List.mem_append_left _ h0)⟩

theorem OpAddsWF.fresh {evs : List Event} {id o p : Nat} (h : OpAddsWF (evs ++ [.operatorAdded id o p])) :
    id ∉ addIds evs ∧ id ≠ 0 := by
  unfold OpAddsWF at h
  rw [addIds_append] at h
  exact ⟨fun hin => (List.nodup_append.1 h.1).2.2 id hin id List.mem_cons_self rfl,
    fun h0 => h.2 (List.mem_append_right _ (h0 ▸ List.mem_cons_self))⟩

/-- the node's own operator id is the id of the (only) stored operator with the node's key; the operators written in
    the open transaction are the committed ones plus those added by the events seen so far -/
structure SelfInv (me : Nat) (evs : List Event) (r : RegMem) : Prop where
  nz : ∀ o ∈ r.txn.ops, o.id ≠ 0
  own : ∀ o ∈ r.txn.ops, o.pk = me → o.id = r.self
  has : r.self ≠ 0 → ∃ o ∈ r.txn.ops, o.id = r.self ∧ o.pk = me
  pend : ∀ id, hasOp r.txn.ops id = true → hasOp r.db.ops id = true ∨ id ∈ addIds evs
  mono : ∀ id, hasOp r.db.ops id = true → hasOp r.txn.ops id = true

theorem SelfInv.has_db {me : Nat} {evs : List Event} {r : RegMem} (h : SelfInv me evs r) {id : Nat}
    (hf : id ∉ addIds evs) : hasOp r.db.ops id = hasOp r.txn.ops id := by
  cases hh : hasOp r.txn.ops id with
  | true => exact (h.pend id hh).resolve_right hf
  | false =>
    cases hd : hasOp r.db.ops id with
    | false => rfl
    | true => rw [h.mono id hd] at hh; cases hh

theorem Effect.selfInv {me : Nat} {r r' : RegMem} {e : Event} (he : Effect me r e r') {evs : List Event}
    (h : SelfInv me evs r) (hwf : OpAddsWF (evs ++ [e])) : SelfInv me (evs ++ [e]) r' := by
  have hpend' : ∀ i, hasOp r.txn.ops i = true → hasOp r.db.ops i = true ∨ i ∈ addIds (evs ++ [e]) := fun i hi =>
    (h.pend i hi).imp_right (fun h1 => by rw [addIds_append]; exact List.mem_append_left _ h1)
  cases he with
  | opAdded id owner pk hguard hex =>
    have hfresh := hwf.fresh
    have hnot : hasOp r.txn.ops id = false := (h.has_db hfresh.1).symm.trans hex
    have happ : upsertOp ⟨id, pk, owner⟩ r.txn.ops = r.txn.ops ++ [⟨id, pk, owner⟩] := upsertOp_of_not_has _ _ hnot
    have hhas : ∀ i, hasOp (r.txn.ops ++ [⟨id, pk, owner⟩]) i = (hasOp r.txn.ops i || id == i) := fun i => by
      simp only [hasOp, List.any_append, List.any_cons, List.any_nil, Bool.or_false]
    have hpendN : ∀ i, hasOp (r.txn.ops ++ [⟨id, pk, owner⟩]) i = true →
        hasOp r.db.ops i = true ∨ i ∈ addIds (evs ++ [Event.operatorAdded id owner pk]) := by
      intro i hi
      rw [hhas, Bool.or_eq_true] at hi
      rcases hi with hi | hi
      · exact hpend' i hi
      · exact Or.inr (by rw [addIds_append, ← beq_iff_eq.1 hi]; exact List.mem_append_right _ List.mem_cons_self)
    have hmonoN : ∀ i, hasOp r.db.ops i = true → hasOp (r.txn.ops ++ [⟨id, pk, owner⟩]) i = true :=
      fun i hi => by rw [hhas, h.mono i hi]; rfl
    have hnz : ∀ o ∈ r.txn.ops ++ [⟨id, pk, owner⟩], o.id ≠ 0 := fun o ho =>
      (List.mem_append.1 ho).elim (h.nz o) (fun ho => by rw [List.mem_singleton.1 ho]; exact hfresh.2)
    rw [happ]
    refine { nz := hnz, own := ?own, has := ?has, pend := hpendN, mono := hmonoN }
    case own =>
      intro o ho hpo
      dsimp only
      rcases List.mem_append.1 ho with ho | ho
      · -- an operator with the node's key is stored already: the node knows its id, so this event has another key
        have hs : r.self ≠ 0 := fun e => h.nz o ho ((h.own o ho hpo).trans e)
        have hme : (pk == me) = false := by
          cases hme : pk == me with
          | false => rfl
          | true =>
            -- the guard then says that the event carries the node's id, which is stored: not a new id
            rw [bne_iff_ne.2 hs, hme, Bool.true_and, Bool.true_and, bne_eq_false_iff_eq] at hguard
            obtain ⟨o', ho', hoid, _⟩ := h.has hs
            rw [(hasOp_iff _ _).2 ⟨o', ho', hoid.trans hguard⟩] at hnot; cases hnot
        rw [hme]; exact h.own o ho hpo
      · rw [List.mem_singleton.1 ho] at hpo ⊢
        rw [beq_iff_eq.2 hpo]; rfl
    case has =>
      dsimp only
      cases hme : pk == me with
      | true => exact fun _ => ⟨⟨id, pk, owner⟩, List.mem_append_right _ List.mem_cons_self, rfl, beq_iff_eq.1 hme⟩
      | false =>
        intro hs
        obtain ⟨o, ho, h1, h2⟩ := h.has hs
        exact ⟨o, List.mem_append_left _ ho, h1, h2⟩
  | _ => exact ⟨h.nz, h.own, h.has, hpend', h.mono⟩

theorem commitReg_selfInv {me : Nat} {evs : List Event} {x : RegMem} (m : Nat) (h : SelfInv me evs x) :
    SelfInv me evs (commitReg x m) :=
  ⟨h.nz, h.own, h.has, fun _ hid => Or.inl hid, fun _ hid => hid⟩

/-- the step function of `firstOwn` -/
def firstOwnStep (me : Nat) (best : Option OperatorRec) (o : OperatorRec) : Option OperatorRec :=
  if o.pk == me then
    match best with
    | none => some o
    | some b => if lexLt (decKey o.id) (decKey b.id) then some o else some b
  else best

/-- what `firstOwn` holds after the operators `seen`: one of them with the node's key, or nothing if none has it -/
def FirstOwnInv (me : Nat) (seen : List OperatorRec) : Option OperatorRec → Prop
  | some o => o ∈ seen ∧ o.pk = me
  | none => ∀ o ∈ seen, o.pk ≠ me

theorem firstOwnStep_inv {me : Nat} {seen : List OperatorRec} {best : Option OperatorRec} (y : OperatorRec)
    (h : FirstOwnInv me seen best) : FirstOwnInv me (seen ++ [y]) (firstOwnStep me best y) := by
  unfold firstOwnStep
  by_cases hy : y.pk = me
  · have hnew : FirstOwnInv me (seen ++ [y]) (some y) := ⟨List.mem_append_right _ List.mem_cons_self, hy⟩
    rw [if_pos (beq_iff_eq.2 hy)]
    cases best with
    | none => exact hnew
    | some b =>
      dsimp only
      split
      · exact hnew
      · exact ⟨List.mem_append_left _ h.1, h.2⟩
  · rw [if_neg (fun e => hy (beq_iff_eq.1 e))]
    cases best with
    | none => exact fun o ho => (List.mem_append.1 ho).elim (h o) (fun ho => by rw [List.mem_singleton.1 ho]; exact hy)
    | some b => exact ⟨List.mem_append_left _ h.1, h.2⟩

theorem firstOwn_inv (me : Nat) (ops : List OperatorRec) : FirstOwnInv me ops (firstOwn me ops) := by
  have : ∀ (l seen : List OperatorRec) (best : Option OperatorRec), FirstOwnInv me seen best →
      FirstOwnInv me (seen ++ l) (l.foldl (firstOwnStep me) best) := by
    intro l
    induction l with
    | nil => intro seen best h; rwa [List.append_nil]
    | cons y ys ih => intro seen best h; rw [List.append_cons]; exact ih _ _ (firstOwnStep_inv y h)
  exact this ops [] none (fun _ => nofun)

theorem lookupSelf_eq (me self : Nat) (ops : List OperatorRec)
    (hown : ∀ o ∈ ops, o.pk = me → o.id = self)
    (hhas : self ≠ 0 → ∃ o ∈ ops, o.id = self ∧ o.pk = me) : lookupSelf me ops = self := by
  have h := firstOwn_inv me ops
  unfold lookupSelf
  cases hf : firstOwn me ops with
  | some o => rw [hf] at h; exact hown o h.1 h.2
  | none =>
    rw [hf] at h
    by_cases hs : self = 0
    · exact hs.symm
    · obtain ⟨o, ho, _, hpk⟩ := hhas hs
      exact absurd hpk (h o ho)

end Ssv.Registry
