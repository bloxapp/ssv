/-
Engine `heights` (C15): the commit container. `longest` (`LongestUniqueSignersForRoundAndRoot`) finds at least the
signers of any single message, never fewer after a message is added, the same after compaction of lower rounds, and all
`q` signers of `q` single commits. These facts say that the model's `longest` behaves as the Go function is used;
no invariant of C15 needs them: `UponDecided` is followed through both outcomes of its comparison.
-/
import Ssv.Model.Heights

namespace Ssv.Heights

theorem greedy_length_ge (acc : List Nat) (rest : List (List Nat)) : acc.length ≤ (greedy acc rest).length := by
  induction rest generalizing acc with
  | nil => exact Nat.le_refl _
  | cons m ms ih =>
    unfold greedy
    split
    · exact ih acc
    · exact Nat.le_trans (by simp) (ih (acc ++ m))

theorem longestLen_ge {l : List (List Nat)} {m : List Nat} (hm : m ∈ l) : m.length ≤ longestLen l := by
  induction l with
  | nil => simp at hm
  | cons x xs ih =>
    unfold longestLen
    rcases List.mem_cons.mp hm with rfl | hm
    · exact Nat.le_trans (greedy_length_ge _ _) (Nat.le_max_left _ _)
    · exact Nat.le_trans (ih hm) (Nat.le_max_right _ _)

theorem longest_ge {cs : List Msg} {m : Msg} (hm : m ∈ cs) : m.signers.length ≤ longest cs m.round m.root := by
  unfold longest bucket
  apply longestLen_ge
  apply List.mem_map.mpr
  exact ⟨m, List.mem_filter.mpr ⟨hm, by simp⟩, rfl⟩

theorem greedy_append (acc : List Nat) (l : List (List Nat)) (x : List Nat) :
    greedy acc (l ++ [x]) = if common x (greedy acc l) then greedy acc l else greedy acc l ++ x := by
  induction l generalizing acc with
  | nil => by_cases hc : common x acc = true <;> simp [greedy, hc]
  | cons m ms ih =>
    simp only [List.cons_append, greedy]
    split
    · exact ih acc
    · exact ih (acc ++ m)

theorem greedy_append_length_ge (acc : List Nat) (l : List (List Nat)) (x : List Nat) :
    (greedy acc l).length ≤ (greedy acc (l ++ [x])).length := by
  rw [greedy_append]
  split
  · exact Nat.le_refl _
  · simp

theorem longestLen_append_ge (l : List (List Nat)) (x : List Nat) : longestLen l ≤ longestLen (l ++ [x]) := by
  induction l with
  | nil => exact Nat.zero_le _
  | cons m ms ih =>
    simp only [List.cons_append, longestLen]
    exact Nat.max_le.mpr ⟨Nat.le_trans (greedy_append_length_ge m ms x) (Nat.le_max_left _ _),
      Nat.le_trans ih (Nat.le_max_right _ _)⟩

theorem longest_append_ge (cs : List Msg) (m : Msg) (round root : Nat) :
    longest cs round root ≤ longest (cs ++ [m]) round root := by
  unfold longest bucket
  rw [List.filter_append, List.map_append]
  by_cases hm : (m.round == round && m.root == root) = true
  · simp only [List.filter_cons, hm, if_true, List.filter_nil, List.map_cons, List.map_nil]
    exact longestLen_append_ge _ _
  · have : (m.round == round && m.root == root) = false := by simpa using hm
    simp [this]

theorem longest_trim (i : Inst) (round root : Nat) (h : i.round ≤ round) :
    longest (trim i).commits round root = longest i.commits round root := by
  unfold longest bucket trim
  simp only
  rw [List.filter_filter]
  congr 2
  apply List.filter_congr
  intro m _
  by_cases hr : m.round = round
  · subst hr; simp [h]
  · have : (m.round == round) = false := by simpa using hr
    simp [this]

theorem greedy_range (k j : Nat) :
    greedy (List.range' 1 k) ((List.range' (k + 1) j).map (fun x => [x])) = List.range' 1 (k + j) := by
  induction j generalizing k with
  | zero => simp [greedy]
  | succ j ih =>
    rw [List.range'_succ]
    simp only [List.map_cons, greedy]
    have hc : common [k + 1] (List.range' 1 k) = false := by
      simp [common, List.mem_range'_1]; omega
    rw [hc]
    simp only [Bool.false_eq_true, if_false]
    have : List.range' 1 k ++ [k + 1] = List.range' 1 (k + 1) := by
      rw [List.range'_concat, Nat.one_mul, Nat.add_comm 1 k]
    rw [this, ih (k + 1)]
    congr 1
    omega

theorem bucket_singles (q root : Nat) :
    bucket (singles q root) Gen.heights_FirstRound root = (List.range' 1 q).map (fun k => [k]) := by
  simp only [bucket, singles, List.filter_map, List.map_map]
  rw [List.filter_eq_self.mpr (fun k _ => by simp)]
  rfl

theorem longest_singles (q root : Nat) :
    (List.range' 1 q).length ≤ longest (singles q root) Gen.heights_FirstRound root := by
  unfold longest
  rw [bucket_singles]
  cases q with
  | zero => exact Nat.zero_le _
  | succ n =>
    -- the greedy union started at the first commit collects all of them
    have := greedy_range 1 n
    rw [List.range'_one] at this
    rw [List.range'_succ, List.map_cons, longestLen, this, Nat.add_comm 1 n]
    exact Nat.le_max_left _ _

end Ssv.Heights
