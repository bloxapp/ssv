/-
C01 Layer B, part 4 — the per-node invariant that couples the instance state with the ghost trace; it is kept by extensions
of the trace that hold none of the node's own events (or only harmless ones) and by the state updates that leave the trace alone.
-/
import Ssv.Proofs.QbftNodeTrace

namespace Ssv.Qbft.B
open Ssv.Qbft

/-- what the log records of a broadcast: sent by a correct operator, for the height, and reflected in the trace -/
def LogOK (P : Params) (T : List (Ev (Op P))) (m : Msg) : Prop :=
  ∃ i : Op P, P.honest i = true ∧ m.signers = [opId i] ∧ m.height = P.height ∧
    (m.type = tPrepare → Ev.P i m.round m.root ∈ T) ∧
    (m.type = tCommit → Ev.K i m.round m.root ∈ T) ∧
    (m.type = tRoundChange → Ev.RC i m.round m.dataRound m.root ∈ T)

theorem LogOK.ext {P : Params} {T : List (Ev (Op P))} {m : Msg} (h : LogOK P T m) (evs : List (Ev (Op P))) :
    LogOK P (T ++ evs) m := by
  obtain ⟨i, h1, h2, h3, h4, h5, h6⟩ := h
  exact ⟨i, h1, h2, h3, fun t => List.mem_append_left _ (h4 t), fun t => List.mem_append_left _ (h5 t),
    fun t => List.mem_append_left _ (h6 t)⟩

/-- unforgeability: a verified signed part of the own identifier that lists a correct operator was broadcast by that operator
    alone, with the same signed content -/
theorem backed_get {P : Params} {log : List Msg} {b : Base} (hb : backed P log b = true) (hs : b.sigOk = true)
    (hid : b.ident = ownIdent) (s : Nat) (hmem : s ∈ b.signers) (hh : P.honestId s = true) :
    ∃ m' ∈ log, m'.signers = [s] ∧ m'.type = b.type ∧ m'.height = b.height ∧ m'.round = b.round ∧ m'.root = b.root ∧
      m'.dataRound = b.dataRound := by
  unfold backed at hb
  simp only [hs, hid, bne_self_eq_false, Bool.not_true, Bool.false_or, List.all_eq_true, Bool.or_eq_true, Bool.not_eq_true',
    List.any_eq_true] at hb
  rcases hb s hmem with h | ⟨m', hm', hsame⟩
  · rw [hh] at h; exact absurd h (by simp)
  · unfold sameSigned at hsame
    simp only [Bool.and_eq_true, beq_iff_eq] at hsame
    obtain ⟨⟨⟨⟨⟨⟨e1, e2⟩, e3⟩, e4⟩, e5⟩, e6⟩, _⟩ := hsame
    exact ⟨m', hm', e1, e2, e3, e4, e5, e6⟩

/-- with the log reflected in the trace, so is that signed part -/
theorem backed_event {P : Params} {T : List (Ev (Op P))} {log : List Msg} (hlog : ∀ m ∈ log, LogOK P T m)
    {b : Base} (hb : backed P log b = true) (hs : b.sigOk = true) (hid : b.ident = ownIdent) (j : Op P)
    (hj : P.honest j = true) (hmem : opId j ∈ b.signers) :
    b.height = P.height ∧ (b.type = tPrepare → Ev.P j b.round b.root ∈ T) ∧
    (b.type = tCommit → Ev.K j b.round b.root ∈ T) ∧
    (b.type = tRoundChange → Ev.RC j b.round b.dataRound b.root ∈ T) := by
  obtain ⟨m', hm', e1, e2, e3, e4, e5, e6⟩ := backed_get hb hs hid (opId j) hmem ((honestId_iff P j).2 hj)
  obtain ⟨i, _, h2, h3, h4, h5, h6⟩ := hlog m' hm'
  cases opId_inj (List.cons.inj (h2.symm.trans e1)).1
  rw [← e2, ← e3, ← e4, ← e5, ← e6]
  exact ⟨h3, h4, h5, h6⟩

/-- a stored prepare: single committee signer; if that signer is correct it accepted the proposal (round, root) -/
def PrepOK (P : Params) (T : List (Ev (Op P))) (x : Msg) : Prop :=
  ∃ sg, x.signers = [sg] ∧ sg ∈ P.committee ∧ ∀ j, P.honest j = true → opId j = sg → Ev.P j x.round x.root ∈ T

/-- how a stored prepare relates to the propose container: it matches the proposal of its round, or it was added while the
    accepted proposal was of another round (possible only after a decided message moved the round) -/
def PrepKind {P : Params} (T : List (Ev (Op P))) (i : Op P) (s : State) (x : Msg) : Prop :=
  (∃ q ∈ s.propose, q.round = x.round ∧ q.root = x.root) ∨
  ((∃ rc, Ev.G i rc ∈ T) ∧
    (x.round < s.round ∨ (x.round = s.round ∧ ∃ q, s.accepted = some q ∧ q.round ≠ s.round ∧ x.root = q.root)))

/-- a stored commit / decided message: distinct committee signers, every correct one broadcast that commit -/
def CommitOK (P : Params) (T : List (Ev (Op P))) (x : Msg) : Prop :=
  x.signers.Nodup ∧ (∀ s ∈ x.signers, s ∈ P.committee) ∧
  ∀ j, P.honest j = true → opId j ∈ x.signers → Ev.K j x.round x.root ∈ T

/-- the invariant of a node that has an instance. `kLock` is what H4 needs: a commit of this node for round r that no later
    adoption of a decided message of a round below r follows is for a round that is reached and locked. `rcRound` is what
    H5 needs: an announced round is reached, unless a later adoption lowered the round -/
structure NodeInv (P : Params) (T : List (Ev (Op P))) (i : Op P) (s : State) : Prop where
  height : s.height = P.height
  round : 1 ≤ s.round
  propGood : ∀ q ∈ s.propose, GoodProposal (P.cfg i) P.height q
  propUniq : ∀ q ∈ s.propose, ∀ q' ∈ s.propose, q.round = q'.round → q.root = q'.root
  propEv : ∀ q ∈ s.propose, Ev.P i q.round q.root ∈ T
  evProp : ∀ r v, Ev.P i r v ∈ T → ∃ q ∈ s.propose, q.round = r ∧ q.root = v
  acc : ∀ p, s.accepted = some p → p ∈ s.propose ∧ (p.round ≠ s.round → ∃ rc, Ev.G i rc ∈ T)
  gRound : ∀ rc, Ev.G i rc ∈ T → rc ≤ s.round ∧ s.decided = true
  propLe : (∀ rc, Ev.G i rc ∉ T) → ∀ q ∈ s.propose, q.round ≤ s.round
  low : ∀ p, s.accepted = some p → p.round < s.round → ∀ q ∈ s.propose, q.round < s.round
  prep : ∀ x ∈ s.prepare, PrepOK P T x ∧ PrepKind T i s x
  lock : s.lastPreparedRound ≠ 0 → s.lastPreparedValue ≠ 0
  kLock : ∀ (k1 r v : Nat), T[k1]? = some (Ev.K i r v) → (∀ (g rc : Nat), k1 < g → T[g]? = some (Ev.G i rc) → r ≤ rc) →
    r ≤ s.round ∧ r ≤ s.lastPreparedRound
  rcRound : ∀ (k1 r' pr pv : Nat), T[k1]? = some (Ev.RC i r' pr pv) →
    r' ≤ s.round ∨ ∃ (g rc : Nat), k1 < g ∧ T[g]? = some (Ev.G i rc) ∧ rc ≤ s.round
  commits : ∀ x ∈ s.commit, CommitOK P T x
  dec : s.decided = true → ∃ r, Ev.D i r s.decidedValue ∈ T

/-- the invariant of a node: no instance yet ⇒ no events yet -/
def NodeInvO (P : Params) (T : List (Ev (Op P))) (i : Op P) : Option State → Prop
  | none => ∀ e ∈ T, e.node ≠ i
  | some s => NodeInv P T i s

theorem PrepOK.ext {P : Params} {T : List (Ev (Op P))} {x : Msg} (h : PrepOK P T x) (evs : List (Ev (Op P))) :
    PrepOK P (T ++ evs) x := by
  obtain ⟨sg, h1, h2, h3⟩ := h
  exact ⟨sg, h1, h2, fun j hj e => List.mem_append_left _ (h3 j hj e)⟩

theorem CommitOK.ext {P : Params} {T : List (Ev (Op P))} {x : Msg} (h : CommitOK P T x) (evs : List (Ev (Op P))) :
    CommitOK P (T ++ evs) x := by
  obtain ⟨hnd, hc, hk⟩ := h
  exact ⟨hnd, hc, fun j hj e => List.mem_append_left _ (hk j hj e)⟩

theorem PrepKind.ext {P : Params} {T : List (Ev (Op P))} {i : Op P} {s : State} {x : Msg} (h : PrepKind T i s x)
    (evs : List (Ev (Op P))) : PrepKind (T ++ evs) i s x := by
  rcases h with h | ⟨⟨rc, hg⟩, h⟩
  · exact Or.inl h
  · exact Or.inr ⟨⟨rc, List.mem_append_left _ hg⟩, h⟩

/-- extending the trace keeps the invariant of a node if, of its own events, the extension holds no acceptance and no
    adoption, commits only for rounds that are reached and locked, and round-changes only for rounds that are reached -/
theorem NodeInv.ext_own {P : Params} {T : List (Ev (Op P))} {i : Op P} {s : State} (h : NodeInv P T i s)
    (evs : List (Ev (Op P))) (hP : ∀ r v, Ev.P i r v ∉ evs) (hG : ∀ rc, Ev.G i rc ∉ evs)
    (hK : ∀ r v, Ev.K i r v ∈ evs → r ≤ s.round ∧ r ≤ s.lastPreparedRound)
    (hRC : ∀ r pr pv, Ev.RC i r pr pv ∈ evs → r ≤ s.round) : NodeInv P (T ++ evs) i s where
  __ := h
  propEv := fun q hq => List.mem_append_left _ (h.propEv q hq)
  evProp := fun r v hm => h.evProp r v (mem_append_foreign hm (hP r v))
  acc := fun p hp => ⟨(h.acc p hp).1, fun hne => by
    obtain ⟨rc, hg⟩ := (h.acc p hp).2 hne; exact ⟨rc, List.mem_append_left _ hg⟩⟩
  gRound := fun rc hm => h.gRound rc (mem_append_foreign hm (hG rc))
  propLe := fun hn => h.propLe (fun rc hm => hn rc (List.mem_append_left _ hm))
  prep := fun x hx => ⟨(h.prep x hx).1.ext evs, (h.prep x hx).2.ext evs⟩
  kLock := fun k1 r v hk hg => by
    rcases getElem?_append_cases hk with ⟨_, hk⟩ | ⟨_, hk⟩
    · exact h.kLock k1 r v hk (fun g rc hlt hgg => hg g rc hlt (getElem?_append_old hgg))
    · exact hK r v (getElem?_mem' hk)
  rcRound := fun k1 r' pr pv hk => by
    rcases getElem?_append_cases hk with ⟨_, hk⟩ | ⟨_, hk⟩
    · rcases h.rcRound k1 r' pr pv hk with h1 | ⟨g, rc, h1, h2, h3⟩
      · exact Or.inl h1
      · exact Or.inr ⟨g, rc, h1, getElem?_append_old h2, h3⟩
    · exact Or.inl (hRC r' pr pv (getElem?_mem' hk))
  commits := fun x hx => (h.commits x hx).ext evs
  dec := fun hd => by obtain ⟨r, hr⟩ := h.dec hd; exact ⟨r, List.mem_append_left _ hr⟩

theorem NodeInv.ext {P : Params} {T : List (Ev (Op P))} {i : Op P} {s : State} (h : NodeInv P T i s)
    (evs : List (Ev (Op P))) (hP : ∀ r v, Ev.P i r v ∉ evs) (hK : ∀ r v, Ev.K i r v ∉ evs)
    (hRC : ∀ r pr pv, Ev.RC i r pr pv ∉ evs) (hG : ∀ rc, Ev.G i rc ∉ evs) : NodeInv P (T ++ evs) i s :=
  h.ext_own evs hP hG (fun r v hm => absurd hm (hK r v)) (fun r pr pv hm => absurd hm (hRC r pr pv))

theorem nodeInvO_other {P : Params} {T : List (Ev (Op P))} {j : Op P} {os : Option State} (h : NodeInvO P T j os)
    (evs : List (Ev (Op P))) (hf : ∀ e ∈ evs, e.node ≠ j) : NodeInvO P (T ++ evs) j os := by
  cases os with
  | none =>
    intro e he
    rcases List.mem_append.1 he with he | he
    · exact h e he
    · exact hf e he
  | some s =>
    exact NodeInv.ext h evs (fun r v hm => hf _ hm rfl) (fun r v hm => hf _ hm rfl) (fun r pr pv hm => hf _ hm rfl)
      (fun rc hm => hf _ hm rfl)

theorem NodeInv.ext_K {P : Params} {T : List (Ev (Op P))} {i : Op P} {s : State} (h : NodeInv P T i s)
    (r v : Nat) (h1 : r ≤ s.round) (h2 : r ≤ s.lastPreparedRound) : NodeInv P (T ++ [Ev.K i r v]) i s :=
  h.ext_own _ (fun _ _ hm => nomatch List.mem_singleton.1 hm) (fun _ hm => nomatch List.mem_singleton.1 hm)
    (fun _ _ hm => by cases List.mem_singleton.1 hm; exact ⟨h1, h2⟩) (fun _ _ _ hm => nomatch List.mem_singleton.1 hm)

theorem NodeInv.ext_RC {P : Params} {T : List (Ev (Op P))} {i : Op P} {s : State} (h : NodeInv P T i s)
    (r pr pv : Nat) (h1 : r ≤ s.round) : NodeInv P (T ++ [Ev.RC i r pr pv]) i s :=
  h.ext_own _ (fun _ _ hm => nomatch List.mem_singleton.1 hm) (fun _ hm => nomatch List.mem_singleton.1 hm)
    (fun _ _ hm => nomatch List.mem_singleton.1 hm) (fun _ _ _ hm => by cases List.mem_singleton.1 hm; exact h1)

theorem NodeInv.upd_roundChange {P : Params} {T : List (Ev (Op P))} {i : Op P} {s : State} (h : NodeInv P T i s)
    (X : Container) : NodeInv P T i { s with roundChange := X } :=
  { h with }

theorem NodeInv.upd_commit {P : Params} {T : List (Ev (Op P))} {i : Op P} {s : State} (h : NodeInv P T i s)
    (m : Msg) (hm : CommitOK P T m) : NodeInv P T i { s with commit := s.commit ++ [m] } :=
  { h with
    commits := fun x hx => (List.mem_append.1 hx).elim (h.commits x) (fun hx => List.mem_singleton.1 hx ▸ hm) }

theorem NodeInv.upd_prepare {P : Params} {T : List (Ev (Op P))} {i : Op P} {s : State} (h : NodeInv P T i s)
    (m : Msg) (hm : PrepOK P T m) (hk : PrepKind T i s m) : NodeInv P T i { s with prepare := s.prepare ++ [m] } :=
  { h with
    prep := fun x hx => (List.mem_append.1 hx).elim (h.prep x) (fun hx => by cases List.mem_singleton.1 hx; exact ⟨hm, hk⟩) }

theorem NodeInv.upd_lock {P : Params} {T : List (Ev (Op P))} {i : Op P} {s : State} (h : NodeInv P T i s)
    (v : Nat) (hv : v ≠ 0) : NodeInv P T i { s with lastPreparedValue := v, lastPreparedRound := s.round } :=
  { h with
    lock := fun _ => hv
    kLock := fun k1 r w hk hg => ⟨(h.kLock k1 r w hk hg).1, (h.kLock k1 r w hk hg).1⟩ }

theorem NodeInv.upd_decided {P : Params} {T : List (Ev (Op P))} {i : Op P} {s : State} (h : NodeInv P T i s)
    (v : Nat) (hd : ∃ r, Ev.D i r v ∈ T) : NodeInv P T i { s with decided := true, decidedValue := v } :=
  { h with
    gRound := fun rc hg => ⟨(h.gRound rc hg).1, rfl⟩
    dec := fun _ => hd }

theorem NodeInv.upd_jump {P : Params} {T : List (Ev (Op P))} {i : Op P} {s : State} (h : NodeInv P T i s)
    (X : Container) (R : Nat) (hR : s.round < R) :
    NodeInv P T i { s with roundChange := X, round := R, accepted := none } where
  __ := h
  round := le_trans h.round (Nat.le_of_lt hR)
  acc := fun p hp => by simp at hp
  gRound := fun rc hg => ⟨le_trans (h.gRound rc hg).1 (Nat.le_of_lt hR), (h.gRound rc hg).2⟩
  propLe := fun hn q hq => le_trans (h.propLe hn q hq) (Nat.le_of_lt hR)
  low := fun p hp => by simp at hp
  prep := fun x hx => by
    refine ⟨(h.prep x hx).1, ?_⟩
    rcases (h.prep x hx).2 with hF | ⟨hg, hS⟩
    · exact Or.inl hF
    · refine Or.inr ⟨hg, Or.inl ?_⟩
      show x.round < R
      rcases hS with hS | ⟨hS, _⟩
      · exact Nat.lt_trans hS hR
      · exact hS ▸ hR
  kLock := fun k1 r v hk hg => ⟨le_trans (h.kLock k1 r v hk hg).1 (Nat.le_of_lt hR), (h.kLock k1 r v hk hg).2⟩
  rcRound := fun k1 r' pr pv hk => by
    rcases h.rcRound k1 r' pr pv hk with h1 | ⟨g, rc, h1, h2, h3⟩
    · exact Or.inl (le_trans h1 (Nat.le_of_lt hR))
    · exact Or.inr ⟨g, rc, h1, h2, le_trans h3 (Nat.le_of_lt hR)⟩

/-- a stored prepare of the current round is for the root of the accepted proposal, unless that proposal is of a higher
    round (which only a decided message that lowered the round brings about) -/
theorem NodeInv.prep_root {P : Params} {T : List (Ev (Op P))} {i : Op P} {s : State} (h : NodeInv P T i s) {p x : Msg}
    (hacc : s.accepted = some p) (hns : ¬ s.round < p.round) (hx : x ∈ s.prepare) (hxr : x.round = s.round) :
    x.root = p.root := by
  rcases (h.prep x hx).2 with ⟨q, hq, hqr, hqroot⟩ | ⟨_, hS⟩
  · -- `x` matches a stored proposal `q` of the current round: `q` is `p`, or `p` is of a lower round and `q` cannot exist
    by_cases hpr : p.round = s.round
    · rw [← hqroot]
      exact h.propUniq q hq p (h.acc p hacc).1 (by rw [hqr, hxr, hpr])
    · have hlow := h.low p hacc (Nat.lt_of_le_of_ne (Nat.le_of_not_lt hns) hpr) q hq
      rw [hqr, hxr] at hlow
      exact absurd hlow (Nat.lt_irrefl _)
  · rcases hS with hS | ⟨_, q', hacc', _, hroot⟩
    · exact absurd (hxr ▸ hS) (Nat.lt_irrefl _)
    · cases hacc.symm.trans hacc'
      exact hroot

end Ssv.Qbft.B
