/-
Sequences of faults (property C12): every fault is followed by restart-and-resume, the next fault may hit any later
block (or the same block again). Core Lean only.
-/
import Ssv.Proofs.RegistryFault

namespace Ssv.Registry

theorem run_append (me : Nat) (n : Node) (a b : List Block) :
    run me n (a ++ b) = if (run me n a).2 then run me (run me n a).1 b else run me n a := by
  induction a generalizing n with
  | nil => rfl
  | cons x xs ih =>
    cases hs : (applyBlock me n x).2.1 with
    | ok => simp only [List.cons_append, run, hs]; exact ih _
    | refused => simp [run, hs]
    | panicked => simp [run, hs]

/-- a stream that is processed completely starts with a block above the marker that is processed, without a
    panic, and the rest is processed completely from the state after it -/
theorem run_ok_head (me : Nat) (n : Node) (b : Block) (rest : List Block) (hok : (run me n (b :: rest)).2 = true) :
    (applyBlock me n b).2.1 = .ok ∧ (run me (applyBlock me n b).1 rest).2 = true ∧
    n.reg.db.marker.getD 0 < b.number ∧
    (regEvents me b.number (beginReg n.reg) b.events).2 = false := by
  rw [run] at hok
  cases hs : (applyBlock me n b).2.1 with
  | refused => rw [hs] at hok; cases hok
  | panicked => rw [hs] at hok; cases hok
  | ok =>
    rw [hs] at hok
    obtain ⟨hinf, hnp, _⟩ := applyBlock_ok_eq me n b hs
    exact ⟨rfl, hok, Nat.not_le.1 (of_decide_eq_false hinf),
      ((runEvents_reg me b.number (beginTxn n) b.events).2.symm.trans hnp)⟩

theorem run_ok_numbers (me : Nat) (n : Node) (bs : List Block) (hok : (run me n bs).2 = true) :
    ∀ c ∈ bs, n.reg.db.marker.getD 0 < c.number := by
  induction bs generalizing n with
  | nil => intro c hc; cases hc
  | cons b bs ih =>
    obtain ⟨hbok, hrest, hb, _⟩ := run_ok_head me n b bs hok
    intro c hc
    rcases List.mem_cons.1 hc with rfl | hc
    · exact hb
    · have := ih _ hrest c hc
      rw [applyBlock_ok_marker me n b hbok] at this
      exact Nat.lt_trans hb this

theorem SelfInv.reset {me : Nat} {evs : List Event} {x : RegMem} (h : SelfInv me evs x) (ht : x.txn = x.db) : SelfInv me [] x :=
  ⟨h.nz, h.own, h.has, fun _ hid => Or.inl (ht ▸ hid), h.mono⟩

theorem OpAddsWF.suffix {a b : List Event} (h : OpAddsWF (a ++ b)) : OpAddsWF b := by
  unfold OpAddsWF at *
  rw [addIds_append] at h
  exact ⟨(List.nodup_append.1 h.1).2.1, fun h0 => h.2 (List.mem_append_right _ h0)⟩

/-- What the fault theorem needs of a node and the stream it is about to process: a state between blocks with a sane
    wallet, the own operator id in memory matching the stored operators, OperatorAdded ids of the stream fresh and
    non-zero, and the stream is processed completely when nothing goes wrong. -/
structure Resumable (me : Nat) (n : Node) (bs : List Block) : Prop where
  boundary : Boundary n
  sane : Sane n.wal
  self : SelfInv me [] n.reg
  wf : OpAddsWF (flatten bs)
  ok : (run me n bs).2 = true

theorem Resumable.ownId {me : Nat} {n : Node} {bs : List Block} (h : Resumable me n bs) : OwnIdStored me n :=
  ⟨h.boundary.reg.txn ▸ h.self.own, h.boundary.reg.txn ▸ h.self.has⟩

/-- processing a prefix of the stream leads to a node that is ready for the rest -/
theorem Resumable.split {me : Nat} {n : Node} {a b : List Block} (h : Resumable me n (a ++ b)) :
    (run me n a).2 = true ∧ run me n (a ++ b) = run me (run me n a).1 b ∧ Resumable me (run me n a).1 b := by
  have happ := run_append me n a b
  have hpre : (run me n a).2 = true := by
    cases hp : (run me n a).2 with
    | true => rfl
    | false => rw [hp, if_neg Bool.false_ne_true] at happ; exact hp.symm.trans (happ ▸ h.ok)
  rw [hpre, if_pos rfl] at happ
  have hwf : OpAddsWF (flatten a ++ flatten b) := List.flatMap_append ▸ h.wf
  have hbd := run_boundary me n a h.boundary hpre
  have hinv := (run_sim_ideal me n a h.boundary.reg.txn h.self hwf.prefix hpre).2.1
  exact ⟨hpre, happ,
    { boundary := hbd, sane := run_sane me n a h.sane, self := hinv.reset hbd.reg.txn, wf := hwf.suffix, ok := happ ▸ h.ok }⟩

theorem Resumable.rest {me : Nat} {n : Node} {a b : List Block} (h : Resumable me n (a ++ b)) :
    Resumable me (run me n a).1 b := h.split.2.2

/-- the node at the end of the stream is ready for whatever comes next -/
theorem Resumable.after {me : Nat} {n : Node} {a : List Block} (h : Resumable me n a) : Resumable me (run me n a).1 [] :=
  Resumable.rest ((List.append_nil a).symm ▸ h)

/-- One fault, not between account record and wallet index, in the first block of the stream: the restarted node is
    again ready for the stream it asks for, and processing that stream without further faults ends where the
    uninterrupted run ends. -/
theorem fault_step {me : Nat} {n : Node} {b : Block} {rest : List Block} (h : Resumable me n (b :: rest))
    (kind : FaultKind) (k : Nat) (hk : kind ≠ .retry) (hgood : (faultBlock me n b kind k).2 ≠ .faultedBad) :
    Resumable me (faultBlock me n b kind k).1 (resumeList (faultBlock me n b kind k).1 (b :: rest)) ∧
    SameOutcome (faultRun me n b rest kind k) (run me n (b :: rest)) := by
  obtain ⟨hbok, hrest, hv1, hnp⟩ := run_ok_head me n b rest h.ok
  have hv2 : ∀ c ∈ rest, b.number < c.number := by
    intro c hc
    have := run_ok_numbers me _ rest hrest c hc
    rwa [applyBlock_ok_marker me n b hbok] at this
  obtain ⟨hone, hx⟩ := fault_resume me n b rest kind k hk h.boundary h.sane h.ownId hnp hv1 hv2 hgood
  refine ⟨?_, hone⟩
  rcases hx with ⟨_, hx⟩ | ⟨hreg, hsx⟩
  · rw [hx, resumeList_next _ b rest (applyBlock_ok_marker me n b hbok) hv2]
    have h1 := Resumable.rest (a := [b]) h
    rwa [show run me n [b] = ((applyBlock me n b).1, true) by rw [run, hbok]; rfl] at h1
  · rw [resumeList_same _ b rest (hreg ▸ hv1) hv2]
    refine { boundary := ⟨hreg ▸ h.boundary.reg, hsx.idx⟩, sane := hsx, self := hreg ▸ h.self, wf := h.wf, ok := ?_ }
    -- whether a stream is processed completely depends on the registry only
    rw [(run_reg me _ (b :: rest)).2, hreg, ← (run_reg me n (b :: rest)).2]
    exact h.ok

/-- Any sequence of crashes / failing writes, each at any write index of any block still to be processed and each
    followed by restart-and-resume: unless one of them falls between the account record and the wallet index of an
    AddShare, the stream ends exactly where the uninterrupted run ends. -/
theorem fault_sequence (me : Nat) (fs : List Fault) (n : Node) (bs : List Block) (hkinds : ∀ f ∈ fs, f.kind ≠ .retry)
    (h : Resumable me n bs) (hgood : (faultyRun me n bs fs).2 = false) :
    SameOutcome (faultyRun me n bs fs).1 (run me n bs) := by
  induction fs generalizing n bs with
  | nil => exact run_same me bs n n (.refl h.sane)
  | cons f fs ih =>
    -- the blocks in front of the fault are processed as usual; the fault hits the first block of what is left
    -- (`fault_step`), and the remaining faults meet a `Resumable` node again
    have hsplit := List.take_append_drop f.skip bs
    obtain ⟨hpre, happ, h1⟩ := Resumable.split (hsplit.symm ▸ h)
    rw [hsplit] at happ
    rw [happ]
    simp only [faultyRun, hpre, Bool.not_true, Bool.false_eq_true, ↓reduceIte] at hgood ⊢
    cases hd : bs.drop f.skip with
    | nil => exact ⟨hpre, .refl h1.sane⟩
    | cons b rest =>
      rw [hd] at h1
      simp only [hd, Bool.or_eq_false_iff, beq_eq_false_iff_ne, ne_eq] at hgood ⊢
      obtain ⟨h2, hone⟩ := fault_step h1 f.kind f.k (hkinds f List.mem_cons_self) hgood.2
      exact (ih _ _ (fun g hg => hkinds g (List.mem_cons_of_mem _ hg)) h2 hgood.1).trans hone

end Ssv.Registry
