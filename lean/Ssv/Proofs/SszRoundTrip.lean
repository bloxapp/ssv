/- Round trips decode ∘ encode for the SSZ model (C08): the accepting paths of the decoders are reachable for every well-formed message. -/
import Ssv.Proofs.Ssz
namespace Ssv.Ssz

theorem leBytes_eq (k n : Nat) : leBytes k n = digitsLE 256 k n := by
  induction k generalizing n with
  | zero => rfl
  | succ k ih => rw [leBytes, ih, digitsLE_succ]

@[simp] theorem leBytes_length (k n : Nat) : (leBytes k n).length = k :=
  leBytes_eq k n ▸ length_digitsLE 256 k n

theorem leBytes_lt (k n : Nat) : ∀ b ∈ leBytes k n, b < 256 :=
  leBytes_eq k n ▸ digitsLE_lt 256 k n (by decide)

theorem leVal_leBytes (k n : Nat) (h : n < 256 ^ k) : leVal (leBytes k n) = n := by
  rw [leBytes_eq, leVal_eq, ofDigitsLE_digitsLE, Nat.mod_eq_of_lt h]

theorem readU64_leBytes (n : Nat) (h : n < 2 ^ 64) : readU64 (leBytes 8 n) = .ok n := by
  rw [readU64, if_neg (by simp), List.take_of_length_le (by simp)]
  exact congrArg _ (leVal_leBytes 8 n h)

theorem readOffset_prefix (n : Nat) (h : n < 2 ^ 32) (t : List Nat) : readOffset (leBytes 4 n ++ t) = .ok n := by
  rw [readOffset, if_neg (by simp), List.take_append_of_le_length (by simp), List.take_of_length_le (by simp)]
  exact congrArg _ (leVal_leBytes 4 n h)

theorem readOffset_leBytes (n : Nat) (h : n < 2 ^ 32) : readOffset (leBytes 4 n) = .ok n := by
  simpa using readOffset_prefix n h []

theorem flatten_map_length {α} (f : α → List Nat) (w : Nat) (l : List α) (h : ∀ x ∈ l, (f x).length = w) :
    (l.map f).flatten.length = l.length * w := by
  induction l with
  | nil => exact (Nat.zero_mul w).symm
  | cons x r ih =>
    rw [List.map_cons, List.flatten_cons, List.length_append, List.length_cons, Nat.succ_mul, Nat.add_comm,
      ih fun y hy => h y (List.mem_cons_of_mem _ hy), h x List.mem_cons_self]

theorem flatten_le (l : List (List Nat)) (M : Nat) (h : ∀ x ∈ l, x.length ≤ M) : l.flatten.length ≤ l.length * M := by
  induction l with
  | nil => exact Nat.zero_le _
  | cons x r ih =>
    rw [List.flatten_cons, List.length_append, List.length_cons, Nat.succ_mul, Nat.add_comm]
    exact Nat.add_le_add (ih fun y hy => h y (List.mem_cons_of_mem _ hy)) (h x List.mem_cons_self)

/- Every round trip reads the fields of the encoding from left to right. `Rest b lo r`: `r` is what remains of the buffer `b`
from position `lo` on. The encoding, its appends nested to the right, is what remains from position 0; `Rest.field` then hands
out one field after the other together with the slice that reads it (`Rest.u64`, `Rest.offset`: an integer field with its read),
and the cursor it leaves behind (`Rest.le`) is what makes the decoder's size and offset guards pass; with these facts one
`simp only` runs the decoder. -/

def Rest (b : List Nat) (lo : Nat) (r : List Nat) : Prop := ∃ p, p.length = lo ∧ b = p ++ r

theorem Rest.zero {b r : List Nat} (h : b = r) : Rest b 0 r := ⟨[], rfl, h⟩

theorem Rest.append {p r : List Nat} {lo : Nat} (h : p.length = lo) : Rest (p ++ r) lo r := ⟨p, h, rfl⟩

theorem Rest.length {b r : List Nat} {lo : Nat} (h : Rest b lo r) : b.length = lo + r.length := by
  obtain ⟨p, rfl, rfl⟩ := h
  exact List.length_append

theorem Rest.field {b s r : List Nat} {lo k hi : Nat} (h : Rest b lo (s ++ r)) (hs : s.length = k) (hhi : lo + k = hi) :
    slice b lo hi = .ok s ∧ Rest b hi r := by
  obtain ⟨p, rfl, rfl⟩ := h
  subst hs hhi
  exact ⟨by simp [slice], p ++ s, List.length_append, (List.append_assoc ..).symm⟩

theorem Rest.int {b r : List Nat} {lo k n hi : Nat} (h : Rest b lo (leBytes k n ++ r)) (hhi : lo + k = hi) :
    slice b lo hi = .ok (leBytes k n) ∧ Rest b hi r := h.field (leBytes_length ..) hhi

theorem Rest.u64 {b r : List Nat} {lo n hi : Nat} (h : Rest b lo (leBytes 8 n ++ r)) (hn : n < 2 ^ 64) (hhi : lo + 8 = hi) :
    (slice b lo hi).bind readU64 = .ok n ∧ Rest b hi r :=
  have ⟨e, h'⟩ := h.int hhi
  ⟨e ▸ readU64_leBytes n hn, h'⟩

theorem Rest.offset {b r : List Nat} {lo n hi : Nat} (h : Rest b lo (leBytes 4 n ++ r)) (hn : n < 2 ^ 32) (hhi : lo + 4 = hi) :
    (slice b lo hi).bind readOffset = .ok n ∧ Rest b hi r :=
  have ⟨e, h'⟩ := h.int hhi
  ⟨e ▸ readOffset_leBytes n hn, h'⟩

theorem Rest.le {b r : List Nat} {lo : Nat} (h : Rest b lo r) : lo ≤ b.length :=
  h.length ▸ Nat.le_add_right ..

theorem Rest.sliceFrom {b r : List Nat} {lo : Nat} (h : Rest b lo r) : sliceFrom b lo = .ok r := by
  obtain ⟨p, rfl, rfl⟩ := h
  simp [Ssz.sliceFrom]

theorem decode_encodeSSV (m : SSVMessage) (hid : m.msgID.length = 56) (ht : m.msgType < 2 ^ 64)
    (hd : m.data.length ≤ ssvMaxData) : decodeSSV (encodeSSV m) = .ok m := by
  generalize hbuf : encodeSSV m = buf
  have h0 := Rest.zero hbuf.symm
  simp only [encodeSSV, List.append_assoc] at h0
  obtain ⟨e1, h1⟩ := h0.int (hi := 8) rfl
  obtain ⟨e2, h2⟩ := h1.field (hi := 64) hid rfl
  obtain ⟨e3, h3⟩ := h2.int (hi := 68) rfl
  have e4 : sliceFrom buf ssvFixed = .ok m.data := h3.sliceFrom
  have g1 : ¬ buf.length < ssvFixed := Nat.not_lt.mpr h3.le
  unfold decodeSSV
  simp only [ok_bind, g1, Nat.not_lt.mpr hd, if_false, Nat.lt_irrefl, e1, e2, e3, e4, readU64_leBytes _ ht,
    readOffset_leBytes ssvFixed (by decide), gt_iff_lt]

structure PSig.WF (m : PSig) : Prop where
  sig : m.partialSignature.length = 96
  root : m.signingRoot.length = 32
  signer : m.signer < 2 ^ 64

theorem encodePSig_length {m : PSig} (h : m.WF) : (encodePSig m).length = psigSize := by
  simp [encodePSig, h.sig, h.root, psigSize]

theorem decode_encodePSig {m : PSig} (h : m.WF) : decodePSig (encodePSig m) = .ok m := by
  have hlen := encodePSig_length h
  generalize hbuf : encodePSig m = buf at hlen
  have h0 := Rest.zero hbuf.symm
  simp only [encodePSig, List.append_assoc] at h0
  rw [← List.append_nil (leBytes 8 m.signer)] at h0
  obtain ⟨e1, h1⟩ := h0.field (hi := 96) h.sig rfl
  obtain ⟨e2, h2⟩ := h1.field (hi := 128) h.root rfl
  obtain ⟨e3, -⟩ := h2.u64 h.signer (hi := 136) rfl
  unfold decodePSig
  simp only [hlen, ne_eq, not_true_eq_false, if_false, ok_bind, e1, e2, e3]

theorem readPSigs_enc {buf : List Nat} : ∀ (l : List PSig) (i : Nat), (∀ x ∈ l, x.WF) →
    Rest buf (i * psigSize) (l.map encodePSig).flatten → readPSigs buf i l.length = .ok l := by
  intro l
  induction l with
  | nil => intro _ _ _; rfl
  | cons x r ih =>
    intro i hl h
    have hx := hl x List.mem_cons_self
    obtain ⟨e, h'⟩ := h.field (hi := (i + 1) * psigSize) (encodePSig_length hx) (Nat.succ_mul ..).symm
    simp only [List.length_cons, readPSigs, ok_bind, e, Res.bind, decode_encodePSig hx,
      ih (i + 1) (fun y hy => hl y (List.mem_cons_of_mem _ hy)) h']

structure PSigs.WF (m : PSigs) : Prop where
  type : m.type < 2 ^ 64
  slot : m.slot < 2 ^ 64
  count : m.messages.length ≤ maxPSigs
  each : ∀ x ∈ m.messages, x.WF

theorem decode_encodePSigs {m : PSigs} (h : m.WF) : decodePSigs (encodePSigs m) = .ok m := by
  have hF := flatten_map_length encodePSig psigSize m.messages fun x hx => encodePSig_length (h.each x hx)
  have hrd := readPSigs_enc (buf := (m.messages.map encodePSig).flatten) m.messages 0 h.each (Rest.zero rfl)
  generalize hbuf : encodePSigs m = buf
  have h0 := Rest.zero hbuf.symm
  simp only [encodePSigs, List.append_assoc] at h0
  generalize (m.messages.map encodePSig).flatten = F at *
  obtain ⟨e1, h1⟩ := h0.u64 h.type (hi := 8) rfl
  obtain ⟨e2, h2⟩ := h1.u64 h.slot (hi := 16) rfl
  obtain ⟨e3, h3⟩ := h2.offset (by decide) (hi := 20) rfl
  have e4 : sliceFrom buf psigsFixed = .ok F := h3.sliceFrom
  have g1 : ¬ buf.length < psigsFixed := Nat.not_lt.mpr h3.le
  have g3 : ¬ m.messages.length > maxPSigs := Nat.not_lt.mpr h.count
  unfold decodePSigs
  simp only [ok_bind, g1, g3, if_false, Nat.lt_irrefl, e1, e2, e3, e4, hF, Nat.mul_mod_left, ne_eq, not_true_eq_false, Nat.mul_div_cancel _ (by decide : 0 < psigSize), hrd]

structure SPSig.WF (m : SPSig) : Prop where
  sig : m.signature.length = 96
  signer : m.signer < 2 ^ 64
  message : m.message.WF

theorem decode_encodeSPSig {m : SPSig} (h : m.WF) : decodeSPSig (encodeSPSig m) = .ok m := by
  generalize hbuf : encodeSPSig m = buf
  have h0 := Rest.zero hbuf.symm
  simp only [encodeSPSig, List.append_assoc] at h0
  obtain ⟨e1, h1⟩ := h0.offset (by decide) (hi := 4) rfl
  obtain ⟨e2, h2⟩ := h1.field (hi := 100) h.sig rfl
  obtain ⟨e3, h3⟩ := h2.u64 h.signer (hi := 108) rfl
  have e4 : sliceFrom buf spsigFixed = .ok _ := h3.sliceFrom
  have g1 : ¬ buf.length < spsigFixed := Nat.not_lt.mpr h3.le
  unfold decodeSPSig
  simp only [ok_bind, g1, if_false, Nat.lt_irrefl, e1, e2, e3, e4, gt_iff_lt, decode_encodePSigs h.message]

@[simp] theorem offTable_length (off : Nat) (l : List (List Nat)) : (offTable off l).length = 4 * l.length := by
  induction l generalizing off with
  | nil => rfl
  | cons x r ih => rw [offTable, List.length_append, leBytes_length, ih, List.length_cons, Nat.mul_succ, Nat.add_comm]

theorem encodeDyn_length (l : List (List Nat)) : (encodeDyn l).length = 4 * l.length + l.flatten.length := by
  simp [encodeDyn]

theorem encodeDyn_le {l : List (List Nat)} {n M : Nat} (hn : l.length ≤ n) (hM : ∀ x ∈ l, x.length ≤ M) :
    (encodeDyn l).length ≤ n * (4 + M) :=
  calc (encodeDyn l).length = 4 * l.length + l.flatten.length := encodeDyn_length l
    _ ≤ l.length * 4 + l.length * M := Nat.mul_comm 4 _ ▸ Nat.add_le_add_left (flatten_le l M hM) _
    _ = l.length * (4 + M) := (Nat.mul_add ..).symm
    _ ≤ n * (4 + M) := Nat.mul_le_mul_right _ hn

theorem encodeDyn_cons (x : List Nat) (r : List (List Nat)) :
    encodeDyn (x :: r) = leBytes 4 (4 * (r.length + 1)) ++ (offTable (4 * (r.length + 1) + x.length) r ++ (x :: r).flatten) := by
  simp only [encodeDyn, offTable, List.length_cons, List.append_assoc]

/-- `safeReadOffset` on a table that starts with the entry `n`, followed by `sliceFrom _ 4` -/
theorem safeReadOffset_entry {n : Nat} (h : n < 2 ^ 32) (t : List Nat) :
    ¬ (leBytes 4 n ++ t).length < 4 ∧ readOffset (leBytes 4 n ++ t) = .ok n ∧ sliceFrom (leBytes 4 n ++ t) 4 = .ok t :=
  have h4 : Rest (leBytes 4 n ++ t) 4 t := Rest.append (leBytes_length 4 n)
  ⟨Nat.not_lt.mpr h4.le, readOffset_prefix n h t, h4.sliceFrom⟩

/-- the loop of `UnmarshalDynamic` on a well-formed source: the items `x :: r` are what remains of `src` from `offset` on, and
    `dst` starts with the table entries of `r`, i.e. the end offsets of `x` and of each item but the last -/
theorem dynLoop_enc {src B : List Nat} {f : List Nat → Res (List Nat)} :
    ∀ (r : List (List Nat)) (x : List Nat) (offset : Nat), (∀ y ∈ x :: r, f y = .ok y) →
      Rest src offset (x :: r).flatten → offset + (x :: r).flatten.length < 2 ^ 32 →
      dynLoop src f (r.length + 1) offset (offTable (offset + x.length) r ++ B) = .ok (x :: r) := by
  intro r
  induction r with
  | nil =>
    intro x offset hf h _
    rw [List.flatten_cons] at h
    have hlen : src.length = offset + x.length := by simpa using h.length
    obtain ⟨e, -⟩ := h.field (hi := src.length) rfl hlen.symm
    simp only [List.length_nil, Nat.zero_add, dynLoop, ne_eq, not_true_eq_false, if_false, Res.bind, Nat.lt_irrefl, e,
      hf x List.mem_cons_self, gt_iff_lt, Nat.not_lt.mpr h.le, if_true]
  | cons y r ih =>
    intro x offset hf h h32
    rw [List.flatten_cons, List.length_append] at h32
    obtain ⟨e, h'⟩ := Rest.field (s := x) h rfl rfl
    obtain ⟨g, hro, hsf⟩ := safeReadOffset_entry (n := offset + x.length) (by omega) (offTable (offset + x.length + y.length) r ++ B)
    have hrec := ih y (offset + x.length) (fun z hz => hf z (List.mem_cons_of_mem _ hz)) h' (by omega)
    rw [List.length_cons, dynLoop, offTable, List.append_assoc]
    simp only [ne_eq, Nat.add_eq_right, Nat.add_one_ne_zero, not_false_eq_true, if_true, if_false, ok_bind, Res.bind, g, hro, hsf,
      gt_iff_lt, Nat.not_lt.mpr (Nat.le_add_right _ _), Nat.not_lt.mpr h'.le, e, hf x List.mem_cons_self, hrec]

theorem justItem_enc {M : Nat} {x : List Nat} (h : x.length ≤ M) : justItem M x = .ok x := if_neg (Nat.not_lt.mpr h)

theorem decodeDynamicLength_table {n m : Nat} (t : List Nat) (hn : n ≤ m) (h32 : 4 * n < 2 ^ 32) :
    decodeDynamicLength (leBytes 4 (4 * n) ++ t) m = .ok n := by
  generalize hb : leBytes 4 (4 * n) ++ t = b
  obtain ⟨e, h4⟩ := (Rest.zero hb.symm).int (hi := 4) rfl
  have g0 : b.length ≠ 0 := fun h0 => absurd (h0 ▸ h4.le) (by decide)
  unfold decodeDynamicLength
  simp only [g0, if_false, Nat.not_lt.mpr h4.le, ok_bind, e, readOffset_leBytes _ h32,
    Nat.mul_mod_right, ne_eq, not_true_eq_false, Nat.mul_div_cancel_left _ (by decide : 0 < 4), gt_iff_lt, Nat.not_lt.mpr hn]

theorem decodeDynamicLength_enc (items : List (List Nat)) (m : Nat) (hn : items.length ≤ m) (h32 : (encodeDyn items).length < 2 ^ 32) :
    decodeDynamicLength (encodeDyn items) m = .ok items.length := by
  cases items with
  | nil => rfl
  | cons x r =>
    rw [encodeDyn_cons]
    exact decodeDynamicLength_table _ hn (Nat.lt_of_le_of_lt (encodeDyn_length _ ▸ Nat.le_add_right ..) h32)

theorem unmarshalDynamic_enc (items : List (List Nat)) (M : Nat) (hM : ∀ x ∈ items, x.length ≤ M)
    (h32 : (encodeDyn items).length < 2 ^ 32) :
    unmarshalDynamic (encodeDyn items) items.length (justItem M) = .ok items := by
  cases items with
  | nil => rfl
  | cons x r =>
    rw [encodeDyn_length, List.length_cons] at h32
    obtain ⟨-, hro, hsf⟩ := safeReadOffset_entry (n := 4 * (r.length + 1)) (by omega)
      (offTable (4 * (r.length + 1) + x.length) r ++ (x :: r).flatten)
    -- the items follow the table, which takes four bytes per item
    have hl := dynLoop_enc (src := encodeDyn (x :: r)) (B := (x :: r).flatten) r x (4 * (r.length + 1))
      (fun y hy => justItem_enc (hM y hy)) (Rest.append (offTable_length ..)) h32
    rw [← encodeDyn_cons] at hro hsf
    unfold unmarshalDynamic
    simp only [List.length_cons, Nat.add_one_ne_zero, if_false, ok_bind, hro, hsf, hl]

theorem dynList_enc {items : List (List Nat)} {n M : Nat} (hn : items.length ≤ n) (hM : ∀ x ∈ items, x.length ≤ M)
    (h32 : n * (4 + M) < 2 ^ 32) :
    decodeDynamicLength (encodeDyn items) n = .ok items.length ∧
    unmarshalDynamic (encodeDyn items) items.length (justItem M) = .ok items :=
  have h := Nat.lt_of_le_of_lt (encodeDyn_le hn hM) h32
  ⟨decodeDynamicLength_enc items n hn h, unmarshalDynamic_enc items M hM h⟩

structure QMsg.WF (m : QMsg) : Prop where
  msgType : m.msgType < 2 ^ 64
  height : m.height < 2 ^ 64
  round : m.round < 2 ^ 64
  dataRound : m.dataRound < 2 ^ 64
  bounded : m.Bounded

theorem decode_encodeQMsg {m : QMsg} (h : m.WF) : decodeQMsg (encodeQMsg m) = .ok m := by
  have hb := h.bounded
  have hid := hb.identifier
  have hJ := encodeDyn_le hb.rcjCount hb.rcjSize
  obtain ⟨d6, u6⟩ := dynList_enc hb.rcjCount hb.rcjSize (by decide)
  obtain ⟨d7, u7⟩ := dynList_enc hb.pjCount hb.pjSize (by decide)
  generalize hbuf : encodeQMsg m = buf
  have h0 := Rest.zero hbuf.symm
  simp only [encodeQMsg, List.append_assoc] at h0
  generalize encodeDyn m.rcj = J at *
  generalize encodeDyn m.pj = K at *
  have o6 : qmsgFixed + m.identifier.length < 2 ^ 32 := Nat.lt_of_le_of_lt (Nat.add_le_add_left hid _) (by decide)
  have o7 : qmsgFixed + m.identifier.length + J.length < 2 ^ 32 :=
    Nat.lt_of_le_of_lt (Nat.add_le_add (Nat.add_le_add_left hid _) hJ) (by decide)
  obtain ⟨e1, h1⟩ := h0.u64 h.msgType (hi := 8) rfl
  obtain ⟨e2, h2⟩ := h1.u64 h.height (hi := 16) rfl
  obtain ⟨e3, h3⟩ := h2.u64 h.round (hi := 24) rfl
  obtain ⟨e4, h4⟩ := h3.offset (by decide) (hi := 28) rfl
  obtain ⟨e5, h5⟩ := h4.field (hi := 60) hb.root rfl
  obtain ⟨e6, h6⟩ := h5.u64 h.dataRound (hi := 68) rfl
  obtain ⟨e7, h7⟩ := h6.offset o6 (hi := 72) rfl
  obtain ⟨e8, h8⟩ := h7.offset o7 (hi := 76) rfl
  obtain ⟨e9, h9⟩ := Rest.field (lo := qmsgFixed) h8 rfl rfl
  obtain ⟨e10, h10⟩ := h9.field rfl rfl
  have g1 : ¬ buf.length < qmsgFixed := Nat.not_lt.mpr h8.le
  unfold decodeQMsg
  simp only [ok_bind, gt_iff_lt, g1, Nat.not_lt.mpr h9.le, Nat.not_lt.mpr h10.le,
    Nat.not_lt.mpr (Nat.le_add_right _ _), Nat.not_lt.mpr hid, or_self, if_false,
    Nat.lt_irrefl, e1, e2, e3, e4, e5, e6, e7, e8, e9, e10, h10.sliceFrom, d6, u6, d7, u7]

theorem encodeQMsg_le {m : QMsg} (h : m.Bounded) :
    (encodeQMsg m).length ≤ qmsgFixed + maxIdentifier + 2 * (maxJustifications * (4 + maxJustificationSize)) := by
  have hJ := encodeDyn_le h.rcjCount h.rcjSize
  have hK := encodeDyn_le h.pjCount h.pjSize
  have hid := h.identifier
  simp only [encodeQMsg, List.length_append, leBytes_length, h.root, qmsgFixed]
  omega

structure SignedMsg.WF (m : SignedMsg) : Prop where
  sig : m.signature.length = 96
  count : m.signers.length ≤ maxSigners
  each : ∀ s ∈ m.signers, s < 2 ^ 64
  message : m.message.WF
  fullData : m.fullData.length ≤ maxFullData

theorem readU64s_enc {buf : List Nat} : ∀ (l : List Nat) (i : Nat), (∀ x ∈ l, x < 2 ^ 64) →
    Rest buf (i * 8) (l.map (leBytes 8)).flatten → readU64s buf i l.length = .ok l := by
  intro l
  induction l with
  | nil => intro _ _ _; rfl
  | cons x r ih =>
    intro i hl h
    obtain ⟨e, h'⟩ := h.u64 (hl x List.mem_cons_self) (hi := (i + 1) * 8) (Nat.succ_mul ..).symm
    simp only [List.length_cons, readU64s, ok_bind, e,
      ih (i + 1) (fun y hy => hl y (List.mem_cons_of_mem _ hy)) h']

theorem decode_encodeSigned {m : SignedMsg} (h : m.WF) : decodeSigned (encodeSigned m) = .ok m := by
  have hq := decode_encodeQMsg h.message
  have hQ := encodeQMsg_le h.message.bounded
  have hS := (flatten_map_length (leBytes 8) 8 m.signers fun _ _ => leBytes_length ..).trans (Nat.mul_comm ..)
  have hrd := readU64s_enc (buf := (m.signers.map (leBytes 8)).flatten) m.signers 0 h.each (Rest.zero rfl)
  generalize hbuf : encodeSigned m = buf
  have h0 := Rest.zero hbuf.symm
  simp only [encodeSigned, List.append_assoc] at h0
  generalize encodeQMsg m.message = Q at *
  generalize (m.signers.map (leBytes 8)).flatten = S at *
  have hc : signedFixed + 8 * m.signers.length ≤ signedFixed + 8 * maxSigners := Nat.add_le_add_left (Nat.mul_le_mul_left _ h.count) _
  have o2 : signedFixed + 8 * m.signers.length < 2 ^ 32 := Nat.lt_of_le_of_lt hc (by decide)
  have o3 : signedFixed + 8 * m.signers.length + Q.length < 2 ^ 32 := Nat.lt_of_le_of_lt (Nat.add_le_add hc hQ) (by decide)
  obtain ⟨e1, h1⟩ := h0.field (hi := 96) h.sig rfl
  obtain ⟨e2, h2⟩ := h1.offset (by decide) (hi := 100) rfl
  obtain ⟨e3, h3⟩ := h2.offset o2 (hi := 104) rfl
  obtain ⟨e4, h4⟩ := h3.offset o3 (hi := 108) rfl
  obtain ⟨e5, h5⟩ := Rest.field (lo := signedFixed) h4 hS rfl
  obtain ⟨e6, h6⟩ := h5.field rfl rfl
  have g1 : ¬ buf.length < signedFixed := Nat.not_lt.mpr h4.le
  unfold decodeSigned
  simp only [ok_bind, gt_iff_lt, g1, Nat.not_lt.mpr h5.le, Nat.not_lt.mpr h6.le,
    Nat.not_lt.mpr (Nat.le_add_right _ _), or_self, if_false, Nat.lt_irrefl, e1, e2, e3, e4, e5, e6, h6.sliceFrom,
    hS, Nat.mul_mod_right, ne_eq, not_true_eq_false, Nat.mul_div_cancel_left _ (by decide : 0 < 8), Nat.not_lt.mpr h.count,
    hrd, hq, Nat.not_lt.mpr h.fullData]

/-- the encoders write genuine byte strings: every element of an encoded SSVMessage is < 256 when the payload bytes are -/
theorem encodeSSV_bytes (m : SSVMessage) (hid : ∀ b ∈ m.msgID, b < 256) (hd : ∀ b ∈ m.data, b < 256) :
    ∀ b ∈ encodeSSV m, b < 256 := by
  intro b hb
  simp only [encodeSSV, List.mem_append] at hb
  rcases hb with ((hb | hb) | hb) | hb
  · exact leBytes_lt _ _ b hb
  · exact hid b hb
  · exact leBytes_lt _ _ b hb
  · exact hd b hb

end Ssv.Ssz
