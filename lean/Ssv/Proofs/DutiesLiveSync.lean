/- Exactly-once-if-fetched for the sync-committee handler, under `envOK`. -/
import Ssv.Proofs.DutiesLive

namespace Ssv.Duties

/-- the last block of the ticker branch resets period - 1 only, so every period from the tick's on stays covered -/
theorem syncPost_keeps (n : Net) (t0 : Nat) (s : HState) : PostKeeps .sync n t0 True s (syncPost n s t0) := by
  rw [syncPost_eq]
  refine ⟨rfl, rfl, fun h => by rw [h]; exact ite_self _, fun m' K hc hK => ?_,
    fun t ht => (Nat.lt_or_eq_of_le (keyOf_mono .sync n ht.2)).imp_right fun h => ⟨h.symm, trivial⟩⟩
  have hK' : n.period (n.epoch t0) ≤ K := by
    rcases hK with hK | hK
    · exact Nat.le_of_lt hK
    · exact Nat.le_of_eq hK.1.symm
  exact Cov.ite (fun _ => Cov.ite (fun _ => hc) fun h0 =>
    hc.reset (Nat.ne_of_lt (Nat.lt_of_lt_of_le (Nat.sub_one_lt h0) hK'))) fun _ => hc

theorem syncTick_inv (n : Net) {st : HState} {m : DMon} {now : Nat} (t0 clock : Nat) (r1 r2 : FetchRes)
    (hp : TickPre .sync n st m now t0) :
    TInv .sync n (syncTick n st t0 clock r1 r2).1 (drun .sync n m (syncTick n st t0 clock r1 r2).2) (some t0) t0
      (some (n.periodOfSlot t0)) := by
  rw [syncTick_eq]
  exact tickForm_inv .sync n true _ _ id _ t0 clock r1 r2 True hp ⟨rfl, rfl, rfl, rfl, fun h => (nomatch h)⟩
    (fun hff => ⟨hff, rfl, fun h => (nomatch h), Or.inl ⟨rfl, rfl⟩⟩) (syncPost_keeps n t0)

theorem syncReorg_inv (n : Net) {st : HState} {m : DMon} {lt : Option Nat} {now : Nat} {le : Option Nat}
    (r : Nat) (cur : Bool) (h : TInv .sync n st m lt now le) :
    TInv .sync n (syncReorgN n st le r cur) m lt (max now r) le := by
  unfold syncReorgN syncReorg
  split
  · exact h.resetNext (n.periodOfSlot r) (Nat.le_max_left ..) rfl rfl rfl h.firstCur (fun hk => (nomatch hk))
  · exact h.keep (Nat.le_max_left ..) rfl rfl id h.firstCur (fun hk => (nomatch hk))

theorem syncIndices_inv (n : Net) {st : HState} {m : DMon} {lt : Option Nat} {now : Nat} {le : Option Nat}
    (c : Nat) (h : TInv .sync n st m lt now le) : TInv .sync n (syncIndices n st c) m lt (max now c) le := by
  unfold syncIndices
  split
  · exact h.keep (Nat.le_max_left ..) rfl rfl (fun _ => rfl) (fun _ => rfl) (fun hk => (nomatch hk))
  · exact h.keep (Nat.le_max_left ..) rfl rfl id (fun _ => rfl) (fun hk => (nomatch hk))

theorem sync_step_inv (n : Net) {rs : RState} {m : DMon} {lt : Option Nat} {now : Nat} (e : Event)
    (h : TInv .sync n rs.st m lt now rs.le) (hc : ∀ s c r1 r2, e = .tick s c r1 r2 → Cand lt now s) :
    TInv .sync n (step .sync n rs e).1.st (drun .sync n m (step .sync n rs e).2) (ltAfter lt e) (nowAfter now e)
      (step .sync n rs e).1.le := by
  cases e with
  | tick s c r1 r2 =>
    dsimp only [step]
    exact syncTick_inv n s c r1 r2 (h.tickPre (hc s c r1 r2 rfl))
  | reorg r p c =>
    dsimp only [step]
    exact syncReorg_inv n r c h
  | indices c =>
    dsimp only [step]
    exact syncIndices_inv n c h

theorem sync_exactly_run (n : Net) (clock0 : Nat) (r0 : FetchRes) (evs : List Event)
    (henv : envOK none clock0 evs = true) : exactlyOnceOK .sync n (run .sync n clock0 r0 evs) = true := by
  rw [exactlyOnceOK_run]
  refine exactly_runFrom .sync n (TInv .sync n) (fun h => h.ok) (sync_step_inv n) evs _ _ none clock0 ?_ henv
  have fp := fetch_post .sync n [] DMon.init (n.periodOfSlot clock0)
    (max (n.periodOfSlot clock0 * n.epp) (n.epoch clock0)) r0
  simp only [initH, syncInit, syncFetch_eq]
  refine ⟨⟨fp.okeq, fun _ => rfl, fun hk => (nomatch hk), fun K A hA => ?_⟩, fun t _ => Or.inl rfl, fun t _ => Or.inr rfl⟩
  rcases fp.keys K A hA with h1 | h1
  · exact Nat.le_succ_of_le (Nat.le_of_eq h1)
  · cases h1

end Ssv.Duties
