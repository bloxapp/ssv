/- The end of the attester's ticker branch only removes descriptors. -/
import Ssv.Proofs.DutiesLatest

namespace Ssv.Duties

theorem attPost_sub (n : Net) (st : HState) (slot : Nat) : ∀ e ∈ (attPost n st slot).store, e ∈ st.store := by
  intro e he
  rw [attPost_eq] at he
  simp only at he
  split at he
  · exact (mem_reset.mp he).1
  · exact he

end Ssv.Duties
