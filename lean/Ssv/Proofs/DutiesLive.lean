/- "Exactly once if fetched", the part common to the handlers: the monitor, coverage `Cov` of the obligations by the
   store, the effect of one `execs` atom, of one fetch (`FetchPost`) and of `processFetching`; the induction over a
   run; and, for the two handlers that fetch one epoch (period) ahead, the invariant `TInv` with the lemmas about
   ticks and notices that do not depend on the handler. -/
import Ssv.Proofs.DutiesSafety

namespace Ssv.Duties

/-- fold of the exactly-once monitor over a list of atoms -/
def drun (k : Kind) (n : Net) (m : DMon) (as : List Atom) : DMon := as.foldl (DMon.step k n) m

theorem drun_append (k : Kind) (n : Net) (m : DMon) (a b : List Atom) :
    drun k n m (a ++ b) = drun k n (drun k n m a) b := List.foldl_append ..
@[simp] theorem drun_nil (k : Kind) (n : Net) (m : DMon) : drun k n m [] = m := rfl
@[simp] theorem drun_cons (k : Kind) (n : Net) (m : DMon) (a : Atom) (l : List Atom) :
    drun k n m (a :: l) = drun k n (DMon.step k n m a) l := rfl

/-- the obligations after a successful fetch for `p`: none for `p` if two duties of the answer share a key -/
theorem DMon.step_fetch_ok_due (k : Kind) (n : Net) (m : DMon) (p arg : Nat) (c : List Nat) (ds : List Duty) (K : Nat) :
    (DMon.step k n m (.fetch p arg (.ok c ds))).due K =
      if K = p then (if wfAssign k ds then some (assigned k c ds) else none) else m.due K := rfl

/-- last tick after an event -/
def ltAfter (lt : Option Nat) : Event → Option Nat
  | .tick s _ _ _ => some s
  | _ => lt

/-- largest slot carried by an event so far -/
def nowAfter (now : Nat) : Event → Nat
  | .tick s _ _ _ => s
  | .reorg s _ _ => max now s
  | .indices c => max now c

/-- `t` can be the slot of the next tick -/
def Cand (lt : Option Nat) (now t : Nat) : Prop := (∀ t0, lt = some t0 → t0 < t) ∧ now ≤ t

theorem Cand.mono {lt : Option Nat} {now now' t : Nat} (h : Cand lt now' t) (hle : now ≤ now') : Cand lt now t :=
  ⟨h.1, Nat.le_trans hle h.2⟩

theorem envOK_cons {lt : Option Nat} {now : Nat} {e : Event} {es : List Event} (h : envOK lt now (e :: es) = true) :
    (∀ s c r1 r2, e = .tick s c r1 r2 → Cand lt now s) ∧ envOK (ltAfter lt e) (nowAfter now e) es = true := by
  cases e with
  | tick s c r1 r2 =>
    simp only [envOK, Bool.and_eq_true, decide_eq_true_eq] at h
    obtain ⟨⟨hlt, hnow⟩, hrest⟩ := h
    refine ⟨?_, hrest⟩
    intro s' c' a b heq
    cases heq
    refine ⟨?_, hnow⟩
    intro t ht
    subst ht
    simpa using hlt
  | reorg s p c => exact ⟨fun _ _ _ _ hh => (nomatch hh), h⟩
  | indices c => exact ⟨fun _ _ _ _ hh => (nomatch hh), h⟩

theorem ticksIncreasing_of_envOK (es : List Event) : ∀ (lt : Option Nat) (now : Nat), envOK lt now es = true →
    ticksIncreasing lt es = true := by
  induction es with
  | nil => intro _ _ _; rfl
  | cons e es ih =>
    intro lt now h
    cases e with
    | tick s c r1 r2 =>
      simp only [envOK, Bool.and_eq_true] at h
      obtain ⟨⟨hlt, _⟩, hrest⟩ := h
      simp only [ticksIncreasing, Bool.and_eq_true]
      exact ⟨hlt, ih _ _ hrest⟩
    | reorg s p c => exact ih _ _ h
    | indices c => exact ih _ _ h

/-- an invariant of (state, monitor, last tick, largest slot, `lastTickEpoch`) that every step keeps — a tick under
    the condition `envOK` puts on its slot — keeps the monitor happy over the run -/
theorem exactly_runFrom (k : Kind) (n : Net) (I : HState → DMon → Option Nat → Nat → Option Nat → Prop)
    (hok : ∀ {st m lt now le}, I st m lt now le → m.ok = true)
    (hstep : ∀ {rs : RState} {m lt now} (e : Event), I rs.st m lt now rs.le →
      (∀ s c r1 r2, e = .tick s c r1 r2 → Cand lt now s) →
      I (step k n rs e).1.st (drun k n m (step k n rs e).2) (ltAfter lt e) (nowAfter now e) (step k n rs e).1.le) :
    ∀ (evs : List Event) (rs : RState) (m : DMon) (lt : Option Nat) (now : Nat),
      I rs.st m lt now rs.le → envOK lt now evs = true → (drun k n m (runFrom k n rs evs)).ok = true := by
  intro evs
  induction evs with
  | nil => intro rs m lt now h _; exact hok h
  | cons e es ih =>
    intro rs m lt now h henv
    obtain ⟨htick, henv'⟩ := envOK_cons henv
    rw [runFrom, drun_append]
    exact ih _ _ _ _ (hstep e h htick) henv'

theorem exactlyOnceOK_run (k : Kind) (n : Net) (clock0 : Nat) (r0 : FetchRes) (evs : List Event) :
    exactlyOnceOK k n (run k n clock0 r0 evs) =
      (drun k n (drun k n DMon.init (initH k n clock0 r0).2) (runFrom k n (initH k n clock0 r0).1 evs)).ok := by
  rw [exactlyOnceOK, run, ← drun, drun_append]

/-- the descriptor the store must hold for an owed duty -/
def covEntry (k : Kind) (K : Nat) (d : Duty) : Entry := ⟨K, (dkey k d).1, d.vidx, d.tag, true⟩

/-- every duty owed for epoch (period) `K` is in the store -/
def Cov (k : Kind) (s : Store) (m : DMon) (K : Nat) : Prop :=
  ∀ A, m.due K = some A → ∀ d ∈ A, covEntry k K d ∈ s

theorem Cov.of_none {k : Kind} {s : Store} {m : DMon} {K : Nat} (h : m.due K = none) : Cov k s m K := by
  intro A hA; rw [h] at hA; cases hA

theorem Cov.of_due_eq {k : Kind} {s : Store} {m m' : DMon} {K : Nat} (h : Cov k s m K) (hd : m'.due = m.due) :
    Cov k s m' K := by
  intro A hA; rw [hd] at hA; exact h A hA

theorem Cov.reset {k : Kind} {s : Store} {m : DMon} {K : Nat} (h : Cov k s m K) {ep : Nat} (hne : ep ≠ K) :
    Cov k (s.reset ep) m K :=
  fun A hA d hd => mem_reset.mpr ⟨h A hA d hd, fun heq => hne heq.symm⟩

theorem Cov.ite {k : Kind} {s1 s2 : Store} {m : DMon} {K : Nat} {c : Prop} [Decidable c] (h1 : c → Cov k s1 m K)
    (h2 : ¬c → Cov k s2 m K) : Cov k (if c then s1 else s2) m K :=
  ite_elim (P := fun x => Cov k x m K) h1 h2

theorem Cov.of_dueLe {k : Kind} {s : Store} {m : DMon} {B K : Nat} (h : ∀ K A, m.due K = some A → K ≤ B)
    (hK : B < K) : Cov k s m K :=
  fun A hA => absurd (h K A hA) (Nat.not_le_of_lt hK)

theorem inWindow_self (k : Kind) (n : Net) (slot : Nat) : inWindow k n slot slot = true := by
  cases k <;> simp [inWindow, attShouldExecute, propShouldExecute]

/-- an owed duty the monitor asks for at `slot` — any sync-committee duty, otherwise a duty of this slot — is
    dispatched when the clock equals the slot: its descriptor is in the store and passes `sel`, and the duty
    dispatched for it, `⟨slot, d.vidx, d.tag⟩`, pays for `d` -/
theorem owed_dispatched {k : Kind} {n : Net} {slot : Nat} {s : Store} {d : Duty}
    (hin : covEntry k (keyOf k n slot) d ∈ s) (hs : isSync k = true ∨ (isSync k = false ∧ d.slot = slot)) :
    (execDuties k n slot slot s).any (fun x => sameDuty k x d && x.slot == slot) = true := by
  rw [List.any_eq_true]
  refine ⟨⟨slot, d.vidx, d.tag⟩, mem_execDuties.mpr ⟨_, hin,
    sel_iff.mpr ⟨rfl, rfl, hs.imp_right fun h => ?_, inWindow_self k n slot⟩, rfl⟩, ?_⟩
  · show (if isSync k = true then 0 else d.slot) = slot
    rw [h.1]; exact h.2
  · rw [Bool.and_eq_true, sameDuty, Bool.and_eq_true, Bool.and_eq_true, Bool.or_eq_true]
    exact ⟨⟨⟨beq_self_eq_true _, beq_self_eq_true _⟩, hs.imp_right fun h => beq_iff_eq.mpr h.2.symm⟩,
      beq_self_eq_true _⟩

/-- an `execs` atom passes the monitor if the tick's epoch (period) is covered whenever the clock equals the slot;
    the obligations do not change -/
theorem exec_dstep (k : Kind) (n : Net) (slot clock : Nat) {s : Store} {m : DMon} (hok : m.ok = true)
    (hc : clock = slot → Cov k s m (keyOf k n slot)) :
    (DMon.step k n m (execAtom k n slot clock s)).ok = true ∧ (DMon.step k n m (execAtom k n slot clock s)).due = m.due := by
  rw [execAtom, DMon.step]
  by_cases heq : clock = slot
  · subst heq
    rw [if_pos rfl]
    refine ⟨?_, rfl⟩
    show (m.ok && _) = true
    rw [hok, Bool.true_and]
    cases hA : m.due (keyOf k n clock) with
    | none => rfl
    | some A =>
      show List.all A _ = true
      rw [List.all_eq_true]
      intro d hd
      have hin := hc rfl A hA d hd
      show ((!isSync k && d.slot != clock) || _) = true
      rw [Bool.or_eq_true]
      cases hsy : isSync k
      · by_cases hds : d.slot = clock
        · exact Or.inr (owed_dispatched hin (Or.inr ⟨hsy, hds⟩))
        · exact Or.inl (bne_iff_ne.mpr hds)
      · exact Or.inr (owed_dispatched hin (Or.inl hsy))
  · rw [if_neg heq]
    exact ⟨hok, rfl⟩

/-- what one `fetchAndProcessDuties` for `p` does to store and obligations -/
structure FetchPost (k : Kind) (s s' : Store) (m m' : DMon) (p : Nat) (failed : Bool) : Prop where
  okeq : m'.ok = m.ok
  covp : Cov k s' m' p
  covo : ∀ K, K ≠ p → Cov k s m K → Cov k s' m' K
  keys : ∀ K A, m'.due K = some A → K = p ∨ m.due K = some A
  void : failed = true → ∀ K, m'.due K = none

theorem fetch_post (k : Kind) (n : Net) (s : Store) (m : DMon) (p arg : Nat) (r : FetchRes) :
    FetchPost k s (fetchStore k s p r) m (DMon.step k n m (.fetch p arg r)) p r.failed := by
  have hvoid : ∀ m' : DMon, m'.ok = m.ok → (∀ K, m'.due K = none) → FetchPost k s s m m' p r.failed := fun m' h1 hv =>
    ⟨h1, Cov.of_none (hv p), fun K _ _ => Cov.of_none (hv K), fun K A h => (by rw [hv K] at h; cases h), fun _ => hv⟩
  cases r with
  | noIdx => exact hvoid _ rfl fun _ => rfl
  | fail => exact hvoid _ rfl fun _ => rfl
  | ok c ds =>
    refine ⟨rfl, fun A hA d hd => ?_, fun K hK hcov A hA d hd => ?_, fun K A h => ?_, fun h => nomatch h⟩
    · -- the answer is stored: its keys are pairwise distinct, so no descriptor is overwritten by a later one
      rw [DMon.step_fetch_ok_due, if_pos rfl] at hA
      by_cases hwf : wfAssign k ds = true
      · rw [if_pos hwf] at hA
        cases hA
        obtain ⟨hd0, hin⟩ := (mem_assigned p).mp hd
        rw [covEntry, ← hin]
        exact mem_addAll_self (s := s.reset p) (mkEntry k p c) (dkey k)
          (fun d d' hk => by obtain ⟨_, hslot, hvidx⟩ := sameKey_iff.mp hk; exact Prod.ext hslot hvidx) ds
          (of_decide_eq_true hwf) d hd0
      · rw [if_neg hwf] at hA
        cases hA
    · -- descriptors of other epochs survive the reset and are not overwritten
      rw [DMon.step_fetch_ok_due, if_neg hK] at hA
      exact mem_addAll_of_mem _ _ (mem_reset.mpr ⟨hcov A hA d hd, hK⟩) fun d' _ =>
        sameKey_false_iff.mpr fun hh => hK hh.1
    · rw [DMon.step_fetch_ok_due] at h
      by_cases heq : K = p
      · exact Or.inl heq
      · rw [if_neg heq] at h
        exact Or.inr h

/-- what `nextPart` does: if it fetches, `E + 1` is covered afterwards; if not, nothing changes -/
structure NextPost (k : Kind) (st st' : HState) (m m' : DMon) (E : Nat) : Prop where
  okeq : m'.ok = m.ok
  covn : Cov k st.store m (E + 1) ∨ st.fetchNext = true → Cov k st'.store m' (E + 1) ∨ st'.fetchNext = true
  covo : ∀ K, K ≠ E + 1 → Cov k st.store m K → Cov k st'.store m' K
  keys : ∀ K A, m'.due K = some A → K = E + 1 ∨ m.due K = some A
  ff : st'.fetchFirst = st.fetchFirst
  ic : st'.indicesChanged = st.indicesChanged

theorem nextPart_post (k : Kind) (n : Net) (g : Bool) (arg : Nat → Nat) (st : HState) (m : DMon) (E : Nat) (r : FetchRes) :
    NextPost k st (nextPart k g arg st E r).1 m (drun k n m (nextPart k g arg st E r).2) E := by
  have fp := fetch_post k n st.store m (E + 1) (arg (E + 1)) r
  exact ite_elim (P := fun x : HState × List Atom => NextPost k st x.1 m (drun k n m x.2) E)
    (fun _ => ⟨fp.okeq, fun _ => Or.inl fp.covp, fp.covo, fp.keys, rfl, rfl⟩)
    fun _ => ⟨rfl, id, fun _ _ h => h, fun _ _ h => Or.inr h, rfl, rfl⟩

/-- what `processFetching` for `E` does -/
structure PFPost (k : Kind) (st st' : HState) (m m' : DMon) (E : Nat) : Prop where
  okeq : m'.ok = m.ok
  covp : st.fetchCur = true ∨ Cov k st.store m E → Cov k st'.store m' E
  covn : Cov k st.store m (E + 1) ∨ st.fetchNext = true → Cov k st'.store m' (E + 1) ∨ st'.fetchNext = true
  keys : ∀ K A, m'.due K = some A → K = E ∨ K = E + 1 ∨ m.due K = some A
  ff : st'.fetchFirst = st.fetchFirst
  ic : st'.indicesChanged = st.indicesChanged

theorem pfetch_post (k : Kind) (n : Net) (g : Bool) (arg : Nat → Nat) (st : HState) (m : DMon) (E : Nat) (r1 r2 : FetchRes) :
    PFPost k st (pfetch k g arg st E r1 r2).1 m (drun k n m (pfetch k g arg st E r1 r2).2) E := by
  have fp := fetch_post k n st.store m E (arg E) r1
  refine ite_elim (P := fun x : HState × List Atom => PFPost k st x.1 m (drun k n m x.2) E)
    (fun _ => ite_elim (P := fun x : HState × List Atom => PFPost k st x.1 m (drun k n m x.2) E) (fun hf => ?_) fun _ => ?_)
    fun hfc => ?_
  · -- the fetch of the current epoch failed: every obligation is void
    have hv := fp.void hf
    exact ⟨fp.okeq, fun _ => Cov.of_none (hv _), fun _ => Or.inl (Cov.of_none (hv _)),
      fun K A h => (by rw [drun_cons, drun_nil, hv K] at h; cases h), rfl, rfl⟩
  · have np := nextPart_post k n g arg { st with store := fetchStore k st.store E r1, fetchCur := false }
      (DMon.step k n m (.fetch E (arg E) r1)) E r2
    refine ⟨np.okeq.trans fp.okeq, fun _ => np.covo E (Nat.succ_ne_self E).symm fp.covp,
      fun h => np.covn (h.imp_left (fp.covo (E + 1) (Nat.succ_ne_self E))), fun K A h => ?_, np.ff, np.ic⟩
    rcases np.keys K A h with h | h
    · exact Or.inr (Or.inl h)
    · exact (fp.keys K A h).imp_right Or.inr
  · have np := nextPart_post k n g arg st m E r1
    exact ⟨np.okeq, fun h => np.covo E (Nat.succ_ne_self E).symm (h.resolve_left hfc), np.covn,
      fun K A h => Or.inr (np.keys K A h), np.ff, np.ic⟩

/-- flags and obligations of a handler that fetches one epoch (period) ahead -/
structure TBase (k : Kind) (n : Net) (st : HState) (m : DMon) (now : Nat) : Prop where
  ok : m.ok = true
  firstCur : st.fetchFirst = true → st.fetchCur = true
  /-- only the attester's ticker branch resets the current epoch on `indicesChanged` -/
  indicesCur : k = .att → st.indicesChanged = true → st.fetchCur = true
  dueLe : ∀ K A, m.due K = some A → K ≤ keyOf k n now + 1

/-- between two events: `lt` = slot of the last tick, `now` = largest slot carried by an event so far, `le` = the
    handler's `lastTickEpoch` (`lastTickPeriod`) -/
structure TInv (k : Kind) (n : Net) (st : HState) (m : DMon) (lt : Option Nat) (now : Nat) (le : Option Nat) : Prop
    extends TBase k n st m now where
  /-- the epoch (period) of a possible next tick is covered, unless that tick fetches before it executes
      (`fetchFirst`, or — first tick of a new epoch with `fetchNext` set — the first-tick block) -/
  curCovered : ∀ t, Cand lt now t → st.fetchFirst = true ∨ (st.fetchNext = true ∧ le ≠ some (keyOf k n t)) ∨
    Cov k st.store m (keyOf k n t)
  /-- the epoch after it is covered, unless its (re-)fetch is still pending -/
  nextCovered : ∀ t, Cand lt now t → Cov k st.store m (keyOf k n t + 1) ∨ st.fetchNext = true

/-- what the ticker branch of tick `t0` needs of the state it starts in -/
structure TickPre (k : Kind) (n : Net) (st : HState) (m : DMon) (now t0 : Nat) : Prop extends TBase k n st m now where
  hnow : now ≤ t0
  curCovered : st.fetchFirst = true ∨ Cov k st.store m (keyOf k n t0)
  nextCovered : Cov k st.store m (keyOf k n t0 + 1) ∨ st.fetchNext = true

/-- the first-tick-of-a-new-epoch block turns case two of `curCovered` into a fetch-first tick -/
theorem TInv.tickPre {k : Kind} {n : Net} {st : HState} {m : DMon} {lt : Option Nat} {now : Nat} {le : Option Nat}
    {t0 : Nat} (h : TInv k n st m lt now le) (hc : Cand lt now t0) :
    TickPre k n (repairPre st le (keyOf k n t0)) m now t0 := by
  refine ite_elim (P := fun x => TickPre k n x m now t0) (fun hcond => ?_) fun hcond => ?_
  · simp only [Bool.and_eq_true] at hcond
    exact ⟨⟨h.ok, fun _ => rfl, fun _ _ => rfl, h.dueLe⟩, hc.2, Or.inl rfl, Or.inr hcond.2⟩
  · simp only [Bool.and_eq_true, bne_iff_ne, ne_eq, not_and] at hcond
    refine ⟨h.toTBase, hc.2, ?_, h.nextCovered t0 hc⟩
    rcases h.curCovered t0 hc with h1 | ⟨h1, h2⟩ | h1
    · exact Or.inl h1
    · exact absurd h1 (hcond h2)
    · exact Or.inr h1

/-- what the last block of the ticker branch of tick `t0` (`s` before, `s'` after) keeps.  `keep` says whether it
    keeps the descriptors of the tick's own epoch: the attester drops them at the last slot of the epoch — then the
    next tick is in a later epoch (`next`). -/
structure PostKeeps (k : Kind) (n : Net) (t0 : Nat) (keep : Prop) (s s' : HState) : Prop where
  ff : s'.fetchFirst = s.fetchFirst
  ic : s'.indicesChanged = s.indicesChanged
  fn : s.fetchNext = true → s'.fetchNext = true
  cov : ∀ m K, Cov k s.store m K → (keyOf k n t0 < K ∨ (K = keyOf k n t0 ∧ keep)) → Cov k s'.store m K
  next : ∀ t, Cand (some t0) t0 t → keyOf k n t0 < keyOf k n t ∨ (keyOf k n t = keyOf k n t0 ∧ keep)

/-- the end of a tick: the tick's epoch and the next are provided for, nothing is owed beyond them -/
theorem tick_fin (k : Kind) (n : Net) {s s' : HState} {m m' : DMon} {now t0 : Nat} {keep : Prop}
    (hpost : PostKeeps k n t0 keep s s')
    (hok : m'.ok = true) (hc0 : Cov k s.store m' (keyOf k n t0))
    (hc1 : Cov k s.store m' (keyOf k n t0 + 1) ∨ s.fetchNext = true)
    (hkeys : ∀ K A, m'.due K = some A → K = keyOf k n t0 ∨ K = keyOf k n t0 + 1 ∨ m.due K = some A)
    (hdueLe : ∀ K A, m.due K = some A → K ≤ keyOf k n now + 1) (hnow : now ≤ t0)
    (hff : s.fetchFirst = false) (hic : k = .att → s.indicesChanged = false) :
    TInv k n s' m' (some t0) t0 (some (keyOf k n t0)) := by
  have hdue : ∀ K A, m'.due K = some A → K ≤ keyOf k n t0 + 1 := by
    intro K A hA'
    rcases hkeys K A hA' with h1 | h1 | h1
    · exact h1 ▸ Nat.le_succ _
    · exact Nat.le_of_eq h1
    · exact Nat.le_trans (hdueLe K A h1) (Nat.succ_le_succ (keyOf_mono k n hnow))
  have hc1' : Cov k s'.store m' (keyOf k n t0 + 1) ∨ s'.fetchNext = true :=
    hc1.imp (fun h1 => hpost.cov _ _ h1 (Or.inl (Nat.lt_succ_self _))) hpost.fn
  refine ⟨⟨hok, fun hh => (by rw [hpost.ff, hff] at hh; cases hh),
    fun hk hh => (by rw [hpost.ic, hic hk] at hh; cases hh), hdue⟩, fun t ht => ?_, fun t ht => ?_⟩
  · rcases hpost.next t ht with h1 | h1
    · -- a later epoch: the next one (covered or pending, and `le` differs), or one with no obligation yet
      by_cases h2 : keyOf k n t = keyOf k n t0 + 1
      · rcases hc1' with h3 | h3
        · exact Or.inr (Or.inr (by rw [h2]; exact h3))
        · exact Or.inr (Or.inl ⟨h3, fun hh => Nat.ne_of_lt h1 (Option.some.inj hh)⟩)
      · exact Or.inr (Or.inr (Cov.of_dueLe hdue (Nat.lt_of_le_of_ne h1 (Ne.symm h2))))
    · exact Or.inr (Or.inr (by rw [h1.1]; exact hpost.cov _ _ hc0 (Or.inr ⟨rfl, h1.2⟩)))
  · rcases hpost.next t ht with h1 | h1
    · exact Or.inl (Cov.of_dueLe hdue (Nat.succ_lt_succ h1))
    · rw [h1.1]; exact hc1'

/-- what `pre` does at the start of a fetch-first tick: it clears `fetchFirst` (the attester: `indicesChanged` too) -/
structure PreOK (k : Kind) (st st' : HState) : Prop where
  store : st'.store = st.store
  fc : st'.fetchCur = st.fetchCur
  fn : st'.fetchNext = st.fetchNext
  ff : st'.fetchFirst = false
  ic : k = .att → st'.indicesChanged = false

/-- what `mid` does between executing and fetching at a regular tick: nothing, or (the attester after an indices
    change) it resets the tick's epoch `K` with `fetchCur` set -/
structure MidOK (k : Kind) (K : Nat) (st st' : HState) : Prop where
  ff : st'.fetchFirst = false
  fn : st'.fetchNext = st.fetchNext
  ic : k = .att → st'.indicesChanged = false
  store : (st'.store = st.store ∧ st'.fetchCur = st.fetchCur) ∨ (st'.store = st.store.reset K ∧ st'.fetchCur = true)

/-- a tick in the form `tickForm`: a fetch-first tick fetches with `fetchCur` set (`firstCur`), a regular tick
    executes on a covered epoch (`curCovered`) -/
theorem tickForm_inv (k : Kind) (n : Net) (g : Bool) (arg : Nat → Nat) (pre mid post : HState → HState) {st : HState}
    {m : DMon} {now : Nat} (t0 clock : Nat) (r1 r2 : FetchRes) (keep : Prop) (hp : TickPre k n st m now t0)
    (hpre : PreOK k st (pre st)) (hmid : st.fetchFirst = false → MidOK k (keyOf k n t0) st (mid st))
    (hpost : ∀ s, PostKeeps k n t0 keep s (post s)) :
    TInv k n (tickForm k n g arg pre mid post st (keyOf k n t0) t0 clock r1 r2).1
      (drun k n m (tickForm k n g arg pre mid post st (keyOf k n t0) t0 clock r1 r2).2) (some t0) t0
      (some (keyOf k n t0)) := by
  refine ite_elim (P := fun x : HState × List Atom =>
    TInv k n x.1 (drun k n m x.2) (some t0) t0 (some (keyOf k n t0))) (fun hff => ?_) fun hff => ?_
  · -- fetch-first tick: fetch, execute
    have pf := pfetch_post k n g arg (pre st) m (keyOf k n t0) r1 r2
    have hc0 := pf.covp (Or.inl (hpre.fc.trans (hp.firstCur hff)))
    have hc1 := pf.covn (by rw [hpre.store, hpre.fn]; exact hp.nextCovered)
    have hx := exec_dstep k n t0 clock (hp.ok ▸ pf.okeq) fun _ => hc0
    rw [drun_append, drun_cons, drun_nil]
    exact tick_fin k n (hpost _) hx.1 (hc0.of_due_eq hx.2) (hc1.imp_left fun h => h.of_due_eq hx.2)
      (fun K A hA => pf.keys K A (hx.2 ▸ hA)) hp.dueLe hp.hnow (pf.ff.trans hpre.ff) fun hk => pf.ic.trans (hpre.ic hk)
  · -- regular tick: execute, (reset on an indices change,) fetch
    have hm := hmid (Bool.eq_false_iff.mpr hff)
    have hcov := hp.curCovered.resolve_left hff
    have hx := exec_dstep k n t0 clock hp.ok fun _ => hcov
    have pf := pfetch_post k n g arg (mid st) (DMon.step k n m (execAtom k n t0 clock st.store)) (keyOf k n t0) r1 r2
    -- `mid` keeps the coverage of the next epoch; of the tick's epoch too, unless `fetchCur` is set
    have hc : ((mid st).fetchCur = true ∨ Cov k (mid st).store (DMon.step k n m (execAtom k n t0 clock st.store))
          (keyOf k n t0)) ∧
        (Cov k st.store m (keyOf k n t0 + 1) →
          Cov k (mid st).store (DMon.step k n m (execAtom k n t0 clock st.store)) (keyOf k n t0 + 1)) := by
      rcases hm.store with ⟨hs, _⟩ | ⟨hs, hfc⟩ <;> rw [hs]
      · exact ⟨Or.inr (hcov.of_due_eq hx.2), fun h => h.of_due_eq hx.2⟩
      · exact ⟨Or.inl hfc, fun h => (h.of_due_eq hx.2).reset (Nat.succ_ne_self _).symm⟩
    rw [drun_cons]
    exact tick_fin k n (hpost _) (pf.okeq.trans hx.1) (pf.covp hc.1) (pf.covn (hm.fn ▸ hp.nextCovered.imp_left hc.2))
      (fun K A hA => (pf.keys K A hA).imp_right fun h => h.imp_right fun h => hx.2 ▸ h) hp.dueLe hp.hnow
      (pf.ff.trans hm.ff) fun hk => pf.ic.trans (hm.ic hk)

/-- a notice (handled at any time: its slot may be older than the last tick) moves `now` forward and keeps monitor,
    last tick and `lastTickEpoch`: what is left to show concerns the new state -/
theorem TInv.notice {k : Kind} {n : Net} {st st' : HState} {m : DMon} {lt : Option Nat} {now now' : Nat} {le : Option Nat}
    (h : TInv k n st m lt now le) (hnow : now ≤ now') (hfirst : st'.fetchFirst = true → st'.fetchCur = true)
    (hindices : k = .att → st'.indicesChanged = true → st'.fetchCur = true)
    (hcur : ∀ t, Cand lt now' t → st'.fetchFirst = true ∨ (st'.fetchNext = true ∧ le ≠ some (keyOf k n t)) ∨
      Cov k st'.store m (keyOf k n t))
    (hnext : ∀ t, Cand lt now' t → Cov k st'.store m (keyOf k n t + 1) ∨ st'.fetchNext = true) :
    TInv k n st' m lt now' le :=
  ⟨⟨h.ok, hfirst, hindices,
    fun K A hA => Nat.le_trans (h.dueLe K A hA) (Nat.succ_le_succ (keyOf_mono k n hnow))⟩, hcur, hnext⟩

/-- a notice that only changes flags -/
theorem TInv.keep {k : Kind} {n : Net} {st st' : HState} {m : DMon} {lt : Option Nat} {now now' : Nat} {le : Option Nat}
    (h : TInv k n st m lt now le) (hnow : now ≤ now') (hs : st'.store = st.store) (hff : st'.fetchFirst = st.fetchFirst)
    (hfn : st.fetchNext = true → st'.fetchNext = true) (hfirst : st'.fetchFirst = true → st'.fetchCur = true)
    (hindices : k = .att → st'.indicesChanged = true → st'.fetchCur = true) :
    TInv k n st' m lt now' le := by
  refine h.notice hnow hfirst hindices (fun t ht => ?_) (fun t ht => ?_)
  · rw [hff, hs]
    exact (h.curCovered t (ht.mono hnow)).imp_right fun h1 => h1.imp_left fun h1 => ⟨hfn h1.1, h1.2⟩
  · rw [hs]
    exact (h.nextCovered t (ht.mono hnow)).imp_right hfn

/-- reorg(current) / indices change that announces a re-fetch of `E + 1`: `ResetEpoch(E+1)` (`Reset(period+1)`),
    `fetchNext = true`, then the late-notice block.  `s` is the state the late-notice block starts in. -/
theorem TInv.resetNext {k : Kind} {n : Net} {st s : HState} {m : DMon} {lt : Option Nat} {now now' : Nat}
    {le : Option Nat} (E : Nat) (h : TInv k n st m lt now le) (hnow : now ≤ now')
    (hs : s.store = st.store.reset (E + 1)) (hff : s.fetchFirst = st.fetchFirst) (hfn : s.fetchNext = true)
    (hfirst : s.fetchFirst = true → s.fetchCur = true)
    (hindices : k = .att → s.indicesChanged = true → s.fetchCur = true) :
    TInv k n (lateFix s le (E + 1)) m lt now' le := by
  refine ite_elim (P := fun x => TInv k n x m lt now' le) (fun _ => ?_) fun hle => ?_
  · -- late notice: the epoch that is reset is the one being ticked ⇒ fetch first
    exact h.notice hnow (fun _ => rfl) (fun _ _ => rfl) (fun t _ => Or.inl rfl) fun t _ => Or.inr hfn
  · refine h.notice hnow hfirst hindices (fun t ht => ?_) fun t _ => Or.inr hfn
    by_cases hlt : le = some (keyOf k n t)
    · -- the epoch being ticked is not the one that is reset
      rw [hff, hs]
      refine (h.curCovered t (ht.mono hnow)).imp_right fun h1 => Or.inr ?_
      rcases h1 with h1 | h1
      · exact absurd hlt h1.2
      · exact h1.reset fun heq => hle (by rw [hlt, ← heq]; exact beq_self_eq_true _)
    · exact Or.inr (Or.inl ⟨hfn, hlt⟩)

end Ssv.Duties
