/- Exactly-once-if-fetched for the attester handler, under `envOK`. -/
import Ssv.Proofs.DutiesLiveSync
import Ssv.Proofs.DutiesLatestAtt

namespace Ssv.Duties

/-- the last block of the ticker branch drops the current epoch at its last slot — after which the next tick is in
    a later epoch — and keeps every other epoch -/
theorem attPost_keeps (n : Net) (hspe : 0 < n.spe) (t0 : Nat) (s : HState) :
    PostKeeps .att n t0 (¬ (t0 % n.spe == n.spe - 1) = true) s (attPost n s t0) := by
  rw [attPost_eq]
  refine ⟨rfl, rfl, fun h => by rw [h]; exact ite_self _, fun m' K hc hK => ?_, fun t ht => ?_⟩
  · refine Cov.ite (fun hlast => hc.reset fun heq => ?_) fun _ => hc
    rcases hK with hK | hK
    · exact Nat.lt_irrefl _ (heq ▸ hK)
    · exact hK.2 hlast
  · by_cases hlast : (t0 % n.spe == n.spe - 1) = true
    · exact Or.inl (div_lt_of_last hspe (eq_of_beq hlast) (ht.1 t0 rfl))
    · exact (Nat.lt_or_eq_of_le (keyOf_mono .att n ht.2)).imp_right fun h => ⟨h.symm, hlast⟩

theorem attTick_inv (n : Net) (hspe : 0 < n.spe) {st : HState} {m : DMon} {now : Nat} (t0 clock : Nat) (r1 r2 : FetchRes)
    (hp : TickPre .att n st m now t0) :
    TInv .att n (attTick n st t0 clock r1 r2).1 (drun .att n m (attTick n st t0 clock r1 r2).2) (some t0) t0
      (some (n.epoch t0)) := by
  rw [attTick_eq]
  refine tickForm_inv .att n _ id _ _ _ t0 clock r1 r2 _ hp ⟨rfl, rfl, rfl, rfl, fun _ => rfl⟩ (fun hff => ?_)
    (attPost_keeps n hspe t0)
  -- on an indices change the epoch is reset before it is fetched again: `indicesCur`
  cases hic : st.indicesChanged
  · exact ⟨hff, rfl, fun _ => hic, Or.inl ⟨rfl, rfl⟩⟩
  · exact ⟨hff, rfl, fun _ => rfl, Or.inr ⟨rfl, hp.indicesCur rfl hic⟩⟩

theorem attReorg_inv (n : Net) {st : HState} {m : DMon} {lt : Option Nat} {now : Nat} {le : Option Nat}
    (r : Nat) (prev cur : Bool) (h : TInv .att n st m lt now le) :
    TInv .att n (attReorgN n st le r prev cur) m lt (max now r) le := by
  have hnow : now ≤ max now r := Nat.le_max_left _ _
  unfold attReorgN attReorg
  cases prev
  · cases cur
    · exact h.keep hnow rfl rfl id h.firstCur h.indicesCur
    · cases hsh : attShouldFetchNext n r
      · exact h.keep hnow rfl rfl id h.firstCur h.indicesCur
      · exact h.resetNext (n.epoch r) hnow rfl rfl rfl h.firstCur h.indicesCur
  · -- previous dependent root changed: everything is re-fetched before the next execution
    have hB : ∀ (st' : HState), st'.fetchFirst = true → st'.fetchCur = true →
        (∀ t, Cand lt (max now r) t → Cov .att st'.store m (keyOf .att n t + 1) ∨ st'.fetchNext = true) →
        TInv .att n st' m lt (max now r) le := fun st' hff hfc hb =>
      h.notice hnow (fun _ => hfc) (fun _ _ => hfc) (fun t _ => Or.inl hff) hb
    cases hsh : attShouldFetchNext n r
    · refine hB _ rfl rfl fun t ht => ?_
      have hpt := keyOf_mono .att n (Nat.le_trans (Nat.le_max_right now r) ht.2)
      exact (h.nextCovered t (ht.mono hnow)).imp_left fun h1 => h1.reset (Nat.ne_of_lt (Nat.lt_succ_of_le hpt))
    · exact hB _ rfl rfl fun t _ => Or.inr rfl

theorem attIndices_inv (n : Net) {st : HState} {m : DMon} {lt : Option Nat} {now : Nat} {le : Option Nat}
    (c : Nat) (h : TInv .att n st m lt now le) : TInv .att n (attIndicesN n st le c) m lt (max now c) le := by
  have hnow : now ≤ max now c := Nat.le_max_left _ _
  unfold attIndicesN attIndices
  cases hsh : attShouldFetchNext n c
  · exact h.keep hnow rfl rfl id (fun _ => rfl) (fun _ _ => rfl)
  · exact h.resetNext (n.epoch c) hnow rfl rfl rfl (fun _ => rfl) (fun _ _ => rfl)

theorem att_step_inv (n : Net) (hspe : 0 < n.spe) {rs : RState} {m : DMon} {lt : Option Nat} {now : Nat} (e : Event)
    (h : TInv .att n rs.st m lt now rs.le) (hc : ∀ s c r1 r2, e = .tick s c r1 r2 → Cand lt now s) :
    TInv .att n (step .att n rs e).1.st (drun .att n m (step .att n rs e).2) (ltAfter lt e) (nowAfter now e)
      (step .att n rs e).1.le := by
  cases e with
  | tick s c r1 r2 =>
    dsimp only [step]
    exact attTick_inv n hspe s c r1 r2 (h.tickPre (hc s c r1 r2 rfl))
  | reorg r p c =>
    dsimp only [step]
    exact attReorg_inv n r p c h
  | indices c =>
    dsimp only [step]
    exact attIndices_inv n c h

theorem att_exactly_run (n : Net) (hspe : 0 < n.spe) (clock0 : Nat) (r0 : FetchRes) (evs : List Event)
    (henv : envOK none clock0 evs = true) : exactlyOnceOK .att n (run .att n clock0 r0 evs) = true := by
  rw [exactlyOnceOK_run]
  exact exactly_runFrom .att n (TInv .att n) (fun h => h.ok) (att_step_inv n hspe) evs _ _ none clock0
    ⟨⟨rfl, fun _ => rfl, fun _ hh => (nomatch hh), fun K A hA => (nomatch hA)⟩, fun t _ => Or.inl rfl,
      fun t _ => Or.inr rfl⟩ henv

end Ssv.Duties
