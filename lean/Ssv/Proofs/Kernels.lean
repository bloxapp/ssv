/-
Facts about the arithmetic kernels TRANSLATED from the Go source on every run (Ssv/Gen/Kernels.lean).
If the Go arithmetic changes (e.g. `f*2+1` → `f*2`) these proofs stop checking.   Core Lean only.
-/
import Ssv.Gen.Kernels

namespace Ssv.Kernels
open Ssv.Gen

theorem valid_sizes (n : Int) : k_ValidCommitteeSize n = true ↔ (n = 4 ∨ n = 7 ∨ n = 10 ∨ n = 13) := by
  unfold k_ValidCommitteeSize
  simp only [Bool.and_eq_true, decide_eq_true_eq]
  constructor
  · rintro ⟨⟨h1, h2⟩, h3⟩
    by_cases hn : 0 ≤ n - 1
    · rw [Int.tdiv_eq_ediv_of_nonneg hn] at h2 h3
      rw [Int.tmod_eq_emod_of_nonneg hn] at h1
      omega
    · -- truncating division of a negative number is ≤ 0, against `1 ≤ f`
      have h0 : 0 ≤ (-(n - 1)).tdiv 3 := Int.tdiv_nonneg (by omega) (by decide)
      rw [Int.neg_tdiv] at h0
      omega
  · rintro (h | h | h | h) <;> subst h <;> decide

theorem quorum_values (n : Int) (h : k_ValidCommitteeSize n = true) :
    ∃ f : Int, 1 ≤ f ∧ f ≤ 4 ∧ n = 3 * f + 1 ∧ k_ComputeQuorumAndPartialQuorum n = (2 * f + 1, f + 1) := by
  rcases (valid_sizes n).1 h with h | h | h | h <;> subst h
  · exact ⟨1, by decide⟩
  · exact ⟨2, by decide⟩
  · exact ⟨3, by decide⟩
  · exact ⟨4, by decide⟩

/-- quorum intersection arithmetic: two quorums overlap in more than f members, a quorum and a
    partial quorum overlap, and a quorum never fits into the f faulty members -/
theorem quorum_intersection (n : Int) (h : k_ValidCommitteeSize n = true) :
    let q := (k_ComputeQuorumAndPartialQuorum n).1
    let p := (k_ComputeQuorumAndPartialQuorum n).2
    let f := (n - 1) / 3
    2 * q - n ≥ f + 1 ∧ q + p > n ∧ q > f ∧ q ≤ n ∧ p = f + 1 := by
  rcases (valid_sizes n).1 h with h | h | h | h <;> subst h <;> decide

/-- the round-robin leader index is a valid committee index whenever the round is at least 1 and
    height and round fit a signed 64-bit integer (what message validation guarantees before it computes it) -/
theorem leader_index_in_range (round height n : Int) (hn : 0 < n)
    (hr : 1 ≤ round) (hr' : round < 9223372036854775808 - n)
    (hh0 : 0 ≤ height) (hh : height < 9223372036854775808) :
    0 ≤ k_RoundRobinProposerIndex round height n ∧ k_RoundRobinProposerIndex round height n < n := by
  unfold k_RoundRobinProposerIndex
  have e1 : toInt64 height = height := toInt64_of_lt height hh0 hh
  have e2 : toInt64 round = round := toInt64_of_lt round (by omega) (by omega)
  simp only [e1, e2]
  have hm0 : 0 ≤ Int.tmod height n := Int.tmod_nonneg _ hh0
  have hm1 : Int.tmod height n < n := Int.tmod_lt_of_pos _ hn
  refine ⟨Int.tmod_nonneg _ ?_, Int.tmod_lt_of_pos _ hn⟩
  split <;> omega

/-- the defect repaired by `fix: message validation must not compute the round leader …`:
    for round 0 and a height that is a multiple of the committee size the index is −1 -/
theorem leader_index_round0_negative : k_RoundRobinProposerIndex 0 8 4 = -1 := by decide

/-- … and for a height beyond MaxInt64 it is negative even for round 1 -/
theorem leader_index_huge_height_negative : k_RoundRobinProposerIndex 1 18446744073709551615 4 = -1 := by decide

end Ssv.Kernels
