/-
Engine `heights` (C15), clause 1: every height seen since the last restart is at or below the controller height, and
one that equals it has its instance in the container (so `StartNewInstance` refuses it) — on full and light nodes
alike (an instance reloaded from storage is put into `StoredInstances`).
-/
import Ssv.Proofs.HeightsSeen

namespace Ssv.Heights

/-- a height that `StartNewInstance` will refuse: not above the controller height, and in the container if AT it -/
def SeenAt (c : Ctrl) (h : Nat) : Prop := h ≤ c.height ∧ (h = c.height → AtTop c)

def Seen (s : State) (seen : List Nat) : Prop := ∀ h ∈ seen, SeenAt s.c h

/-- the controller height did not go down, and if it stayed, its instance stayed in the container -/
def Grows (c c' : Ctrl) : Prop := c.height ≤ c'.height ∧ (AtTop c → c'.height = c.height → AtTop c')

section
variable {c c' : Ctrl} {st st' : Store} {s : State} {op : Op} {slot x h q : Nat} {l : Bool} {m : Msg}

theorem Grows.refl (c : Ctrl) : Grows c c := ⟨Nat.le_refl _, fun h _ => h⟩

theorem Grows.trans {a b : Ctrl} (h1 : Grows a b) (h2 : Grows b c) : Grows a c :=
  ⟨Nat.le_trans h1.1 h2.1, fun ha he =>
    have hb : b.height = a.height := Nat.le_antisymm (he ▸ h2.1) h1.1
    h2.2 (h1.2 ha hb) (he.trans hb.symm)⟩

/-- an update of one slot in place, or of the store only -/
theorem Grows.of_isSome (hh : c'.height = c.height)
    (hf : (find c'.insts c.height).isSome = (find c.insts c.height).isSome) : Grows c c' :=
  ⟨Nat.le_of_eq hh.symm, fun ha _ => by unfold AtTop at ha ⊢; rw [hh, hf]; exact ha⟩

theorem Grows.seen (g : Grows c c') (hs : SeenAt c h) : SeenAt c' h :=
  ⟨Nat.le_trans hs.1 g.1, fun he =>
    have hc : h = c.height := Nat.le_antisymm hs.1 (he ▸ g.1)
    g.2 (hs.2 hc) (he.symm.trans hc)⟩

theorem compact_grows (c : Ctrl) (h : Nat) : Grows c (compactAt c h) :=
  .of_isSome (compactAt_height c h) (compactAt_find_isSome c h _)

theorem replace_grows (c : Ctrl) (i' : Inst) : Grows c { c with insts := replaceInst i' c.insts } :=
  .of_isSome rfl (find_replaceInst_isSome i' c.insts _)

theorem processMsg_grows (inv : CInv c st) (q h : Nat) (m : Msg) (ok : Bool) :
    Grows c (processMsg q c st h m ok).1 :=
  processMsg_ind (P := fun p => Grows c p.1) q c st h m ok (.refl c)
    ⟨(uponDecided_height_ge c st h m).2, fun ha _ => (decidedBranch_topped inv.top inv.hist h m).atTop (Or.inr ha)⟩
    (.of_isSome (existingMsg_height_full q c st h m).1 (existingMsg_find_isSome q c st h m _))

theorem Move.grows (hm : Move q l c st c' st') (inv : CInv c st) :
    Grows c c' := by
  induction hm with
  | refl => exact .refl _
  | trans h1 _ ih1 ih2 => exact (ih1 inv).trans (ih2 (h1.cinv inv))
  | start slot hs => exact ⟨startNewInstance_height hs ▸ startNewInstance_le hs, fun _ _ => startNewInstance_atTop inv.top hs⟩
  | msg h m ok => exact processMsg_grows inv q h m ok
  | msgLost _ h m ok => exact processMsg_grows inv q h m ok
  | compact h => exact compact_grows _ h
  | save _ _ => exact .refl _
  | decideSave i' _ _ => exact replace_grows _ i'
  | decideOnly _ i' _ => exact replace_grows _ i'

theorem consensusStart_seen (inv : CInv s.c s.s) (h : consensusStart s op = some slot) :
    SeenAt (step s op).1.c slot := by
  obtain ⟨c', hst, hc⟩ := consensusStart_ok h
  rw [hc]
  exact ⟨Nat.le_of_eq (startNewInstance_height hst).symm, fun _ => startNewInstance_atTop inv.top hst⟩

theorem step_decidedSF_c (s : State) (h r root : Nat) (sg : List Nat) (ok via : Bool) :
    (step s (.decidedSF h r root sg ok via)).1.c = (step s (.decided h r root sg ok via)).1.c := by
  cases via <;> rfl

/-- controller after a `decided` op: `ProcessMsg`, and on the runner path compaction if it is a decided message -/
theorem step_decided_c (s : State) (h r root : Nat) (sg : List Nat) (ok via : Bool) :
    (step s (.decided h r root sg ok via)).1.c = (processMsg s.q s.c s.s h ⟨r, root, sg⟩ ok).1 ∨
    (step s (.decided h r root sg ok via)).1.c = compactAt (processMsg s.q s.c s.s h ⟨r, root, sg⟩ ok).1 h := by
  cases via
  · exact Or.inl rfl
  · show (decidedViaRunner s h ⟨r, root, sg⟩ ok).1.c = _ ∨ (decidedViaRunner s h ⟨r, root, sg⟩ ok).1.c = _
    unfold decidedViaRunner
    dsimp only
    split
    · exact Or.inr rfl
    · exact Or.inl rfl

theorem uponDecided_seen (inv : CInv c st) (h : Nat) (m : Msg) :
    SeenAt (uponDecided c st h m).1 h :=
  ⟨(uponDecided_height_ge c st h m).1, fun he =>
    (decidedBranch_topped inv.top inv.hist h m).atTop (Or.inl (he ▸ (uponDecided_height_ge c st h m).2))⟩

theorem decided_seen (inv : CInv s.c s.s) {r root : Nat} {sg : List Nat} {ok via : Bool}
    (hx : x ∈ (if ok && decide (s.q ≤ sg.length) then [h] else [])) :
    SeenAt (step s (.decided h r root sg ok via)).1.c x := by
  split at hx
  · rename_i hv
    rw [Bool.and_eq_true, decide_eq_true_eq] at hv
    rw [List.mem_singleton.mp hx, hv.1]
    rcases step_decided_c s h r root sg true via with hc | hc <;> rw [hc, processMsg_valid (m := ⟨r, root, sg⟩) _ _ _ hv.2]
    · exact uponDecided_seen inv h _
    · exact (compact_grows _ h).seen (uponDecided_seen inv h _)
  · cases hx

theorem learns_seen (inv : CInv s.c s.s) (op : Op) : Seen (step s op).1 (learns s op) := by
  intro x hx
  cases op with
  | decided h r root sg ok via => exact decided_seen inv hx
  | decidedSF h r root sg ok via => rw [step_decidedSF_c]; exact decided_seen inv hx
  | _ => exact consensusStart_seen inv (Option.mem_toList.mp hx)

/-- `StartNewInstance` accepts only a height above every such height: nothing below the controller height, and at
    it only when that height's instance is not in the container -/
theorem startNewInstance_above (hst : startNewInstance c slot = .ok c') (hx : SeenAt c x) :
    x < slot := by
  obtain ⟨h1, hnone, _⟩ := startNewInstance_ok hst
  refine Nat.lt_of_le_of_ne (Nat.le_trans hx.1 h1) (fun heq => ?_)
  have hc : x = c.height := Nat.le_antisymm hx.1 (heq ▸ h1)
  have hat := hx.2 hc
  unfold AtTop at hat
  rw [← hc, heq, hnone] at hat
  cases hat

theorem consensusStart_above (hcs : consensusStart s op = some slot)
    (hx : SeenAt s.c x) : x < slot := by
  obtain ⟨c', hst, _⟩ := consensusStart_ok hcs
  exact startNewInstance_above hst hx

theorem Seen.step {seen : List Nat} (inv : CInv s.c s.s) (hs : Seen s seen) (op : Op) :
    Seen (Heights.step s op).1 (seenStep s seen op) := by
  intro x hx
  have hcs := step_cs s op
  cases op with
  | restart f =>
    -- the seen heights are reset to the stored highest, which is what the controller resumes with
    show SeenAt (restartStep s f).1.c x
    rw [(restartStep_cs s f).1]
    cases ha : s.s.highest with
    | none => simp [seenStep, ha] at hx
    | some a =>
      have hxa : x = a.inst.height := by simpa [seenStep, ha] using hx
      exact ⟨Nat.le_of_eq (hxa.trans (loadHighest_height ha).symm), fun _ => loadHighest_atTop ha f⟩
  | _ =>
    rcases hcs with ⟨_, hf, _⟩ | hm
    · cases hf
    · rcases List.mem_append.mp hx with hx | hx
      · exact (hm.grows inv).seen (hs x hx)
      · exact learns_seen inv _ x hx

theorem Seen.runSeen {seen : List Nat} (inv : CInv s.c s.s) (hs : Seen s seen) (ops : List Op) :
    Seen (Heights.runSeen s seen ops).1 (Heights.runSeen s seen ops).2 := by
  induction ops generalizing s seen with
  | nil => exact hs
  | cons op ops ih => exact ih (inv.step op) (hs.step inv op)

end

end Ssv.Heights
