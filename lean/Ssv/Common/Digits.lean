/-
Positional encodings, least significant digit first: the `k` low digits of a number in base `b`, and the value of a
digit list. `binary.LittleEndian` on 4 and 8 bytes (both engines that read or write integers), the bits of a
bit-vector byte and the bit mask of a hex character are instances.
-/
namespace Ssv

/-- the `k` low digits of `n` in base `b`, least significant first -/
def digitsLE (b k n : Nat) : List Nat := (List.range k).map fun i => n / b ^ i % b

/-- value of a digit list, least significant first -/
def ofDigitsLE (b : Nat) (ds : List Nat) : Nat := ds.foldr (fun d acc => d + b * acc) 0

theorem digitsLE_succ (b k n : Nat) : digitsLE b (k + 1) n = n % b :: digitsLE b k (n / b) := by
  simp [digitsLE, List.range_succ_eq_map, Nat.pow_succ', Nat.div_div_eq_div_mul]

theorem length_digitsLE (b k n : Nat) : (digitsLE b k n).length = k := by
  rw [digitsLE, List.length_map, List.length_range]

theorem digitsLE_lt (b k n : Nat) (hb : 0 < b) : ∀ d ∈ digitsLE b k n, d < b :=
  List.forall_mem_map.mpr fun _ _ => Nat.mod_lt _ hb

theorem digitsLE_add (b j k n : Nat) : digitsLE b (j + k) n = digitsLE b j n ++ digitsLE b k (n / b ^ j) := by
  induction j generalizing n with
  | zero => simp [digitsLE]
  | succ j ih => rw [Nat.add_right_comm, digitsLE_succ, digitsLE_succ, ih, Nat.pow_succ', Nat.div_div_eq_div_mul]; rfl

theorem digitsLE_mod (b j n : Nat) : digitsLE b j (n % b ^ j) = digitsLE b j n := by
  induction j generalizing n with
  | zero => rfl
  | succ j ih =>
    rw [digitsLE_succ, digitsLE_succ, Nat.pow_succ', Nat.mod_mul_right_div_self, ih,
      Nat.mod_mod_of_dvd _ (Nat.dvd_mul_right b _)]

theorem ofDigitsLE_digitsLE (b k n : Nat) : ofDigitsLE b (digitsLE b k n) = n % b ^ k := by
  induction k generalizing n with
  | zero => simp [digitsLE, ofDigitsLE, Nat.mod_one]
  | succ k ih => rw [digitsLE_succ, Nat.pow_succ', Nat.mod_mul, ← ih]; rfl

theorem digitsLE_ofDigitsLE (b k : Nat) (ds : List Nat) (h : ∀ d ∈ ds, d < b) (hk : ds.length = k) :
    digitsLE b k (ofDigitsLE b ds) = ds := by
  subst hk
  induction ds with
  | nil => rfl
  | cons d ds ih =>
    obtain ⟨hd, hds⟩ := List.forall_mem_cons.mp h
    have e : ofDigitsLE b (d :: ds) = d + b * ofDigitsLE b ds := rfl
    rw [List.length_cons, digitsLE_succ, e, Nat.add_mul_mod_self_left, Nat.mod_eq_of_lt hd,
      Nat.add_mul_div_left _ _ (Nat.zero_lt_of_lt hd), Nat.div_eq_of_lt hd, Nat.zero_add, ih hds]

/-- a value that equals its own remainder modulo `b ^ k` is below `b ^ k` -/
theorem ofDigitsLE_lt (b k : Nat) (ds : List Nat) (hb : 0 < b) (h : ∀ d ∈ ds, d < b) (hk : ds.length = k) :
    ofDigitsLE b ds < b ^ k := by
  have := ofDigitsLE_digitsLE b k (ofDigitsLE b ds)
  rw [digitsLE_ofDigitsLE b k ds h hk] at this
  exact this ▸ Nat.mod_lt _ (Nat.pow_pos hb)

end Ssv
