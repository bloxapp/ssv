/-
Facts about `if … then … else …` and about `List.find?` with a key test, shared by the proof files of several engines
(the models look instances, shares and records up by `l.find? (fun y => key y == k)`, and their functions are long
chains of guards).
-/
namespace Ssv

/-- The `if` rule under a predicate. On a long chain of guards `refine ite_cases (fun h => ?_) (fun h => ?_)` is checked
    far faster than `split`, which abstracts the condition in the whole remaining term. -/
theorem ite_cases {α : Sort _} {P : α → Prop} {c : Prop} [Decidable c] {a b : α} (ha : c → P a) (hb : ¬c → P b) :
    P (if c then a else b) := by
  split
  · exact ha ‹_›
  · exact hb ‹_›

theorem ite_eq_cases {α : Sort _} {c : Prop} [Decidable c] {a b x : α} (h : (if c then a else b) = x) :
    c ∧ a = x ∨ ¬c ∧ b = x := by
  split at h
  · exact .inl ⟨‹_›, h⟩
  · exact .inr ⟨‹_›, h⟩

theorem ite_some_eq_none {α : Type _} {c : Prop} [Decidable c] {a : α} {b : Option α} :
    (if c then some a else b) = none ↔ ¬c ∧ b = none := by
  split <;> simp [*]

theorem find?_key_some {α : Type _} (key : α → Nat) {l : List α} {k : Nat} {x : α}
    (h : l.find? (fun y => key y == k) = some x) : x ∈ l ∧ key x = k :=
  ⟨List.mem_of_find?_eq_some h, by simpa using List.find?_some h⟩

theorem find?_key_cons {α : Type _} (key : α → Nat) (x : α) (xs : List α) (k : Nat) :
    (x :: xs).find? (fun y => key y == k) = if key x = k then some x else xs.find? (fun y => key y == k) := by
  by_cases h : key x = k
  · rw [if_pos h, List.find?_cons_of_pos (by simpa using h)]
  · rw [if_neg h, List.find?_cons_of_neg (by simpa using h)]

/-- with pairwise different keys, looking up the key of a member finds that member -/
theorem find?_key_of_nodup {α : Type _} (key : α → Nat) {l : List α} {x : α} (hx : x ∈ l) (hnd : (l.map key).Nodup) :
    l.find? (fun y => key y == key x) = some x := by
  induction l with
  | nil => cases hx
  | cons a l ih =>
    obtain ⟨ha, hnd⟩ := List.nodup_cons.mp hnd
    rw [find?_key_cons key]
    rcases List.mem_cons.mp hx with rfl | hx'
    · exact if_pos rfl
    · exact (if_neg fun h => ha (List.mem_map.mpr ⟨x, hx', h.symm⟩)).trans (ih hx' hnd)

theorem find?_key_map {α : Type _} (key : α → Nat) (f : α → α) (hf : ∀ x, key (f x) = key x) (l : List α) (k : Nat) :
    (l.map f).find? (fun y => key y == k) = (l.find? (fun y => key y == k)).map f := by
  induction l with
  | nil => rfl
  | cons x xs ih => simp only [List.map_cons, find?_key_cons, hf, ih]; split <;> rfl

end Ssv
